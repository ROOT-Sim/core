import RootSim.Model.Msg
import RootSim.Model.Sim
import RootSim.Proofs.MsgOrder
import RootSim.Props.C16
import RootSim.Model.GenModel
import RootSim.Model.LP
import RootSim.Proofs.LP
import RootSim.Proofs.LPSorted
import RootSim.Props.C05LP
import RootSim.Props.C01
import RootSim.Props.C01Sorted
import RootSim.Model.Heap
import RootSim.Proofs.Heap
import RootSim.Props.C15Heap
import RootSim.Model.SeqSpec
import RootSim.Model.Serial
import RootSim.Proofs.SeqSpec
import RootSim.Proofs.Serial
import RootSim.Proofs.Ref
import RootSim.Props.C10
import RootSim.Model.Spec
import RootSim.Proofs.EventOrder
import RootSim.Proofs.Spec
import RootSim.Props.PrefixUnique
import RootSim.Model.Place
import RootSim.Proofs.Place
import RootSim.Props.C14
import RootSim.Model.Stats
import RootSim.Model.StatsLoop
import RootSim.Proofs.Stats
import RootSim.Proofs.StatsLoop
import RootSim.Proofs.StatsLoopAbs
import RootSim.Proofs.StatsLoopInv
import RootSim.Props.C20
import RootSim.Model.Barrier
import RootSim.Proofs.Barrier
import RootSim.Props.C17
import RootSim.Proofs.MsgAuto
import RootSim.Proofs.MsgAutoRemote
import RootSim.Proofs.MsgId
import RootSim.Props.C06
import RootSim.Model.MQueue
import RootSim.Proofs.MQueue
import RootSim.Props.C15
import RootSim.Model.Topology
import RootSim.Proofs.Topology
import RootSim.Props.C19
import RootSim.Model.Float
import RootSim.Model.Rand
import RootSim.Proofs.RandBits
import RootSim.Proofs.Rne
import RootSim.Proofs.Xxtea
import RootSim.Proofs.Xoshiro
import RootSim.Proofs.RandApi
import RootSim.Props.C18
import RootSim.Proofs.FloatRat
import RootSim.Props.C18Rat
import RootSim.Model.Alloc
import RootSim.Proofs.AllocTree
import RootSim.Proofs.AllocMem
import RootSim.Proofs.AllocFlat
import RootSim.Proofs.AllocMM
import RootSim.Proofs.AllocCkpt
import RootSim.Proofs.AllocOps
import RootSim.Proofs.AllocInv
import RootSim.Props.C12
import RootSim.Props.C05
import RootSim.Props.C13
import RootSim.Model.Termination
import RootSim.Proofs.Termination
import RootSim.Props.C07
import RootSim.Model.Gvt
import RootSim.Proofs.ListSet
import RootSim.Proofs.Gvt
import RootSim.Props.C04
import RootSim.Model.Shutdown
import RootSim.Proofs.Fair
import RootSim.Proofs.Shutdown
import RootSim.Proofs.ShutdownMeasure
import RootSim.Proofs.ShutdownQuiet
import RootSim.Props.C08
import RootSim.Model.Wire
import RootSim.Props.C02Wire
import RootSim.Model.GvtNode
import RootSim.Proofs.GvtNodeBasic
import RootSim.Proofs.GvtNodeInv
import RootSim.Proofs.GvtNodeCount
import RootSim.Proofs.GvtNodeDrain
import RootSim.Props.C04Node
import RootSim.Model.TimeWarp
import RootSim.Proofs.TimeWarp
import RootSim.Props.C01Glue
import RootSim.Model.GvtGlobal
import RootSim.Proofs.GvtGlobal
import RootSim.Proofs.GvtGlobalInv
import RootSim.Props.C04Global
import RootSim.Model.LPFull
import RootSim.Proofs.LPFull
import RootSim.Proofs.LPFullRun
import RootSim.Props.C06LP
import RootSim.Props.C01Term
import RootSim.Model.Refine
import RootSim.Proofs.Refine
import RootSim.Props.C01Refine
import RootSim.Model.SpecV2
import RootSim.Model.TimeWarpG
import RootSim.Proofs.SpecV2
import RootSim.Proofs.TimeWarpG
import RootSim.Proofs.TimeWarpGProgress
import RootSim.Proofs.TimeWarpGProj
import RootSim.Props.C01GlueV2
import RootSim.Props.C08Term
import RootSim.Model.RandGamma
import RootSim.Proofs.RandGamma
import RootSim.Props.C18Gamma
import RootSim.Model.TimeWarpD
import RootSim.Proofs.TimeWarpD
import RootSim.Proofs.TimeWarpDProgress
import RootSim.Props.C01GlueD
import RootSim.Proofs.GenModelContract
import RootSim.Proofs.ClampTransfer
import RootSim.Props.GenModelContract
