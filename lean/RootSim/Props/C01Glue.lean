import RootSim.Proofs.TimeWarp
import RootSim.Props.PrefixUnique
/-!
# The glue (E) of C01 / C02 / C03 / C09: every reachable state of the abstract global Time Warp machine
satisfies the hypotheses of prefix uniqueness

`Model/TimeWarp.lean` defines the content-level global transition system of the optimistic runtime
(`TW.Step`: `exec` with straggler rollback and anti-messages, `annihilate`, `antiRollback`; every
scheduling and interleaving, `TW.Reachable`). Here:

* `reachable_invariant` — (I1) well-formed sorted histories and (I2) the counting invariant
  `pending + processed = sent + anti` hold in every reachable state;
* `reachable_hist` — hence, for every lower bound `g` of the time stamps of all pending messages and
  anti-messages (what a GVT value is), the histories satisfy `Spec.Hist` at `g`;
* `tw_prefix_of_sequential`, `tw_equals_sequential`, `tw_committed_prefix_of_sequential` — composition
  with prefix uniqueness (`Spec.Followable.prefix_unique`): below `g` every reachable Time Warp state
  agrees with every run of the sequential reference relation;
* `tw_quiescent_equals_sequential`, `tw_quiescent_final`, `tw_quiescent_is_sequential` — C01 "whatever
  the interleaving": a state with nothing pending is a final state of the sequential executor, and the
  same as every other final state;
* `tw_schedule_independent`, `tw_committed_monotone` — C09 / C03 at protocol level.

Model contract: `Spec.V2s M` (strict causality, existing destinations, model event types), as in
`Props/PrefixUnique.lean` (the V2-only case: `Props/C01GlueV2.lean`).
All statements hold for every model, every number of LPs, every reachable state (every number of steps,
every choice of actions), every `g`.
-/
namespace RootSim.C01Glue
open RootSim RootSim.Spec RootSim.TW

variable {σ : Type} {M : SimModel σ} {s s' : TWState} {g g' : Nat}

theorem eq_of_filter_below {a b : List Event} (h : ∀ g, a.filter (below g) = b.filter (below g)) : a = b := by
  obtain ⟨g, hg⟩ := exists_time_bound (a ++ b)
  have := h g
  rwa [filter_below_self (fun x hx => hg x (List.mem_append_left _ hx)),
    filter_below_self (fun x hx => hg x (List.mem_append_right _ hx))] at this

/-- **The invariant of Time Warp.** In every reachable state: (I1) every existing LP's history starts
with its `LP_INIT` event, continues with model events for this LP, in an order compatible with the event
order; (I2) for every event content `x`: (pending copies) + (processed, not undone copies) =
(copies sent by the not-undone handler invocations) + (outstanding anti-messages). -/
theorem reachable_invariant (V : V2s M) (hr : TW.Reachable M s) :
    (∀ ℓ, ℓ < M.nLps → (s.past ℓ).head? = some (initEv ℓ) ∧
      (∀ e ∈ (s.past ℓ).tail, e.dest = ℓ ∧ e.type < LP_INIT) ∧
      (s.past ℓ).tail.Pairwise (fun a b => Event.before b a = false)) ∧
    (∀ ℓ, M.nLps ≤ ℓ → s.past ℓ = []) ∧
    (∀ x ∈ s.pending ++ s.antis, x.dest < M.nLps ∧ x.type < LP_INIT) ∧
    (∀ x : Event,
      s.pending.count x + ((List.range M.nLps).flatMap (fun ℓ => (s.past ℓ).tail)).count x =
        (outsAll M s.past).count x + s.antis.count x) := by
  have I := reachable_inv_V2 V.toV2 hr
  refine ⟨fun ℓ hℓ => ⟨I.head ℓ hℓ, I.dest ℓ hℓ, I.sorted ℓ hℓ⟩, I.out, ?_, I.cnt⟩
  intro x hx
  rcases List.mem_append.mp hx with h | h
  · exact I.pendOk x h
  · exact I.antiOk x h

/-- **Glue (E).** Every reachable state of the optimistic machine, with every lower bound `g` of what is
still pending (messages and anti-messages), satisfies the hypotheses H1–H3 of prefix uniqueness. -/
theorem reachable_hist (V : V2s M) (hr : TW.Reachable M s)
    (hp : ∀ x ∈ s.pending, g ≤ x.t) (ha : ∀ x ∈ s.antis, g ≤ x.t) : Spec.Hist M s.past g :=
  (reachable_inv_V2 V.toV2 hr).hist hp ha

/-- … so the sequential runs can follow its histories below `g` -/
theorem reachable_followable (V : V2s M) (hr : TW.Reachable M s)
    (hp : ∀ x ∈ s.pending, g ≤ x.t) (ha : ∀ x ∈ s.antis, g ≤ x.t) : Followable M s.past g :=
  .of_V2s (reachable_hist V hr hp ha) V

/-- in a state with nothing pending and no anti-message every `g` is a lower bound -/
theorem quiescent_followable (V : V2s M) (hr : TW.Reachable M s) (hp : s.pending = [])
    (ha : s.antis = []) (g : Nat) : Followable M s.past g :=
  reachable_followable V hr (by rw [hp]; simp) (by rw [ha]; simp)

/-- below `g`, what ANY sequential run has dispatched to an LP is a prefix of what the optimistic LP
has processed and not undone -/
theorem tw_prefix_of_sequential (V : V2s M) (hr : TW.Reachable M s)
    (hp : ∀ x ∈ s.pending, g ≤ x.t) (ha : ∀ x ∈ s.antis, g ≤ x.t)
    {q : SeqState σ} (hq : Spec.Reachable M q) {ℓ : Nat} (hℓ : ℓ < M.nLps) :
    (q.disp ℓ).filter (below g) <+: (s.past ℓ).filter (below g) :=
  ((reachable_followable V hr hp ha).prefix_unique hq hℓ).1

/-- once the sequential run has nothing below `g` pending, the two sequences below `g` are EQUAL, and so
are the LP states they produce (`lpState` = fold of the handler) -/
theorem tw_equals_sequential (V : V2s M) (hr : TW.Reachable M s)
    (hp : ∀ x ∈ s.pending, g ≤ x.t) (ha : ∀ x ∈ s.antis, g ≤ x.t)
    {q : SeqState σ} (hq : Spec.Reachable M q) (hl : ∀ x ∈ q.pending, g ≤ x.t)
    {ℓ : Nat} (hℓ : ℓ < M.nLps) :
    (q.disp ℓ).filter (below g) = (s.past ℓ).filter (below g) ∧
    lpState M ℓ ((q.disp ℓ).filter (below g)) = lpState M ℓ ((s.past ℓ).filter (below g)) :=
  and_lpState_eq (((reachable_followable V hr hp ha).prefix_unique hq hℓ).2 hl)

/-- the committed part of an optimistic history is a prefix of the history itself (it is the state the LP
is, or can be rolled back to) and of the dispatch sequence of every sequential run that has passed `g` -/
theorem tw_committed_prefix_of_sequential (V : V2s M) (hr : TW.Reachable M s)
    (hp : ∀ x ∈ s.pending, g ≤ x.t) (ha : ∀ x ∈ s.antis, g ≤ x.t)
    {q : SeqState σ} (hq : Spec.Reachable M q) (hl : ∀ x ∈ q.pending, g ≤ x.t)
    {ℓ : Nat} (hℓ : ℓ < M.nLps) :
    (s.past ℓ).filter (below g) <+: s.past ℓ ∧ (s.past ℓ).filter (below g) <+: q.disp ℓ :=
  have F := reachable_followable V hr hp ha
  ⟨PrefixUnique.hist_below_prefix F.hist hℓ g, (F.phase2 hq hl).filter_prefix F.hist hℓ⟩

/-- the equality case is never vacuous: some sequential run does execute everything below `g` -/
theorem tw_sequential_run_exists (V : V2s M) (hr : TW.Reachable M s)
    (hp : ∀ x ∈ s.pending, g ≤ x.t) (ha : ∀ x ∈ s.antis, g ≤ x.t) :
    ∃ q, Spec.Reachable M q ∧ ∀ x ∈ q.pending, g ≤ x.t := by
  obtain ⟨q, hq, _, hl⟩ := (reachable_followable V hr hp ha).exists_run
  exact ⟨q, hq, hl⟩

/-- **C01, "whatever the interleaving".** In a reachable state with nothing pending and no anti-message
the statement holds for EVERY `g`: … -/
theorem tw_quiescent_equals_sequential (V : V2s M) (hr : TW.Reachable M s)
    (hp : s.pending = []) (ha : s.antis = []) (g : Nat)
    {q : SeqState σ} (hq : Spec.Reachable M q) {ℓ : Nat} (hℓ : ℓ < M.nLps) :
    (q.disp ℓ).filter (below g) <+: (s.past ℓ).filter (below g) ∧
    ((∀ x ∈ q.pending, g ≤ x.t) →
      (q.disp ℓ).filter (below g) = (s.past ℓ).filter (below g) ∧
      lpState M ℓ ((q.disp ℓ).filter (below g)) = lpState M ℓ ((s.past ℓ).filter (below g))) :=
  have h := (quiescent_followable V hr hp ha g).prefix_unique hq hℓ
  ⟨h.1, fun hl => and_lpState_eq (h.2 hl)⟩

/-- … the whole history of every LP is a prefix of the dispatch sequence of every sequential run that
has passed it (nothing pending below a `g` above all its time stamps) … -/
theorem tw_quiescent_prefix_of_sequential (V : V2s M) (hr : TW.Reachable M s)
    (hp : s.pending = []) (ha : s.antis = []) {ℓ : Nat} (hℓ : ℓ < M.nLps)
    (hg : ∀ x ∈ s.past ℓ, x.t < g)
    {q : SeqState σ} (hq : Spec.Reachable M q) (hl : ∀ x ∈ q.pending, g ≤ x.t) :
    s.past ℓ <+: q.disp ℓ ∧ s.past ℓ = (q.disp ℓ).filter (below g) := by
  have F := quiescent_followable V hr hp ha g
  have h1 := (F.phase2 hq hl).filter_prefix F.hist hℓ
  have h2 := (F.phase2 hq hl).filter_eq F.hist hℓ
  rw [filter_below_self hg] at h1 h2
  exact ⟨h1, h2.symm⟩

/-- … and every FINISHED sequential run (nothing pending at all) has dispatched exactly the optimistic
histories and ended in exactly the LP states that are the folds of the handler over them. -/
theorem tw_quiescent_final (V : V2s M) (hr : TW.Reachable M s)
    (hp : s.pending = []) (ha : s.antis = [])
    {q : SeqState σ} (hq : Spec.Reachable M q) (hqp : q.pending = []) {ℓ : Nat} (hℓ : ℓ < M.nLps) :
    q.disp ℓ = s.past ℓ ∧ q.st ℓ = lpState M ℓ (s.past ℓ) :=
  PrefixUnique.disp_and_state hq (eq_of_filter_below fun g =>
    ((quiescent_followable V hr hp ha g).prefix_unique hq hℓ).2 (by rw [hqp]; nofun))

/-- a quiescent optimistic state IS a final state of some run of the sequential executor
(so `tw_quiescent_final` is not vacuous) -/
theorem tw_quiescent_is_sequential (V : V2s M) (hr : TW.Reachable M s)
    (hp : s.pending = []) (ha : s.antis = []) :
    ∃ q, Spec.Reachable M q ∧ q.pending = [] ∧
      ∀ ℓ, ℓ < M.nLps → q.disp ℓ = s.past ℓ ∧ q.st ℓ = lpState M ℓ (s.past ℓ) := by
  obtain ⟨q, hq, hqp, hd⟩ := (reachable_inv_V2 V.toV2 hr).quiescent_sequential V hp ha
  exact ⟨q, hq, hqp, fun ℓ hℓ => PrefixUnique.disp_and_state hq (hd ℓ hℓ)⟩

/-- **C09 at protocol level (schedule / configuration independence).** Two reachable states of the
optimistic machine (different schedules, rollback patterns, annihilation orders …) with the same lower
bound `g` have, LP by LP, the same history below `g` and the same committed LP state. -/
theorem tw_schedule_independent (V : V2s M) (hr : TW.Reachable M s) (hr' : TW.Reachable M s')
    (hp : ∀ x ∈ s.pending, g ≤ x.t) (ha : ∀ x ∈ s.antis, g ≤ x.t)
    (hp' : ∀ x ∈ s'.pending, g ≤ x.t) (ha' : ∀ x ∈ s'.antis, g ≤ x.t)
    {ℓ : Nat} (hℓ : ℓ < M.nLps) :
    (s.past ℓ).filter (below g) = (s'.past ℓ).filter (below g) ∧
    lpState M ℓ ((s.past ℓ).filter (below g)) = lpState M ℓ ((s'.past ℓ).filter (below g)) :=
  and_lpState_eq ((reachable_followable V hr hp ha).history_unique
    (reachable_followable V hr' hp' ha') hℓ)

/-- **C03 at protocol level.** What is committed at a lower bound `g'` in one reachable state is a prefix
of what is committed at any larger lower bound `g` in any other reachable state (in particular in a later
state of the same run): committed events are never undone or reordered. -/
theorem tw_committed_monotone (V : V2s M) (hr : TW.Reachable M s) (hr' : TW.Reachable M s')
    (hgg : g' ≤ g)
    (hp : ∀ x ∈ s.pending, g' ≤ x.t) (ha : ∀ x ∈ s.antis, g' ≤ x.t)
    (hp' : ∀ x ∈ s'.pending, g ≤ x.t) (ha' : ∀ x ∈ s'.antis, g ≤ x.t)
    {ℓ : Nat} (hℓ : ℓ < M.nLps) :
    (s.past ℓ).filter (below g') <+: (s'.past ℓ).filter (below g) :=
  Followable.committed_prefix hgg (reachable_followable V hr hp ha)
    (reachable_followable V hr' hp' ha') hℓ

/-- the executable step functions perform exactly the steps of the relation the theorems are about -/
theorem step_function_exact {s₁ s₂ : TWState} :
    TW.Step M s₁ s₂ ↔ ∃ a, TW.step? M s₁ a = some s₂ :=
  ⟨step?_complete, fun ⟨_, h⟩ => step?_sound h⟩

/-! ### Non-vacuity -/

theorem run_reachable {as : List Action} (h : TW.run? M (TW.init M) as = some s) : TW.Reachable M s :=
  run?_reachable as TW.Reachable.init h

/-- ping-pong. LP 1 serves ball A at time 1; LP 0 optimistically processes A's return (time 2) BEFORE
ball B (time 1), LP 1 even processes the reply to that (time 3); then B arrives at LP 0 as a STRAGGLER:
the time-2 event is undone and re-queued, an anti-message for ⟨1,3,1,[1]⟩ goes out; it finds its message
processed at LP 1 (ANTI-ROLLBACK, which produces an anti-message for ⟨0,4,1,[2]⟩); that one meets its
message still queued (ANNIHILATION); then both LPs process their time-2 events. -/
def ppActs : List Action :=
  [ .exec 1 ⟨1, 1, 1, [0]⟩, .exec 0 ⟨0, 2, 1, [1]⟩, .exec 1 ⟨1, 3, 1, [1]⟩,
    .exec 0 ⟨0, 1, 1, [0]⟩,            -- the straggler
    .antiRollback 1 2,
    .annihilate ⟨0, 4, 1, [2]⟩,
    .exec 0 ⟨0, 2, 1, [1]⟩, .exec 1 ⟨1, 2, 1, [1]⟩ ]

/-- the state after `ppActs` -/
def ppS : TWState :=
  { past := fun
      | 0 => [initEv 0, ⟨0, 1, 1, [0]⟩, ⟨0, 2, 1, [1]⟩]
      | 1 => [initEv 1, ⟨1, 1, 1, [0]⟩, ⟨1, 2, 1, [1]⟩]
      | _ => []
    pending := [⟨1, 3, 1, [2]⟩, ⟨0, 3, 1, [2]⟩]
    antis := [] }

/-- what the replay computes, observed on the existing LPs -/
def obs (n : Nat) (s : TWState) : List (List Event) × List Event × List Event :=
  ((List.range n).map s.past, s.pending, s.antis)

/-- a replayed trace with an observed end state ends in a reachable state that is observed so -/
theorem run_obs {as : List Action} {n : Nat} {o : List (List Event) × List Event × List Event}
    (h : (TW.run? M (TW.init M) as).map (obs n) = some o) :
    ∃ s, TW.Reachable M s ∧ (List.range n).map s.past = o.1 ∧ s.pending = o.2.1 ∧ s.antis = o.2.2 := by
  obtain ⟨s, hs, ho⟩ := Option.map_eq_some_iff.mp h
  exact ⟨s, run_reachable hs, congrArg (·.1) ho, congrArg (·.2.1) ho, congrArg (·.2.2) ho⟩

/-- the straggler step: LP 0's optimistic time-2 event is undone and back in `pending`, and there is an
anti-message for what its invocation had sent -/
example : (TW.run? pingPong (TW.init pingPong) (ppActs.take 4)).map (obs 2) =
    some ([[initEv 0, ⟨0, 1, 1, [0]⟩], [initEv 1, ⟨1, 1, 1, [0]⟩, ⟨1, 3, 1, [1]⟩]],
          [⟨0, 4, 1, [2]⟩, ⟨0, 2, 1, [1]⟩, ⟨1, 2, 1, [1]⟩],
          [⟨1, 3, 1, [1]⟩]) := by decide +kernel

/-- the anti-rollback step: LP 1's processed ⟨1,3,1,[1]⟩ is undone and NOT re-queued, an anti-message for
its output appears -/
example : (TW.run? pingPong (TW.init pingPong) (ppActs.take 5)).map (obs 2) =
    some ([[initEv 0, ⟨0, 1, 1, [0]⟩], [initEv 1, ⟨1, 1, 1, [0]⟩]],
          [⟨0, 4, 1, [2]⟩, ⟨0, 2, 1, [1]⟩, ⟨1, 2, 1, [1]⟩],
          [⟨0, 4, 1, [2]⟩]) := by decide +kernel

/-- the annihilation step -/
example : (TW.run? pingPong (TW.init pingPong) (ppActs.take 6)).map (obs 2) =
    some ([[initEv 0, ⟨0, 1, 1, [0]⟩], [initEv 1, ⟨1, 1, 1, [0]⟩]],
          [⟨0, 2, 1, [1]⟩, ⟨1, 2, 1, [1]⟩], []) := by decide +kernel

/-- the whole trace is enabled and ends in `ppS` (on the existing LPs) -/
theorem ppActs_run : (TW.run? pingPong (TW.init pingPong) ppActs).map (obs 2) = some (obs 2 ppS) := by
  decide +kernel

example : (TW.run? pingPong (TW.init pingPong) ppActs).map (obs 2) = some (obs 2 ppS) := ppActs_run

/-- the end state is reachable and 3 is a lower bound of what is pending: the hypotheses of all the
theorems above hold with the non-trivial `g = 3` -/
theorem pp_nonvacuous : ∃ s, TW.Reachable pingPong s ∧
    (∀ x ∈ s.pending, 3 ≤ x.t) ∧ (∀ x ∈ s.antis, 3 ≤ x.t) ∧
    (s.past 0).filter (below 3) = [initEv 0, ⟨0, 1, 1, [0]⟩, ⟨0, 2, 1, [1]⟩] := by
  obtain ⟨s, hr, hpast, hpend, hanti⟩ := run_obs ppActs_run
  have hp0 : s.past 0 = ppS.past 0 := Option.some.inj (congrArg (fun l => l[0]?) hpast)
  refine ⟨s, hr, ?_, ?_, ?_⟩
  · rw [hpend]; decide +kernel
  · rw [hanti]; decide +kernel
  · rw [hp0]; decide +kernel

/-- `reachable_hist` applies -/
example : ∃ s, TW.Reachable pingPong s ∧ Hist pingPong s.past 3 := by
  obtain ⟨s, hr, hp, ha, _⟩ := pp_nonvacuous
  exact ⟨s, hr, reachable_hist PrefixUnique.pingPong_V2s hr hp ha⟩

/-- the theorems compose on the concrete state: the executable sequential run, stopped when nothing
below 3 is pending, has dispatched to every LP exactly what `ppS` holds below 3 -/
example : (∀ x ∈ (seqRunN pingPong 4).pending, 3 ≤ x.t) ∧
    ∀ ℓ < 2, ((seqRunN pingPong 4).disp ℓ).filter (below 3) = (ppS.past ℓ).filter (below 3) := by
  decide +kernel

/-- `Spec.Hist` really holds of it (checked directly, independently of the theorem) … -/
example : histCheck pingPong ppS.past 3 = true := by decide +kernel
/-- … and does NOT hold in the middle of the trace (after the straggler step) at `g = 4`: an anti-message
with time stamp 3 is outstanding, LP 1 has processed an event that nobody has sent any more; the
lower-bound hypothesis on `antis` is what excludes this -/
example : histCheck pingPong
    (fun | 0 => [initEv 0, ⟨0, 1, 1, [0]⟩] | 1 => [initEv 1, ⟨1, 1, 1, [0]⟩, ⟨1, 3, 1, [1]⟩] | _ => []) 4 =
    false := by decide +kernel

/-- fan-in (IDENTICAL events). LP 0 optimistically processes its time-2 event before its time-1 event
and notifies LP 2 (copy A of ⟨2,3,1,[]⟩), which processes it; the straggler at LP 0 produces anti-messages
for copy A and for ⟨1,3,2,[1]⟩; the latter is annihilated in the queue; LP 0 re-executes and sends copy B,
LP 2 processes it too; then the anti-message for copy A rolls LP 2 back at the FIRST of the two equal
entries (any occurrence may be chosen): both are undone, one copy is re-queued. -/
def fiActs : List Action :=
  [ .exec 1 ⟨1, 1, 2, [0]⟩, .exec 0 ⟨0, 2, 2, [1]⟩,
    .exec 2 ⟨2, 1, 1, []⟩, .exec 2 ⟨2, 1, 1, []⟩, .exec 2 ⟨2, 2, 1, []⟩, .exec 2 ⟨2, 3, 1, []⟩,
    .exec 0 ⟨0, 1, 2, [0]⟩,            -- the straggler
    .annihilate ⟨1, 3, 2, [1]⟩,
    .exec 0 ⟨0, 2, 2, [1]⟩, .exec 2 ⟨2, 3, 1, []⟩,
    .antiRollback 2 4,
    .exec 2 ⟨2, 2, 1, []⟩, .exec 1 ⟨1, 2, 2, [1]⟩ ]

def fiS : TWState :=
  { past := fun
      | 0 => [initEv 0, ⟨0, 1, 2, [0]⟩, ⟨0, 2, 2, [1]⟩]
      | 1 => [initEv 1, ⟨1, 1, 2, [0]⟩, ⟨1, 2, 2, [1]⟩]
      | 2 => [initEv 2, ⟨2, 1, 1, []⟩, ⟨2, 1, 1, []⟩, ⟨2, 2, 1, []⟩, ⟨2, 2, 1, []⟩]
      | _ => []
    pending := [⟨1, 3, 2, [2]⟩, ⟨2, 3, 1, []⟩, ⟨2, 3, 1, []⟩, ⟨0, 3, 2, [2]⟩]
    antis := [] }

/-- after the straggler: two anti-messages -/
example : ((TW.run? fanIn (TW.init fanIn) (fiActs.take 7)).map (fun s => s.antis)) =
    some [⟨2, 3, 1, []⟩, ⟨1, 3, 2, [1]⟩] := by decide +kernel

/-- before / after the anti-rollback at LP 2 -/
example : ((TW.run? fanIn (TW.init fanIn) (fiActs.take 10)).map (fun s => (s.past 2, s.antis))) =
    some ([initEv 2, ⟨2, 1, 1, []⟩, ⟨2, 1, 1, []⟩, ⟨2, 2, 1, []⟩, ⟨2, 3, 1, []⟩, ⟨2, 3, 1, []⟩],
          [⟨2, 3, 1, []⟩]) := by decide +kernel
example : ((TW.run? fanIn (TW.init fanIn) (fiActs.take 11)).map (fun s => (s.past 2, s.antis))) =
    some ([initEv 2, ⟨2, 1, 1, []⟩, ⟨2, 1, 1, []⟩, ⟨2, 2, 1, []⟩], []) := by decide +kernel

theorem fiActs_run : (TW.run? fanIn (TW.init fanIn) fiActs).map (obs 3) = some (obs 3 fiS) := by
  decide +kernel

example : (TW.run? fanIn (TW.init fanIn) fiActs).map (obs 3) = some (obs 3 fiS) := fiActs_run

theorem fi_nonvacuous : ∃ s, TW.Reachable fanIn s ∧
    (∀ x ∈ s.pending, 3 ≤ x.t) ∧ (∀ x ∈ s.antis, 3 ≤ x.t) ∧
    (s.past 2).filter (below 3) =
      [initEv 2, ⟨2, 1, 1, []⟩, ⟨2, 1, 1, []⟩, ⟨2, 2, 1, []⟩, ⟨2, 2, 1, []⟩] := by
  obtain ⟨s, hr, hpast, hpend, hanti⟩ := run_obs fiActs_run
  have hp2 : s.past 2 = fiS.past 2 := Option.some.inj (congrArg (fun l => l[2]?) hpast)
  refine ⟨s, hr, ?_, ?_, ?_⟩
  · rw [hpend]; decide +kernel
  · rw [hanti]; decide +kernel
  · rw [hp2]; decide +kernel

example : histCheck fanIn fiS.past 3 = true := by decide +kernel

/-- the sequential run agrees with `fiS` below 3, as `tw_equals_sequential` says it must -/
example : (∀ x ∈ (seqRunN fanIn 8).pending, 3 ≤ x.t) ∧
    ∀ ℓ < 3, ((seqRunN fanIn 8).disp ℓ).filter (below 3) = (fiS.past ℓ).filter (below 3) := by decide +kernel

/-- a quiescent reachable state (ping-pong stops at time 6): the hypotheses of the `tw_quiescent_*`
theorems are satisfiable, and the end state is the final state of the executable sequential run -/
def ppAll : List Action :=
  (List.range 6).flatMap (fun k =>
    [ .exec 0 ⟨0, k + 1, 1, [k]⟩, .exec 1 ⟨1, k + 1, 1, [k]⟩ ])

example : ((TW.run? pingPong (TW.init pingPong) ppAll).map
      (fun s => (s.pending, s.antis, s.past 0 == (seqRunN pingPong 12).disp 0,
        s.past 1 == (seqRunN pingPong 12).disp 1))) =
    some ([], [], true, true) ∧ (seqRunN pingPong 12).pending = [] := by decide +kernel

end RootSim.C01Glue
