import RootSim.Proofs.Refine
import RootSim.Props.C06LP
/-!
# C01 glue, LP level: the concrete LP step function REFINES the abstract Time Warp machine

CONCRETE: `LPFull.step` (`Model/LPFull.lean`) — all dispatch branches of `process_msg` (src/lp/process.c) for ONE LP, over message
ordinals, tagged history entries, a checkpoint log, flag words; the function the re-execution driver runs on every real trace.
ABSTRACT: `TW.Step` / `TW.step?` (`Model/TimeWarp.lean`) — the global content-level machine whose reachable states are proved to
agree with the sequential execution (`Props/C01Glue.lean`).

Abstraction of one LP: `Refine.absPast ev base s = (base ++ pastMsgs s.lp.hist).map ev` (committed ordinals ++ current past
entries, as contents). The simulation is proved for EVERY simulation model `M` (handler `M.handler ℓ`, initial LP state `M.init ℓ`),
every history, every checkpoint placement, every allocator choice, under

* the state invariants `LPFull.WF` (`LInv` + `SInv`) and `Refine.OInv` (the sent entries in front of a processed entry carry the
  contents of the handler's outputs there) — both preserved by every step (`step_preserves_rinv`);
* two hypotheses on the ENVIRONMENT of an `exec` step, stated as named predicates:
  `Refine.CmpOk` (what `msg_is_before` returns on the flag-word snapshot is the content order; `Refine.cmpOk_of_content`: true when
  the snapshot shows the recorded contents and no ANTI bit on the history's processed messages) and
  `Refine.CommitSafe` (the dequeued message is not before the last committed message — GVT safety, C04 — and not before the LP's
  first entry `LP_INIT`: the abstract machine never undoes the head of a history).

With these, `Driver/Run.lean`'s run-time `twPastOk` check is a theorem for the LP model (`lp_step_refines_tw`).
-/
namespace RootSim.C01Refine
open RootSim RootSim.LP RootSim.LPFull RootSim.Spec RootSim.Refine

variable {σ : Type} (M : SimModel σ) (ℓ : Nat) {ev : Nat → Event} {base : List Nat}

/-- the state-side hypotheses of the simulation -/
structure RInv (ev : Nat → Event) (look : Nat → Msg) (base : List Nat) (s : St σ) : Prop where
  wf : WF (M.handler ℓ) ev look (M.init ℓ) base s
  oinv : OInv (M.handler ℓ) ev (M.init ℓ) base s.lp

/-- **(0) the invariants are preserved by EVERY branch of `process_msg`.** `hm` as in `C06LP.step_preserves_wf`; `hal`: the
message table records, for every ordinal the allocator hands out during this step, the content sent with it. -/
theorem step_preserves_rinv {look : Nat → Msg} {remote : Nat → Bool} {alloc : Nat → Nat} {s s' : St σ} {m f : Nat}
    {acts : List Action} (hR : RInv M ℓ ev look base s)
    (hm : f % 2 = 0 → (look m).WF ∧ (look m).destT = (ev m).t ∧ (look m).rawFlags = f + 2)
    (hal : ∀ oe ∈ sends acts, ev oe.1 = oe.2)
    (hs : step (M.handler ℓ) ev look remote alloc s m f = some (s', acts)) : RInv M ℓ ev look base s' :=
  ⟨C06LP.step_preserves_wf hR.wf hm hs, step_oinv hR.wf.linv hR.wf.sinv hR.oinv hs hal⟩

/-- when `kindOf … = .exec`: exactly when the flag word is even (no ANTI bit) and no parked anti-message matches -/
theorem kindOf_exec_iff {look : Nat → Msg} {s : St σ} {m f : Nat} :
    kindOf look s m f = .exec ↔
      f % 2 = 0 ∧ (f = 0 ∨ ∀ c ∈ s.earlyAntis, keyAt look c ≠ (f + 2, (look m).mSeq)) := by
  constructor
  · intro hk
    by_cases hodd : f % 2 = 1
    · simp only [kindOf, hodd, if_true] at hk
      repeat' split at hk
      all_goals cases hk
    · refine ⟨by omega, ?_⟩
      by_cases h0 : f = 0
      · exact Or.inl h0
      · right
        simp only [kindOf, hodd, if_false, ne_eq, h0, not_false_eq_true, if_true] at hk
        split at hk
        · cases hk
        · rename_i hu
          intro c hc
          exact (earlyHit_false_iff _ _ _ _).mp ((unlinkFirst_none _ _).mp hu c hc)
  · rintro ⟨hf, hno⟩
    exact kindOf_exec_of hf hno

/-- **(1) An ordinary message: the concrete step is the abstract `exec`.** With `e = ev m` and `absPast s = hd :: T`:
the new abstract history is `keepOf e hd T ++ [e]` (= `(TW.execResult M tw ℓ e hd T).past ℓ`); the messages the step un-processes
are — in the SAME ORDER, none with the `cancelled` mark, so all re-queued — exactly `undoOf e T`; the messages that get a local or
remote anti-message are, in the SAME ORDER, exactly the outputs of the undone invocations `outsFrom … (undoOf e T)` (what
`execResult` adds to `antis`); the contents sent by the forward part are, in order, the handler's outputs in the state after the
kept history; and the new LP state is the fold over the new abstract history. -/
theorem plain_step_refines_exec {look : Nat → Msg} {remote : Nat → Bool} {alloc : Nat → Nat} {s s' : St σ} {m f : Nat}
    {acts : List Action} (hR : RInv M ℓ ev look base s) (hk : kindOf look s m f = .exec)
    (hcmp : CmpOk look ev s.lp.hist m f) (hsafe : CommitSafe ev base s.lp.hist m)
    (hs : step (M.handler ℓ) ev look remote alloc s m f = some (s', acts)) :
    ∃ hd T, absPast ev base s = hd :: T ∧
      absPast ev base s' = TW.keepOf (ev m) hd T ++ [ev m] ∧
      (unprocs acts).map (fun x => ev x.1) = TW.undoOf (ev m) T ∧ (∀ x ∈ unprocs acts, x.2 = false) ∧
      requeued ev acts = TW.undoOf (ev m) T ∧
      cancelled ev acts = outsFrom M ℓ (lpState M ℓ (TW.keepOf (ev m) hd T)) (TW.undoOf (ev m) T) ∧
      sentEvents acts = (M.handler ℓ (lpState M ℓ (TW.keepOf (ev m) hd T)) (ev m)).2 ∧
      s'.lp.st = lpState M ℓ (absPast ev base s') := by
  obtain ⟨k, _, hkc, rfl, hA, hh, _, hu, ha, hsd⟩ := plain_core hR.wf.linv hR.wf.sinv hk hs
  obtain ⟨hd, T, hP, hkeep, hundo⟩ := exec_split (base := base) hR.wf.sinv hcmp hsafe hkc
  have hst : replay (M.handler ℓ) ev (M.init ℓ) (base ++ pastMsgs (s.lp.hist.take k)) =
      lpState M ℓ (TW.keepOf (ev m) hd T) := by rw [replay_eq_lpState, hkeep]
  refine ⟨hd, T, hP, ?_, ?_, ?_, ?_, ?_, ?_, ?_⟩
  · unfold absPast
    rw [hh]
    simp only [pastMsgs_append, pastMsgs_outEntries, List.append_nil]
    rw [← List.append_assoc, List.map_append, hkeep]; rfl
  · rw [hu, List.map_map, ← hundo]; rfl
  · intro x hx
    rw [hu] at hx
    obtain ⟨y, _, rfl⟩ := List.mem_map.mp hx
    rfl
  · unfold requeued
    rw [hu, ← hundo]
    simp [List.filter_map, Function.comp_def, filter_const_true]
  · unfold cancelled
    rw [ha, ← hundo, ← hst, ← outsOf_eq_outsFrom]
    exact undone_outs hR.oinv hR.wf.sinv.last_past _ _ (List.take_append_drop k s.lp.hist).symm hA
  · unfold sentEvents
    rw [hsd, hst, List.map_snd_zip]
    simp
  · rw [(step_linv hR.wf.linv hs).st_ok, replay_eq_lpState]; rfl

/-- **(2) An anti-message for a processed message `x`: the concrete step is the abstract `antiRollback`.** `kindOf … = .antiRollback x`
covers the local anti-message with flag word 3 (`x = m`, `match_anti_msg`) and the remote anti-message whose event is found by
(id word, m_seq) (`handle_remote_anti_msg`). With `o = ev x`: `absPast s = K ++ o :: U`, `absPast s' = K`, the re-queued messages are
exactly `U` (same order; the target itself is un-processed with the `cancelled` mark and NOT re-queued), the cancelled messages are,
in the same order, `outsFrom … (o :: U)`, nothing is sent — exactly `TW.antiRollbackResult`. `K ≠ []` (the abstract action must not
remove the `LP_INIT` head) as soon as something is committed or `x` is not the first processed entry. -/
theorem anti_step_refines_antiRollback {look : Nat → Msg} {remote : Nat → Bool} {alloc : Nat → Nat} {s s' : St σ} {m f x : Nat}
    {acts : List Action} (hR : RInv M ℓ ev look base s) (hk : kindOf look s m f = .antiRollback x)
    (hs : step (M.handler ℓ) ev look remote alloc s m f = some (s', acts)) :
    ∃ K U, absPast ev base s = K ++ ev x :: U ∧ absPast ev base s' = K ∧
      (∃ us : List Nat, unprocs acts = (x, true) :: us.map (fun y => (y, false)) ∧ us.map ev = U) ∧
      requeued ev acts = U ∧
      cancelled ev acts = outsFrom M ℓ (lpState M ℓ K) (ev x :: U) ∧
      sentEvents acts = [] ∧
      s'.lp.st = lpState M ℓ K ∧
      (base ≠ [] ∨ (pastMsgs s.lp.hist).head? ≠ some x → K ≠ []) := by
  obtain ⟨A, G, B, a, hB, h1, _, hu, ha, hsd⟩ := anti_core hR.wf.linv hs hk
  refine ⟨(base ++ pastMsgs A).map ev, (pastMsgs B).map ev, ?_, ?_, ⟨pastMsgs B, hu, rfl⟩, ?_, ?_, ?_, ?_, ?_⟩
  · unfold absPast; rw [a.pastMsgs]; simp
  · unfold absPast; rw [h1]
  · unfold requeued
    rw [hu]
    simp [List.filter_map, Function.comp_def, filter_const_true]
  · unfold cancelled
    have := undone_outs hR.oinv hR.wf.sinv.last_past A (s.lp.hist.drop A.length)
      (by conv => lhs; rw [← List.take_append_drop A.length s.lp.hist, a.take]) a.ends
    rw [sentEvs, (a.undone hB).2, a.pastMsgs_drop, outsOf_eq_outsFrom, replay_eq_lpState] at this
    rw [ha]
    exact this
  · unfold sentEvents; rw [hsd]; rfl
  · rw [(step_linv hR.wf.linv hs).st_ok, h1, replay_eq_lpState]
  · intro hne hK
    obtain ⟨hb, hpa⟩ := List.append_eq_nil_iff.mp (List.map_eq_nil_iff.mp hK)
    rcases hne with hne | hne
    · exact hne hb
    · apply hne; rw [a.pastMsgs, hpa]; rfl

/-- **(3) The steps that discard: `f = 1` (anti-message of a message not processed yet), an early match
(`check_early_anti_messages`), and a remote anti-message that is parked.** The abstract history is unchanged; nothing is
un-processed, cancelled or sent: the abstract `annihilate` touches only the bags, parking is no abstract action at all. -/
theorem discard_steps_refine_annihilate {look : Nat → Msg} {remote : Nat → Bool} {alloc : Nat → Nat} {s s' : St σ} {m f : Nat}
    {acts : List Action} (hk : kindOf look s m f = .annihilate ∨ kindOf look s m f = .park)
    (hs : step (M.handler ℓ) ev look remote alloc s m f = some (s', acts)) :
    absPast ev base s' = absPast ev base s ∧ unprocs acts = [] ∧ antis acts = [] ∧
    requeued ev acts = [] ∧ cancelled ev acts = [] ∧ sentEvents acts = [] := by
  obtain ⟨h1, h2, h3, h4⟩ := discard_core hs hk
  refine ⟨by unfold absPast; rw [h1], h2, h3, ?_, ?_, ?_⟩
  · unfold requeued; rw [h2]; rfl
  · unfold cancelled; rw [h3]; rfl
  · unfold sentEvents; rw [h4]; rfl

/-! ### (4) the packaged simulation statement -/

/-- what the bags of the global abstract state must contain for the abstract action to be enabled ("the bags contain what the
concrete step consumes"), and — for `antiRollback` — that the target is not the head of the abstract history -/
def Enabled (M : SimModel σ) (ℓ : Nat) (ev : Nat → Event) (base : List Nat) (s : St σ) (tw : TWState) (m : Nat) : Kind → Prop
  | .exec => ev m ∈ tw.pending ∧ (ev m).dest = ℓ ∧ ℓ < M.nLps ∧ (ev m).type < LP_INIT
  | .annihilate => ev m ∈ tw.pending ∧ ev m ∈ tw.antis
  | .antiRollback x => ev x ∈ tw.antis ∧ (base ≠ [] ∨ (pastMsgs s.lp.hist).head? ≠ some x)
  | .park => True

/-- the abstract action of a kind -/
def Abstracts (ℓ : Nat) (ev : Nat → Event) (m : Nat) (P : List Event) : Kind → TW.Action → Prop
  | .exec, a => a = .exec ℓ (ev m)
  | .annihilate, a => a = .annihilate (ev m)
  | .antiRollback x, a => ∃ i, a = .antiRollback ℓ i ∧ P[i]? = some (ev x)
  | .park, _ => False

/-- **(4) One concrete step of LP `ℓ` is ONE action of the global abstract machine (or none, when an anti-message is parked).**
For every global abstract state `tw` whose component `ℓ` is the abstraction of the concrete LP and whose bags contain what the step
consumes: there is an abstract action `a` of the kind given by the dispatch with `TW.step? M tw a = some tw'` (for `.park`:
`tw' = tw`), and in `tw'`: the history of `ℓ` is the abstraction of the new concrete LP (this is `Sys.twPastOk` of
`Driver/Run.lean`), the other histories are untouched, `pending` = the old bag minus the consumed message plus exactly the contents
the step re-queues and sends, `antis` = the old bag minus the consumed anti-message plus exactly the contents the step cancels —
as LIST equalities (`++` in the order re-queued, then sent). -/
theorem lp_step_refines_tw {look : Nat → Msg} {remote : Nat → Bool} {alloc : Nat → Nat} {s s' : St σ} {m f : Nat}
    {acts : List Action} {tw : TWState} (hR : RInv M ℓ ev look base s)
    (hpast : tw.past ℓ = absPast ev base s)
    (hen : Enabled M ℓ ev base s tw m (kindOf look s m f))
    (henv : kindOf look s m f = .exec → CmpOk look ev s.lp.hist m f ∧ CommitSafe ev base s.lp.hist m)
    (hs : step (M.handler ℓ) ev look remote alloc s m f = some (s', acts)) :
    ∃ tw', ((kindOf look s m f = .park ∧ tw' = tw) ∨
            ∃ a, Abstracts ℓ ev m (tw.past ℓ) (kindOf look s m f) a ∧ TW.step? M tw a = some tw') ∧
      tw'.past ℓ = absPast ev base s' ∧
      (∀ j, j ≠ ℓ → tw'.past j = tw.past j) ∧
      tw'.pending = eraseO tw.pending ((kindOf look s m f).takesPending ev m) ++ requeued ev acts ++ sentEvents acts ∧
      tw'.antis = eraseO tw.antis ((kindOf look s m f).takesAnti ev m) ++ cancelled ev acts := by
  cases hk : kindOf look s m f with
  | exec =>
    rw [hk] at hen
    obtain ⟨hcmp, hsafe⟩ := henv hk
    obtain ⟨hd, T, hP, h1, _, _, h4, h5, h6, _⟩ := plain_step_refines_exec M ℓ hR hk hcmp hsafe hs
    refine ⟨TW.execResult M tw ℓ (ev m) hd T, Or.inr ⟨.exec ℓ (ev m), rfl, ?_⟩, ?_, ?_, ?_, ?_⟩
    · simp only [TW.step?, TW.exec?, hpast, hP]
      exact if_pos hen
    · simp [TW.execResult, upd, h1]
    · intro j hj; simp [TW.execResult, upd, hj]
    · simp [TW.execResult, Kind.takesPending, eraseO, h4, h6]
    · simp [TW.execResult, Kind.takesAnti, eraseO, h5]
  | annihilate =>
    rw [hk] at hen
    obtain ⟨h1, _, _, h4, h5, h6⟩ := discard_steps_refine_annihilate M ℓ (ev := ev) (base := base) (Or.inl hk) hs
    refine ⟨TW.annihilateResult tw (ev m), Or.inr ⟨.annihilate (ev m), rfl, ?_⟩, ?_, ?_, ?_, ?_⟩
    · simp only [TW.step?, TW.annihilate?]
      exact if_pos hen
    · simp [TW.annihilateResult, hpast, h1]
    · intro j _; rfl
    · simp [TW.annihilateResult, Kind.takesPending, eraseO, h4, h6]
    · simp [TW.annihilateResult, Kind.takesAnti, eraseO, h5]
  | antiRollback x =>
    rw [hk] at hen
    obtain ⟨K, U, hP, h1, _, h4, h5, h6, _, hne⟩ := anti_step_refines_antiRollback M ℓ hR hk hs
    have hKne := hne hen.2
    have hget : (tw.past ℓ)[K.length]? = some (ev x) := by rw [hpast, hP]; simp
    have hpos : 0 < K.length := List.length_pos_iff.mpr hKne
    refine ⟨TW.antiRollbackResult M tw ℓ (ev x) K U, Or.inr ⟨.antiRollback ℓ K.length, ⟨K.length, rfl, hget⟩, ?_⟩, ?_, ?_, ?_, ?_⟩
    · simp only [TW.step?, TW.antiRollback?, hget, hpos, hen.1, and_self, if_true]
      rw [hpast, hP]; simp
    · simp [TW.antiRollbackResult, upd, h1]
    · intro j hj; simp [TW.antiRollbackResult, upd, hj]
    · simp [TW.antiRollbackResult, Kind.takesPending, eraseO, h4, h6]
    · simp [TW.antiRollbackResult, Kind.takesAnti, eraseO, h5]
  | park =>
    obtain ⟨h1, _, _, h4, h5, h6⟩ := discard_steps_refine_annihilate M ℓ (ev := ev) (base := base) (Or.inr hk) hs
    refine ⟨tw, Or.inl ⟨rfl, rfl⟩, by rw [hpast, h1], fun _ _ => rfl, ?_, ?_⟩
    · simp [Kind.takesPending, eraseO, h4, h6]
    · simp [Kind.takesAnti, eraseO, h5]

/-- (4') … hence a concrete step taken in a state whose abstraction is REACHABLE leads to a state whose abstraction is reachable:
all theorems of `Props/C01Glue.lean` (agreement with the sequential execution below every lower bound of what is pending) apply
to it -/
theorem lp_step_keeps_reachable {look : Nat → Msg} {remote : Nat → Bool} {alloc : Nat → Nat} {s s' : St σ} {m f : Nat}
    {acts : List Action} {tw : TWState} (hreach : TW.Reachable M tw) (hR : RInv M ℓ ev look base s)
    (hpast : tw.past ℓ = absPast ev base s)
    (hen : Enabled M ℓ ev base s tw m (kindOf look s m f))
    (henv : kindOf look s m f = .exec → CmpOk look ev s.lp.hist m f ∧ CommitSafe ev base s.lp.hist m)
    (hs : step (M.handler ℓ) ev look remote alloc s m f = some (s', acts)) :
    ∃ tw', TW.Reachable M tw' ∧ tw'.past ℓ = absPast ev base s' ∧ (∀ j, j ≠ ℓ → tw'.past j = tw.past j) := by
  obtain ⟨tw', hstep, h1, h2, _⟩ := lp_step_refines_tw M ℓ hR hpast hen henv hs
  refine ⟨tw', ?_, h1, h2⟩
  rcases hstep with ⟨_, rfl⟩ | ⟨a, _, ha⟩
  · exact hreach
  · exact TW.Reachable.step hreach (TW.step?_sound ha)

/-! ### (5) checkpoints and fossil collection are invisible to the abstraction (stutter steps) -/

/-- a checkpoint changes neither the history nor the LP state: same abstraction, same invariants -/
theorem checkpoint_refines_stutter {look : Nat → Msg} {s : St σ} (hR : RInv M ℓ ev look base s) :
    absPast ev base { s with lp := checkpoint s.lp } = absPast ev base s ∧
    RInv M ℓ ev look base { s with lp := checkpoint s.lp } :=
  ⟨rfl, ⟨checkpoint_inv hR.wf.linv, ⟨hR.wf.sinv.sorted, hR.wf.sinv.bound_ok, hR.wf.sinv.last_past, hR.wf.sinv.wf⟩⟩, hR.oinv⟩

/-- fossil collection moves a prefix of the history to the committed part: the abstraction is unchanged, and the output invariant
continues to hold on top of the larger committed base when the kept checkpoint sits at a group boundary (checkpoints are taken
between two `process_msg` calls, i.e. right after a processed entry) -/
theorem fossil_refines_stutter {s : St σ} {t : Nat → Nat} {gvt ep : Nat} {o : FossilOut σ}
    (hL : LInv (M.handler ℓ) ev (M.init ℓ) base s.lp) (ho : fossil t s.lp gvt ep = some o) :
    absPast ev (base ++ pastMsgs o.dropped) { s with lp := o.lp } = absPast ev base s ∧
    LInv (M.handler ℓ) ev (M.init ℓ) (base ++ pastMsgs o.dropped) o.lp ∧
    (OInv (M.handler ℓ) ev (M.init ℓ) base s.lp → EndsPast o.dropped →
      OInv (M.handler ℓ) ev (M.init ℓ) (base ++ pastMsgs o.dropped) o.lp) := by
  obtain ⟨hh, _, _, _, hL'⟩ := fossil_inv hL t gvt ep ho
  refine ⟨?_, hL', ?_⟩
  · unfold absPast
    rw [hh, pastMsgs_append, List.append_assoc]
  · intro hO hE
    unfold OInv at hO ⊢
    rw [hh] at hO
    have := ((sentsOk_append _ _ hE _ _).mp hO).2
    rw [ite_self, ← replay_append] at this
    exact this

/-! ## Non-vacuity: the 10-entry history of `Props/C06LP.lean` (`C06LP.exS`), a straggler step and an anti step

Same state, handler, remote predicate and flag words as in `Props/C06LP.lean`. The message table is refined so that the sent entries
carry the handler's outputs (`OInv`): message 1 plays the role of the first entry (type 0: schedules nothing), 101 … 106 are the
outputs of 2, 3, 4, and 200, 201 the ordinals the allocator hands out in the straggler step. -/

open C06LP in
/-- contents: as `C06LP.exEv` on the processed messages; the sent ordinals carry the outputs of `C06LP.exH` -/
def exEv2 : Nat → Event := fun m =>
  if m = 1 then { dest := 0, t := 10, type := 0, payload := [] }
  else if m = 101 then { dest := 1, t := 25, type := 2, payload := [] }
  else if m = 102 then { dest := 7, t := 26, type := 2, payload := [] }
  else if m = 103 then { dest := 1, t := 35, type := 2, payload := [] }
  else if m = 104 then { dest := 7, t := 36, type := 2, payload := [] }
  else if m = 105 then { dest := 1, t := 45, type := 2, payload := [] }
  else if m = 106 then { dest := 7, t := 46, type := 2, payload := [] }
  else if m = 200 then { dest := 1, t := 40, type := 2, payload := [] }
  else if m = 201 then { dest := 7, t := 41, type := 2, payload := [] }
  else exEv m

/-- the snapshot of `C06LP.exLook` with the type field of the refined table -/
def exLook2 : Nat → Msg := fun m => { C06LP.exLook m with mType := (exEv2 m).type }

/-- the simulation model: every LP runs `C06LP.exH` from the empty state -/
def exM : SimModel (List Nat) := { nLps := 8, init := fun _ => [], handler := fun _ => C06LP.exH, canEnd := fun _ _ => false }

/-- a global abstract state whose LP 0 is the abstraction of `C06LP.exS`: the straggler 35 and an unrelated message are pending,
an anti-message for the content of message 2 exists -/
def exTw : TWState :=
  { past := fun j => if j = 0 then absPast exEv2 [] C06LP.exS else []
    pending := [exEv2 5, exEv2 35]
    antis := [exEv2 2] }

/-- the state satisfies the invariants of the simulation -/
theorem exS_rinv : RInv exM 0 exEv2 exLook2 [] C06LP.exS :=
  ⟨⟨⟨by decide, by decide, by decide⟩, SInv.of_checks 40 rfl (by decide) (by decide) rfl⟩, ⟨rfl, rfl, rfl, rfl, trivial⟩⟩

example : exTw.past 0 = absPast exEv2 [] C06LP.exS := rfl

/-! ### the straggler 35 (time 35, flag word 0) -/

example : kindOf exLook2 C06LP.exS 35 0 = .exec := by decide +kernel

/-- `CmpOk` through its sufficient condition: the snapshot shows the recorded contents, no ANTI bit in the history -/
theorem ex_cmpOk : CmpOk exLook2 exEv2 C06LP.exS.lp.hist 35 0 :=
  cmpOk_of_content rfl (by decide) (by decide)

theorem ex_commitSafe : CommitSafe exEv2 [] C06LP.exS.lp.hist 35 :=
  ⟨by decide, by intro b hb; simp at hb, by intro _ p hp; cases hp; decide⟩

example : Enabled exM 0 exEv2 [] C06LP.exS exTw 35 .exec := by unfold Enabled; decide

/-- the allocator hypothesis of `step_preserves_rinv` -/
example : ∀ oe ∈ sends ((step C06LP.exH exEv2 exLook2 C06LP.exRemote (fun k => 200 + k) C06LP.exS 35 0).map (·.2)).get!,
    exEv2 oe.1 = oe.2 := by decide +kernel

/-- what a concrete result looks like through the abstraction, given the bags before the step and what the action consumes -/
def absView (ev : Nat → Event) (tw : TWState) (cp ca : Option Event) (r : Option (St (List Nat) × List Action)) :=
  r.map (fun x => (absPast ev [] x.1, eraseO tw.pending cp ++ requeued ev x.2 ++ sentEvents x.2,
                   eraseO tw.antis ca ++ cancelled ev x.2))

def twView (t : Option TWState) := t.map (fun t => (t.past 0, t.pending, t.antis))

/-- **the straggler step and `TW.exec?` agree**: message 4 is undone and re-queued, its outputs 105, 106 get anti-messages, 35 is
processed after 3 and schedules two events -/
example : absView exEv2 exTw (some (exEv2 35)) none
      (step C06LP.exH exEv2 exLook2 C06LP.exRemote (fun k => 200 + k) C06LP.exS 35 0) =
    twView (TW.exec? exM exTw 0 (exEv2 35)) := by decide +kernel

example : twView (TW.exec? exM exTw 0 (exEv2 35)) =
    some ([exEv2 1, exEv2 2, exEv2 3, exEv2 35],
          [exEv2 5, exEv2 4, exEv2 200, exEv2 201],
          [exEv2 2, exEv2 105, exEv2 106]) := by decide +kernel

/-- the hypotheses of `lp_step_refines_tw` are jointly satisfiable: the theorem applied to the straggler step -/
example : (step C06LP.exH exEv2 exLook2 C06LP.exRemote (fun k => 200 + k) C06LP.exS 35 0).isSome = true ∧
    ∀ s' acts, step C06LP.exH exEv2 exLook2 C06LP.exRemote (fun k => 200 + k) C06LP.exS 35 0 = some (s', acts) →
      ∃ tw', TW.step? exM exTw (.exec 0 (exEv2 35)) = some tw' ∧ tw'.past 0 = absPast exEv2 [] s' ∧
        tw'.pending = exTw.pending.erase (exEv2 35) ++ requeued exEv2 acts ++ sentEvents acts ∧
        tw'.antis = exTw.antis ++ cancelled exEv2 acts := by
  refine ⟨by decide, ?_⟩
  intro s' acts hs
  have hk : kindOf exLook2 C06LP.exS 35 0 = .exec := by decide +kernel
  obtain ⟨tw', hstep, h1, _, h3, h4⟩ := lp_step_refines_tw exM 0 (tw := exTw) exS_rinv rfl
    (by rw [hk]; unfold Enabled; decide) (fun _ => ⟨ex_cmpOk, ex_commitSafe⟩) hs
  rw [hk] at hstep h3 h4
  rcases hstep with ⟨h0, _⟩ | ⟨a, ha, hst⟩
  · cases h0
  · cases ha
    exact ⟨tw', hst, h1, h3, h4⟩

/-! ### the local anti-message of message 2 (flag word 3) -/

example : kindOf exLook2 C06LP.exS 2 3 = .antiRollback 2 := by decide +kernel
example : Enabled exM 0 exEv2 [] C06LP.exS exTw 2 (.antiRollback 2) := by unfold Enabled; decide

/-- **the anti step and `TW.antiRollback?` (position 1 of the abstract history) agree**: 2, 3, 4 are undone, 3 and 4 re-queued,
2 is not; 101 … 106 get anti-messages; the anti-message for 2 is consumed -/
example : absView exEv2 exTw none (some (exEv2 2))
      (step C06LP.exH exEv2 exLook2 C06LP.exRemote (fun k => 200 + k) C06LP.exS 2 3) =
    twView (TW.antiRollback? exM exTw 0 1) := by decide +kernel

example : twView (TW.antiRollback? exM exTw 0 1) =
    some ([exEv2 1],
          [exEv2 5, exEv2 35, exEv2 3, exEv2 4],
          [exEv2 101, exEv2 102, exEv2 103, exEv2 104, exEv2 105, exEv2 106]) := by decide +kernel

/-- the remote anti-message 50 (flag word 41) for the processed remote event 3 is an `antiRollback` of 3 -/
example : kindOf exLook2 C06LP.exS 50 41 = .antiRollback 3 := by decide +kernel
/-- … 91, whose event has not arrived, is parked; the remote event 70 meets its parked anti-message; `f = 1` annihilates -/
example : kindOf exLook2 C06LP.exS 91 91 = .park ∧ kindOf exLook2 C06LP.exS 70 80 = .annihilate ∧
    kindOf exLook2 C06LP.exS 90 1 = .annihilate := by decide +kernel

/-! ## `CmpOk` cannot be dropped: an ANTI bit already set on a processed message changes the straggler test

`msg_is_before` reads the ANTI bit of the messages in the history (`src/lp/msg.h`), and the sender of a local message sets that bit
concurrently (`send_anti_messages`: `fetch_add(&msg->flags, MSG_FLAG_ANTI)`), before the receiver dequeues the flagged message.
In between, a message with the SAME time stamp that is before the flagged one by content is NOT recognised as a straggler: the
concrete LP processes it after the flagged message, the abstract `exec` undoes the flagged message first. (Harmless for the final
result — the pending anti-message rolls both back — but the step is not an `exec` of the content-rule machines
`Model/TimeWarp.lean` / `Model/TimeWarpG.lean`. It IS an `exec` of the machine with the code's straggler rule, `Model/TimeWarpD.lean`,
for which the end-to-end theorems are proved in `Props/C01GlueD.lean`; `Driver/Run.lean`'s shadow steps that machine with the split
point the code used.) -/

def cxEv : Nat → Event := fun m =>
  if m = 9 then { dest := 0, t := 20, type := 2, payload := [] } else { dest := 0, t := 10 * m, type := 1, payload := [] }
/-- message 2 (time 20, type 1) is processed and already flagged ANTI by its sender (flag word 3) -/
def cxLook : Nat → Msg := fun m =>
  { destT := (cxEv m).t, rawFlags := if m = 2 then 3 else 2, mType := (cxEv m).type, plSize := 0, pl := [] }
def cxS : St (List Nat) := { lp := { hist := [.past 1, .past 2], logs := [(0, [])], st := [10, 20], bound := some 20 } }
def cxM : SimModel (List Nat) := { nLps := 1, init := fun _ => [], handler := fun _ => C05LP.exH, canEnd := fun _ _ => false }
def cxTw : TWState :=
  { past := fun j => if j = 0 then absPast cxEv [] cxS else [], pending := [cxEv 9], antis := [cxEv 2] }

theorem cx_rinv : RInv cxM 0 cxEv cxLook [] cxS :=
  ⟨⟨⟨by decide, by decide, by decide⟩, SInv.of_checks 20 rfl (by decide) (by decide) rfl⟩, ⟨rfl, rfl, trivial⟩⟩

/-- message 9 (time 20, type 2: before message 2 by content) is dequeued: every hypothesis of `lp_step_refines_tw` except `CmpOk`
holds, and the concrete step keeps message 2 (`[1, 2, 9]`) where the abstract `exec` undoes it (`[1, 9]`) -/
theorem cmpOk_is_needed :
    kindOf cxLook cxS 9 0 = .exec ∧ CommitSafe cxEv [] cxS.lp.hist 9 ∧
    (cxEv 9 ∈ cxTw.pending ∧ (cxEv 9).dest = 0 ∧ 0 < cxM.nLps ∧ (cxEv 9).type < LP_INIT) ∧
    ¬ CmpOk cxLook cxEv cxS.lp.hist 9 0 ∧
    (step C05LP.exH cxEv cxLook (fun _ => false) (fun k => 100 + k) cxS 9 0).map (fun r => absPast cxEv [] r.1) =
      some [cxEv 1, cxEv 2, cxEv 9] ∧
    (TW.exec? cxM cxTw 0 (cxEv 9)).map (fun t => t.past 0) = some [cxEv 1, cxEv 9] := by
  refine ⟨by decide, ⟨by decide, by intro b hb; simp at hb, by intro _ p hp; cases hp; decide⟩, by decide, ?_, by decide,
    by decide⟩
  intro hc
  have := hc 2 (by decide)
  revert this
  decide

end RootSim.C01Refine
