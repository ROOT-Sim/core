import RootSim.Proofs.Termination
/-!
# C08, detection half: the termination protocol of `gvt/termination.c` is live

`Props/C08.lean` covers what happens AFTER termination has been decided (worker loop, drain, barriers). This file covers the step
before: a thread that has not voted yet can always vote once all its LPs are counted as done, because its `max_t` is a finite
time stamp of an event it processed — `max_t == SIMTIME_MAX` is reserved for "already voted". (A change that stores a larger value
into `max_t`, e.g. the `SIMTIME_MAX` of an LP whose predicate held at `LP_INIT`, silences the thread for ever: seeded change
`C08-maxt-poisoned-by-init-true-lp`.)

All statements: both code variants (`fix`), every number of threads / LPs, every operation sequence.
-/
namespace RootSim.C08Term
open RootSim.Term

/-- every processed event has a finite time stamp (contract V3): its key is below the key of `SIMTIME_MAX` -/
def ProcBounded : List Op → Prop
  | [] => True
  | .proc _ _ t _ :: os => t < SIMTIME_MAX ∧ ProcBounded os
  | _ :: os => ProcBounded os

/-- ghost: which threads have voted so far -/
def stepG (fix : Bool) (nNodes : Nat) (nv : Node × List Bool) (o : Op) : Option (Node × List Bool) :=
  match step fix nNodes nv.1 o with
  | none => none
  | some (n', voted) =>
    match o with
    | .gvt ti _ => some (n', if voted then nv.2.set ti true else nv.2)
    | _ => some (n', nv.2)

def runG (fix : Bool) (nNodes : Nat) : Node × List Bool → List Op → Option (Node × List Bool)
  | nv, [] => some nv
  | nv, o :: os => match stepG fix nNodes nv o with
    | none => none
    | some nv' => runG fix nNodes nv' os

theorem stepG_fst {fix : Bool} {nNodes : Nat} {nv nv' : Node × List Bool} {o : Op}
    (h : stepG fix nNodes nv o = some nv') : ∃ vt, step fix nNodes nv.1 o = some (nv'.1, vt) := by
  unfold stepG at h
  split at h
  · cases h
  · split at h <;> cases h <;> exact ⟨_, ‹_›⟩

/-- the ghost run projects onto the real one -/
theorem runG_fst (fix : Bool) (nNodes : Nat) (nv nv' : Node × List Bool) (ops : List Op)
    (h : runG fix nNodes nv ops = some nv') : run fix nNodes nv.1 ops = some nv'.1 := by
  induction ops generalizing nv with
  | nil => cases h; rfl
  | cons o os ih =>
    simp only [runG] at h
    split at h
    · cases h
    · rename_i nv1 hs
      obtain ⟨vt, hst⟩ := stepG_fst hs
      simp only [run, hst]
      exact ih nv1 h

/-- `max_t == SIMTIME_MAX` exactly for the threads that have voted; otherwise it is a finite time stamp -/
def Good (nv : Node × List Bool) : Prop :=
  nv.2.length = nv.1.thrs.length ∧
  ∀ (ti : Nat) (th : Thread), nv.1.thrs[ti]? = some th →
    th.maxT ≤ SIMTIME_MAX ∧ (th.maxT = SIMTIME_MAX ↔ nv.2[ti]? = some true)

theorem good_init (nThreads nNodes ttime : Nat) :
    Good (Node.init nThreads nNodes ttime, List.replicate nThreads false) := by
  refine ⟨by simp [Node.init], fun ti th h => ?_⟩
  cases List.eq_of_mem_replicate (List.mem_of_getElem? h)
  have hti : ti < nThreads := by simpa [Node.init] using (List.getElem?_eq_some_iff.mp h).1
  simp [Thread.init, SIMTIME_MAX, hti]

theorem Good.set {n n' : Node} {v v' : List Bool} {ti : Nat} {th' : Thread} (hg : Good (n, v))
    (e1 : SetAt ti n.thrs n'.thrs th') (hlen : v'.length = v.length) (hoff : ∀ j, ti ≠ j → v'[j]? = v[j]?)
    (h' : th'.maxT ≤ SIMTIME_MAX ∧ (th'.maxT = SIMTIME_MAX ↔ v'[ti]? = some true)) : Good (n', v') := by
  refine ⟨hlen.trans (hg.1.trans e1.len.symm), fun tj tx hx => ?_⟩
  by_cases hij : ti = tj
  · subst hij
    cases e1.at_.symm.trans hx
    exact h'
  · rw [e1.off tj hij] at hx
    rw [hoff tj hij]
    exact hg.2 tj tx hx

/-- a thread-local operation that neither raises `max_t` to `SIMTIME_MAX` nor lowers it from there -/
private theorem good_upd {n : Node} {v : List Bool} (hg : Good (n, v)) {ti : Nat} {f : Thread → Option Thread} {n' : Node}
    {vt : Bool} (hu : (updThread n ti f).map (·, false) = some (n', vt))
    (hf : ∀ th th', f th = some th' → th.maxT ≤ SIMTIME_MAX →
      th'.maxT ≤ SIMTIME_MAX ∧ (th'.maxT = SIMTIME_MAX ↔ th.maxT = SIMTIME_MAX)) : Good (n', v) := by
  obtain ⟨th, th', hth, hft, rfl⟩ := updThread_some hu
  have h1 := hg.2 ti th hth
  have h2 := hf th th' hft h1.1
  exact hg.set (SetAt.set (List.getElem?_eq_some_iff.mp hth).1 th') rfl (fun _ _ => rfl) ⟨h2.1, h2.2.trans h1.2⟩

theorem good_step (fix : Bool) (nNodes : Nat) (nv nv' : Node × List Bool) (o : Op) (hg : Good nv)
    (hb : ProcBounded [o]) (hs : stepG fix nNodes nv o = some nv') : Good nv' := by
  obtain ⟨n, v⟩ := nv
  unfold stepG at hs
  split at hs
  · cases hs
  · rename_i n1 vt hst
    cases o with
    | lpInit ti term =>
      cases hs
      exact good_upd hg hst (fun th th' h hle => by cases h; exact ⟨hle, Iff.rfl⟩)
    | proc ti i t term =>
      cases hs
      refine good_upd hg hst (fun th th' h hle => ?_)
      -- `max_t` stays or becomes `max(t, max_t)` with `t` finite
      have ht : t < SIMTIME_MAX := hb.1
      rcases onMsgProcess_maxT h with h | h <;> rw [h]
      · exact ⟨hle, Iff.rfl⟩
      · rcases Nat.le_total t th.maxT with h' | h'
        · rw [Nat.max_eq_right h']; exact ⟨hle, Iff.rfl⟩
        · rw [Nat.max_eq_left h']
          exact ⟨Nat.le_of_lt ht, fun e => absurd e (Nat.ne_of_lt ht), fun e => absurd (e ▸ h') (Nat.not_le.mpr ht)⟩
    | rb ti i s k =>
      cases hs
      exact good_upd hg hst (fun th th' h hle => by rw [onRollback_maxT h]; exact ⟨hle, Iff.rfl⟩)
    | stop => cases hs; cases hst; exact hg
    | ctrl => cases hs; cases hst; exact hg
    | gvt ti g =>
      cases hs
      obtain ⟨th, hth, ⟨_, rfl, rfl⟩ | ⟨_, rfl, hthrs, _⟩⟩ := onGvt_some hst
      · exact hg
      · -- the voting thread gets `max_t = SIMTIME_MAX` and its flag
        have hlen : ti < n.thrs.length := (List.getElem?_eq_some_iff.mp hth).1
        exact hg.set (hthrs ▸ SetAt.set hlen _) List.length_set (fun _ hij => List.getElem?_set_ne hij)
          ⟨Nat.le_refl _, fun _ => List.getElem?_set_self (hg.1 ▸ hlen), fun _ => rfl⟩

theorem procBounded_cons {o : Op} {os : List Op} (h : ProcBounded (o :: os)) : ProcBounded [o] ∧ ProcBounded os := by
  cases o <;> simp_all [ProcBounded]

theorem good_run (fix : Bool) (nNodes : Nat) (nv nv' : Node × List Bool) (ops : List Op) (hg : Good nv)
    (hb : ProcBounded ops) (hr : runG fix nNodes nv ops = some nv') : Good nv' := by
  induction ops generalizing nv with
  | nil => cases hr; exact hg
  | cons o os ih =>
    simp only [runG] at hr
    split at hr
    · cases hr
    · rename_i nv1 hs
      obtain ⟨hb1, hb2⟩ := procBounded_cons hb
      exact ih nv1 (good_step fix nNodes nv nv1 o hg hb1 hs) hb2 hr

/-- **Detection is live.** In every state reachable from `termination_global_init()` by any sequence of module operations with
finite event time stamps: a thread that has not voted has a finite `max_t`, so as soon as all its LPs are counted as done
(`lps_to_end == 0`) EVERY GVT value above `max_t` makes it vote — and such values exist below `SIMTIME_MAX`. -/
theorem detection_live (fix : Bool) (nThreads nNodes ttime : Nat) (ops : List Op) (hb : ProcBounded ops)
    (n : Node) (v : List Bool)
    (hr : runG fix nNodes (Node.init nThreads nNodes ttime, List.replicate nThreads false) ops = some (n, v))
    (ti : Nat) (th : Thread) (hth : n.thrs[ti]? = some th) (hnv : v[ti]? ≠ some true) (hdone : th.lpsToEnd = 0) :
    th.maxT < SIMTIME_MAX ∧
    ∀ g, th.maxT < g → ∃ n', onGvt n ti g = some (n', true) := by
  have hg := good_run fix nNodes _ _ ops (good_init nThreads nNodes ttime) hb hr
  have h := hg.2 ti th hth
  have hlt : th.maxT < SIMTIME_MAX := by
    rcases Nat.lt_or_ge th.maxT SIMTIME_MAX with h1 | h1
    · exact h1
    · exact absurd (h.2.mp (Nat.le_antisymm h.1 h1)) hnv
  refine ⟨hlt, fun g hgt => ?_⟩
  simp [onGvt, hth, noVote_of_done hdone hgt]

/-- conversely, `max_t == SIMTIME_MAX` only for threads that have voted -/
theorem maxT_max_iff_voted (fix : Bool) (nThreads nNodes ttime : Nat) (ops : List Op) (hb : ProcBounded ops)
    (n : Node) (v : List Bool)
    (hr : runG fix nNodes (Node.init nThreads nNodes ttime, List.replicate nThreads false) ops = some (n, v))
    (ti : Nat) (th : Thread) (hth : n.thrs[ti]? = some th) :
    th.maxT = SIMTIME_MAX ↔ v[ti]? = some true :=
  ((good_run fix nNodes _ _ ops (good_init nThreads nNodes ttime) hb hr).2 ti th hth).2

/-! non-vacuity: one thread, two LPs (one done at init), an event, a rollback of the init-true LP, then the vote -/
example : (runG true 1 (Node.init 1 1 SIMTIME_MAX, [false])
      [.lpInit 0 true, .lpInit 0 false, .proc 0 1 40 true, .rb 0 0 30 1, .gvt 0 41]).map (fun nv => (nv.2, cantEnd nv.1)) =
    some ([true], false) := by decide

end RootSim.C08Term
