import RootSim.Proofs.ShutdownQuiet
/-!
# C08 — every run returns (liveness of termination and shutdown)

"Once every LP's predicate holds on a committed state, or the GVT passes the termination time, or
RootsimStop is called, RootsimRun returns after a bounded amount of further work on every rank,
having invoked LP_FINI once per LP; it never deadlocks or spins forever in GVT, barrier or drain
code, whatever the interleaving of threads at that moment."

Model: `Model/Shutdown.lean` (single node, `no_mpi.c` build; pinned code and the proposed repairs).

* `ShutdownLiveStatement v` — the full statement for a code variant `v` (all thread counts, all fair schedules).
* `f1_counterexample`, `f10_counterexample` — it is FALSE for the pinned code, for two independent
  reasons: a reachable deadlock (F1) and a reachable fair livelock (F10).
* `Fair.fair_terminates` — (iii): progress measure + deadlock-freedom ⇒ every weakly fair run terminates. The two
  partial theorems below use its run form `Fair.fair_terminates_run` (the hypotheses only along the run itself).
* `progress_measure` — (i) for ALL thread counts (pinned drain): after the trigger every non-spin step
  decreases `measure`.
* `shutdown_live_partial_quiet` — all thread counts, under the hypothesis "no GVT round is open or started
  after the first thread observes termination": every fair run brings ALL threads out of the flush loop
  to the second barrier of the drain — the region in which F1 deadlocks is deadlock-free.
* `shutdown_live_partial` — (i)+(iii) put together for all thread counts: with the pinned drain (and no
  time-stamp-0 message left, or the F10 repair) a fair run that never gets stuck returns, having run
  `lp_fini()` exactly once per thread: there is NO livelock; the only way not to return is a deadlock,
  i.e. a failure of (ii) — which F1 shows to be reachable. Deadlock-freedom (ii) itself is the
  hypothesis; for the repaired drain it is established only by bounded model checking (compiled code,
  N ≤ 4, see the check), not by a kernel-checked proof: `DeadlockFreeStatement` is left as a statement.
-/
namespace RootSim.C08
open RootSim.Shutdown RootSim.Fair

/-- **The full statement**: from every reachable state in which termination has been decided, every
schedule that lets every thread run again and again reaches a state where every thread has returned,
and `lp_fini()` ran exactly once on every thread. -/
def ShutdownLiveStatement (v : Variant) : Prop :=
  ∀ (n : Nat) (zq : Bool) (s : St) (f : Nat → Act), Reach v n zq s → triggered s = true → FairSched owns n f →
    ∃ k, final (exec (step v) f s k) = true ∧ finiOnce (exec (step v) f s k) = true

/-! ### Finding F1: a reachable deadlock of the pinned code (2 threads) -/

/-- Both threads complete a GVT computation; thread 0 votes; thread 1 casts the last vote
(`nodes_to_end` becomes 0), leaves the loop while idle, skips the flush loop and enters the barrier of
`gvt_msg_drain`; thread 0, still in the iteration it began before the vote, finds the period elapsed and
starts a new computation, then sees the termination flag, leaves the loop and waits in the flush loop,
in thread phase B, for thread 1 to join — for ever. -/
def f1Sched : List Act :=
  [.run 0 false false, .run 0 true false, .run 0 false false, .run 0 false false, .run 0 false false,
   .run 1 false false, .run 1 false false, .run 1 false false, .run 1 false false, .run 0 false false,
   .run 0 false false, .run 1 false false, .run 1 false false, .run 0 false false, .run 0 false false,
   .run 1 false false, .run 1 false false, .run 0 false false, .run 0 false false, .run 1 false false,
   .run 1 false false, .run 0 false false, .run 0 false false, .run 1 false false, .run 1 false false,
   .run 1 false false, .run 1 false false, .run 0 false false, .run 0 false false, .run 0 false false,
   .run 0 false false, .run 1 false false, .run 1 false false, .run 1 false false, .run 1 false false,
   .run 0 false false, .run 0 false false, .run 1 false false, .run 1 false false, .run 0 false false,
   .run 0 false false, .run 1 false false, .run 1 false false, .run 0 false false, .run 0 false false,
   .run 0 false false, .run 0 false false, .run 1 false false, .run 1 false false, .run 1 false false,
   .run 1 false false,
   .run 0 false true,                       -- thread 0 receives the GVT and votes
   .run 0 false false, .run 0 false false,  -- loop head: not yet decided; next iteration begins
   .run 0 false false, .run 1 false false,
   .run 1 false true,                       -- thread 1 receives the GVT and casts the LAST vote
   .run 1 false false,                      -- thread 1: loop head → leaves the loop
   .run 1 false false,                      -- … node_done, idle
   .run 0 true false,                       -- thread 0 (period elapsed): starts a new computation
   .run 0 false false,                      -- thread 0: loop head → leaves the loop
   .run 0 false false,                      -- flush loop: A → B, c_b = 1
   .run 1 false false,                      -- thread 1: flush loop skipped
   .run 1 false false]                      -- thread 1: arrives at the barrier

/-- the deadlocked state -/
def f1State : St := run pinned (St.init 2) f1Sched

/-- **F1 witness** (kernel-checked): the schedule leads the pinned code into a state where termination
has been decided, no thread has returned, thread 0 is in the flush loop in thread phase B with
`c_b = 1`, thread 1 waits in the first barrier of the drain, and no action of any thread changes
the state any more. -/
theorem f1_deadlock_witness :
    triggered f1State = true ∧ final f1State = false ∧ stuck pinned f1State = true ∧
    f1State.ths.map (fun t => (t.pc, t.tph)) = [(.flush, .B), (.barWait 0, .idle)] ∧
    f1State.cb = 1 ∧ f1State.gvtNodes = 1 := by decide +kernel

/-- … and it stays there under every schedule. -/
theorem f1_stuck_forever (f : Nat → Act) (k : Nat) : exec (step pinned) f f1State k = f1State :=
  stuck_exec pinned f1State f1_deadlock_witness.2.2.1 f k

/-- round robin over `n` threads (a fair schedule) -/
def roundRobin (n : Nat) (tm : Bool) : Nat → Act := fun k => .run (k % n) tm false

theorem roundRobin_fair (n : Nat) (tm : Bool) : FairSched owns n (roundRobin n tm) := by
  intro i hi m
  refine ⟨n * m + i, Nat.le_trans (Nat.le_mul_of_pos_left m (Nat.zero_lt_of_lt hi)) (Nat.le_add_right _ _), ?_⟩
  show (n * m + i) % n = i
  rw [Nat.mul_add_mod, Nat.mod_eq_of_lt hi]

/-- **The full statement is false for the pinned code (deadlock, F1).** -/
theorem f1_counterexample : ¬ ShutdownLiveStatement pinned := by
  intro h
  obtain ⟨k, hk, _⟩ := h 2 false f1State (roundRobin 2 false) (reach_run pinned 2 false f1Sched _ Reach.init)
    f1_deadlock_witness.1 (roundRobin_fair 2 false)
  rw [f1_stuck_forever] at hk
  rw [f1_deadlock_witness.2.1] at hk
  cases hk

/-- The same schedule on the repaired code does not deadlock: continuing round robin, every thread returns. -/
theorem f1_schedule_on_fixed :
    let s := run fixed (St.init 2) f1Sched
    stuck fixed s = false ∧
    final (run fixed s ((List.range 200).map (roundRobin 2 false))) = true ∧
    finiOnce (run fixed s ((List.range 200).map (roundRobin 2 false))) = true := by decide +kernel

/-! ### Finding F10: a reachable fair livelock of the pinned code (1 thread suffices) -/

/-- `RootsimStop` is called while a message with time stamp 0 is still queued (`zq`): the thread leaves
the loop, passes the barriers and enters the first forced round of the drain. -/
def f10Prefix : List Act :=
  [.run 0 false false, .stop 0, .run 0 false false, .run 0 false false, .run 0 false false,
   .run 0 false false, .run 0 false false, .run 0 false false, .run 0 false false]

def f10State : St := run pinned (St.init 1 true) f10Prefix

/-- **F10 witness** (kernel-checked): in `f10State` the only thread is in `while(!gvt_phase_run())` of the
first forced round; a complete GVT computation (15 calls) returns `0.0` and brings the system back to
exactly the same state; none of the states on the way is final. -/
theorem f10_livelock_witness :
    triggered f10State = true ∧ f10State.ths.map (·.pc) = [.forced 0] ∧
    run pinned f10State (List.replicate 15 (.run 0 true false)) = f10State ∧
    (List.range 15).all (fun r => !final (run pinned f10State (List.replicate r (.run 0 true false)))) = true := by
  decide +kernel

/-- **The full statement is false for the pinned code also because of F10** (a fair run that spins for ever
in the drain), independently of F1: one thread suffices. The same holds for a tree that carries only the
F1 repair. -/
theorem f10_counterexample : ¬ ShutdownLiveStatement pinned := by
  intro h
  have hfair : FairSched owns 1 (fun _ => Act.run 0 true false) := by
    intro i hi m; refine ⟨m, Nat.le_refl _, ?_⟩
    have : i = 0 := by omega
    subst this; rfl
  obtain ⟨k, hk, _⟩ := h 1 true f10State (fun _ => .run 0 true false)
    (reach_run pinned 1 true f10Prefix _ Reach.init) f10_livelock_witness.1 hfair
  rw [exec_const_eq_run] at hk
  -- k = 15 q + r: the state after k steps is the state after r steps
  rw [← Nat.div_add_mod k 15, run_replicate_mod _ _ _ 15 f10_livelock_witness.2.2.1] at hk
  have hall := f10_livelock_witness.2.2.2
  rw [List.all_eq_true] at hall
  have := hall (k % 15) (List.mem_range.mpr (Nat.mod_lt _ (by omega)))
  rw [hk] at this
  cases this

/-- with the F10 repair the same situation ends: the forced rounds complete although the GVT is 0 -/
theorem f10_prefix_on_fixed :
    let s := run fixed (St.init 1 true) f10Prefix
    final (run fixed s (List.replicate 60 (.run 0 true false))) = true ∧
    finiOnce (run fixed s (List.replicate 60 (.run 0 true false))) = true := by decide +kernel

/-! ### (i) and the partial liveness theorem, all thread counts -/

/-- **(i) Progress measure** (all thread counts; variants with the pinned drain; `RootsimStop` not called
again): once termination has been decided and a finished GVT computation is recognisable as such, every
step that changes the state strictly decreases `measure`. -/
theorem progress_measure (v : Variant) (hcf : v.closeFix = false) (s : St) (htr : triggered s = true)
    (hz : v.zeroFix = true ∨ s.zq = false) (a : Act) (hns : ∀ i, a ≠ .stop i) (hch : step v s a ≠ s) :
    measure (step v s a) < measure s := by
  rcases step_measure v hcf s htr hz a hns with h | h
  · exact absurd h hch
  · exact h.1

/-- (ii), the statement that is NOT proved for all thread counts: in every reachable state after the trigger
that is not final, some thread is enabled whatever choices the schedule makes for it. False for the pinned
code (`f1_deadlock_witness`). For `fixed` it holds for `N ≤ 4` by exhaustive exploration with the compiled
model (driver mode `shutdownmc`, run by the check). -/
def DeadlockFreeStatement (v : Variant) : Prop :=
  ∀ (n : Nat) (zq : Bool) (s : St), Reach v n zq s → triggered s = true → final s = false →
    ∃ i, i < n ∧ ∀ tm vo, step v s (.run i tm vo) ≠ s

theorem f1_not_deadlock_free : ¬ DeadlockFreeStatement pinned := by
  intro h
  obtain ⟨i, _, hi⟩ := h 2 false f1State (reach_run pinned 2 false f1Sched _ Reach.init)
    f1_deadlock_witness.1 f1_deadlock_witness.2.1
  exact hi false false (stuck_step pinned f1State f1_deadlock_witness.2.2.1 _)

/-- **Partial liveness theorem, all thread counts** (pinned drain). From a reachable state in which
termination has been decided, along a fair schedule that contains no further `RootsimStop`, if no state
of the run is stuck (`hdf`: the instance of (ii) along this run), the run reaches a state in which every
thread has returned and `lp_fini()` has run exactly once on every thread. -/
theorem shutdown_live_partial (v : Variant) (hcf : v.closeFix = false) (n : Nat) (zq : Bool) (s : St)
    (f : Nat → Act) (hreach : Reach v n zq s) (htr : triggered s = true)
    (hz : v.zeroFix = true ∨ s.zq = false) (hnostop : ∀ k i, f k ≠ .stop i) (hfair : FairSched owns n f)
    (hdf : ∀ k, final (exec (step v) f s k) = false →
      ∃ i, i < n ∧ ∀ tm vo, step v (exec (step v) f s k) (.run i tm vo) ≠ exec (step v) f s k) :
    ∃ k, final (exec (step v) f s k) = true ∧ finiOnce (exec (step v) f s k) = true := by
  have hside : ∀ k, Reach v n zq (exec (step v) f s k) ∧ triggered (exec (step v) f s k) = true ∧
      (v.zeroFix = true ∨ (exec (step v) f s k).zq = false) := by
    intro k
    induction k with
    | zero => exact ⟨hreach, htr, hz⟩
    | succ k ih =>
      have := step_side v hcf _ ih.2.1 ih.2.2 (f k) (hnostop k)
      exact ⟨Reach.step (f k) ih.1, this.1, this.2.1⟩
  obtain ⟨k, hk⟩ := fair_terminates_run (step v) owns n (fun s => final s = true) measure f s
    (fun k hne => (step_measure v hcf _ (hside k).2.1 (hside k).2.2 (f k) (hnostop k)).resolve_left hne |>.1)
    (fun k hnf => by
      obtain ⟨i, hi, hen⟩ := hdf k (Bool.not_eq_true _ ▸ hnf)
      exact ⟨i, hi, forall_owns.mpr hen⟩)
    hfair
  exact ⟨k, hk, final_finiOnce _ (reach_finiOk v n zq _ (hside k).1) hk⟩

/-- **`shutdown_live_partial` for the F1 region, all thread counts**: if, when
termination has been decided, no GVT round is open (`Quiet`: every thread idle in the GVT machine,
`gvt_nodes = 0`, every thread between the loop head and the second barrier of the drain) and no round is
started afterwards (`stepQ`: thread 0's timer does not fire in the worker loop any more; no further
`RootsimStop`), then under every fair schedule ALL threads leave the flush loop and arrive at the second
barrier of `gvt_msg_drain`: the deadlock F1 cannot occur. (What follows the milestone — the two forced GVT
computations — is covered by `shutdown_live_partial` modulo deadlock-freedom of a GVT computation in which
all threads take part.) -/
theorem shutdown_live_partial_quiet (v : Variant) (hcf : v.closeFix = false) (s : St) (f : Nat → Act)
    (htr : triggered s = true) (hq : Quiet s) (hz : v.zeroFix = true ∨ s.zq = false)
    (hfair : FairSched owns s.n f) :
    ∃ k, milestone (exec (stepQ v) f s k) = true := by
  -- if the milestone were never reached, the run would be a fair run through quiet states only
  refine Classical.byContradiction fun hex => ?_
  have hno : ∀ k, milestone (exec (stepQ v) f s k) = false := fun k =>
    Bool.eq_false_iff.mpr fun h => hex ⟨k, h⟩
  have hside : ∀ k, triggered (exec (stepQ v) f s k) = true ∧
      (v.zeroFix = true ∨ (exec (stepQ v) f s k).zq = false) ∧ (exec (stepQ v) f s k).n = s.n ∧
      Quiet (exec (stepQ v) f s k) := by
    intro k
    induction k with
    | zero => exact ⟨htr, hz, rfl, hq⟩
    | succ k ih =>
      obtain ⟨h1, h2, h3, h4⟩ := ih
      have hs := stepQ_side v hcf _ h1 h2 (f k)
      refine ⟨hs.1, hs.2.1, hs.2.2.trans h3, (quiet_step v hcf _ h1 h4 (f k)).resolve_right fun h => ?_⟩
      exact Bool.false_ne_true ((hno (k + 1)).symm.trans h)
  exact hex <| fair_terminates_run (stepQ v) owns s.n (fun s => milestone s = true) measure f s
    (fun k hne => ((stepQ_measure v hcf _ (hside k).1 (hside k).2.1 (f k)).resolve_left hne).1)
    (fun k _ => by
      obtain ⟨h1, _, h3, h4⟩ := hside k
      obtain ⟨i, hi, hen⟩ := quiet_live v hcf _ h1 h4 (hno k)
      exact ⟨i, h3 ▸ hi, hen⟩)
    hfair

/-- non-vacuity: the state right after the last vote of a run in which both threads were idle is quiet -/
example : let s := run pinned (St.init 2) [.run 0 false false, .run 1 false false, .stop 1]
    triggered s = true ∧ Quiet s ∧ milestone s = false := by
  refine ⟨by decide +kernel, ⟨by decide +kernel, by decide +kernel, ?_⟩, by decide +kernel⟩
  intro t ht
  rw [show (run pinned (St.init 2) [.run 0 false false, .run 1 false false, .stop 1]).ths =
    [{ pc := .body }, { pc := .body }] by decide +kernel] at ht
  have : t = { pc := .body } := by simpa using ht
  subst this
  exact ⟨rfl, Or.inr (Or.inl ⟨rfl, rfl⟩)⟩

/-- `LP_FINI` exactly once, for every variant and every thread count: whenever every thread has returned. -/
theorem lp_fini_once (v : Variant) (n : Nat) (zq : Bool) (s : St) (h : Reach v n zq s) (hf : final s = true) :
    finiOnce s = true :=
  final_finiOnce s (reach_finiOk v n zq s h) hf

theorem final_absorbing (v : Variant) (s : St) (h : final s = true) (i : Nat) (tm vo : Bool) :
    step v s (.run i tm vo) = s := by
  simp only [step]
  split
  · rename_i t ht
    simp only [final, List.all_eq_true, beq_iff_eq] at h
    have := h t (List.mem_of_getElem? ht)
    simp [runTh, this]
  · rfl

/-! Non-vacuity of `shutdown_live_partial`: one thread, pinned code, termination by `RootsimStop`; the
constant schedule is fair, contains no `stop`, and no state before the final one (reached after 40
steps) is stuck. -/

def exStart : St := run pinned (St.init 1) [.run 0 false false, .stop 0, .run 0 false false]

example : ∃ K, final (run pinned exStart (List.replicate K (.run 0 true false))) = true ∧
    (List.range K).all (fun k =>
      let s := run pinned exStart (List.replicate k (.run 0 true false))
      !final s && (step pinned s (.run 0 true false) != s) && (step pinned s (.run 0 false false) != s)) = true ∧
    triggered exStart = true ∧ exStart.zq = false :=
  ⟨40, by decide +kernel, by decide +kernel, by decide +kernel, by decide +kernel⟩

end RootSim.C08
