import RootSim.Proofs.MsgAuto
import RootSim.Proofs.MsgAutoRemote
import RootSim.Proofs.MsgId
/-!
# C06 — cancellation is exactly-once (the per-message automata)

"Every event that was scheduled by an execution later undone is removed from the system exactly once,
wherever it is at that moment (still in a buffer, queued, already processed, or not yet arrived from
another rank), and an event scheduled by an execution that stays valid is delivered exactly once and
never removed. No message buffer is released while still reachable, and none is released twice."

The theorems are about EVERY finite sequence of actions of the automata of `Model/MsgAuto.lean` (local
message) and `Model/MsgAutoRemote.lean` (remote message) — the environment (when the sender cancels,
when the receiver rolls back, fossil collects, shuts down) is completely nondeterministic. They are
proved by exhaustive case analysis of the finite reachable state space (70 / 168 states, kernel
evaluation, no `native_decide`), lifted to action sequences of arbitrary length by induction.
Sequentially consistent interleaving of the atomic actions; `memory_order_relaxed` is not modelled.
The lifting from "one message" to the whole kernel is the integrator's trace-inclusion check
(`driver msgauto`).

## Interleaving classes of a cancel (`antiLocal`) with the receiver, all covered by the proofs
* message still queued / in the receiver's hand, flags 0: cancel sets flags 1, nothing is inserted; the
  receiver's `fetch_add(PROCESSED)` returns 1 → freed without being processed (`anti_discard`).
* message processed (flags 2, in the history): cancel returns 2 → the sender re-inserts the SAME buffer as
  "anti copy" (flags 3); its extraction returns 3 (flags become **5** for a moment) → `match_anti_msg`,
  rollback (the message's own `unprocess` returns 5 → flags 3, ANTI set → not re-queued) → freed.
* cancel between the receiver's `fetch_add(PROCESSED)` (returned 0) and the push into the history: the
  cancel returns 2, the anti copy is inserted, the message is dispatched forward ONCE after the cancel
  and then undone exactly once (previous case).
* receiver rollback first (`unprocess` returns 2 → flags 0, re-queued), then cancel (returns 0 → flags 1,
  nothing inserted): the re-queued copy is extracted with previous flags 1 → freed without processing.
* cancel (returns 2, insertion pending or done) and then an independent receiver rollback: `unprocess`
  returns 3 → flags 1, ANTI set → NOT re-queued; the anti copy is extracted with previous flags 1 → freed
  without a second rollback.
-/
namespace RootSim.C06
open RootSim.MsgAuto

/-! ## Local messages -/

/-- states reachable by some finite action sequence from the not-yet-allocated message -/
def Reach (s : LState) : Prop := ∃ acts : List LAct, lrun LState.init acts = some s

theorem reach_mem {s : LState} : Reach s → s ∈ R := fun ⟨acts, h⟩ => R_run acts R_init h

theorem reach_good {s : LState} (h : Reach s) : Good s := R_good (reach_mem h)

/-- the invariant is inductive: closed under every action (this is what is lifted over sequences) -/
theorem invariant_inductive {s s' : LState} {a : LAct} (hs : s ∈ R) (h : lstep s a = some s') : s' ∈ R :=
  R_step hs h

/-- never two queue copies of a message at once -/
theorem never_two_queue_copies {s : LState} (h : Reach s) : s.qc ≤ 1 := (reach_good h).1.2.1

/-- never released twice -/
theorem never_freed_twice {s : LState} (h : Reach s) : s.life ≠ .dfreed := (reach_good h).1.2.2.1

/-- no action ever touches a released buffer, `match_anti_msg` always finds its message, the remote
branch is never taken for a local message, a message is never processed twice in a row -/
theorem no_use_after_free {s : LState} (h : Reach s) : s.err = false := (reach_good h).1.1

/-- a released buffer is not queued, not in the receiver's history, not in the receiver's hands, not
about to be inserted, and a sender entry still pointing to it can no longer touch it -/
theorem never_freed_while_reachable {s : LState} (h : Reach s) (hf : s.life = .freed) :
    s.qc = 0 ∧ s.inHist = false ∧ s.rpc = .idle ∧ s.spend = false ∧ s.rpend = false ∧
      (s.sref = true → s.committed = true ∨ s.down = true) := by
  obtain ⟨⟨-, -, -, h7, -⟩, -⟩ := reach_good h
  exact h7 hf

/-- no leak: a live message is always held by somebody -/
theorem never_orphaned {s : LState} (h : Reach s) (hl : s.life = .live) :
    0 < s.qc ∨ s.inHist = true ∨ s.rpc ≠ .idle ∨ s.spend = true ∨ s.rpend = true := by
  obtain ⟨⟨-, -, -, -, h8, -⟩, -⟩ := reach_good h
  exact h8 hl

/-- the flag word only takes the values 0,1,2,3 and — transiently, between the extraction of the anti
copy and the rollback's `fetch_add(-PROCESSED)` — 5. -/
theorem flags_range {s : LState} (h : Reach s) :
    s.flags = 0 ∨ s.flags = 1 ∨ s.flags = 2 ∨ s.flags = 3 ∨ (s.flags = 5 ∧ s.rpc = .antiRb) :=
  (reach_good h).2.1.1

/-- ANTI bit = "the sender has cancelled" -/
theorem anti_bit_iff_cancelled {s : LState} (h : Reach s) : s.flags % 2 = 1 ↔ s.cancelled = true :=
  (reach_good h).2.1.2.1

/-- PROCESSED bit = "in the receiver's history" whenever the receiver is not in the middle of the message -/
theorem processed_bit_iff_in_history {s : LState} (h : Reach s) (hp : s.rpc = .idle ∨ s.rpc = .hand)
    (hl : s.life = .live) (hd : s.down = false) : s.flags / 2 % 2 = 1 ↔ s.inHist = true :=
  (reach_good h).2.1.2.2 hp hl hd

/-- **The claim "flags ∈ {0,1,2,3}" is FALSE**: processing the anti copy of a processed message adds
PROCESSED to ANTI|PROCESSED. (Harmless: bit 2 is never read and the next action subtracts it again.) -/
theorem flags_five_reachable :
    ∃ s, Reach s ∧ s.flags = 5 :=
  ⟨_, ⟨[.alloc, .sendLocal, .pop, .flagProcess, .forward, .antiLocal, .antiInsert, .pop, .flagProcess], rfl⟩, rfl⟩

/-- after the receiver has seen ANTI in a `fetch_add` result the message is never dispatched forward -/
theorem no_forward_after_observed {s : LState} (h : Reach s) :
    s.fwdAfterObs = false ∧ (s.obs = true → s.rpc ≠ .proc) := by
  obtain ⟨-, -, ⟨h10, h10', -⟩, -⟩ := reach_good h
  exact ⟨h10, h10'⟩

/-- at most ONE forward dispatch happens after the sender's cancel (the dispatch whose flag update
preceded the cancel), and the sender cancels at most once -/
theorem at_most_one_forward_after_cancel {s : LState} (h : Reach s) :
    s.fwdAfterAnti ≤ 1 ∧ (s.cancelled = true → s.sref = false) := by
  obtain ⟨-, -, ⟨-, -, h11, -, -, h16⟩, -⟩ := reach_good h
  exact ⟨h11, h16⟩

/-- the receiver is rolled back for a cancelled message at most once, only if the cancel saw PROCESSED;
and when the message is released through the anti path: EXACTLY once iff the cancel saw PROCESSED -/
theorem rolled_back_exactly_once {s : LState} (h : Reach s) :
    s.unpAfter ≤ (if s.cproc then 1 else 0) ∧
    (s.freedBy = .anti → s.cancelled = true ∧ s.unpAfter = (if s.cproc then 1 else 0)) := by
  obtain ⟨-, -, ⟨-, -, -, h12, h13, -⟩, -⟩ := reach_good h
  exact ⟨h12, h13⟩

/-- a message that is never cancelled is released only by fossil collection (and then it is committed:
GVT has passed it while it was in the history) or at shutdown -/
theorem uncancelled_released_only_by_fossil_or_shutdown {s : LState} (h : Reach s) (hf : s.life = .freed)
    (hc : s.cancelled = false) :
    (s.freedBy = .fossil ∧ s.committed = true) ∨ s.freedBy = .fini ∨ s.freedBy = .qfini := by
  have hd := (reach_good h).2.2.2
  rcases hd.1 hf hc with h1 | h1 | h1
  · exact Or.inl ⟨h1, hd.2 h1⟩
  · exact Or.inr (Or.inl h1)
  · exact Or.inr (Or.inr h1)

/-- every action taken from a cancelled state strictly decreases `rank`: all paths from "cancelled" are finite -/
theorem cancelled_paths_terminate {s s' : LState} {a : LAct} (h : Reach s) (hc : s.cancelled = true)
    (hs : lstep s a = some s') : rank s' < rank s := by
  have := R_prog (reach_mem h)
  simp only [Prog, Bool.and_eq_true, Bool.or_eq_true, Bool.not_eq_true', List.all_eq_true] at this
  rcases this.1.1 with h1 | h1
  · rw [hc] at h1; exact absurd h1 (by decide)
  · have := h1 a (LAct.mem_all a)
    rw [hs] at this
    simpa using this

/-- a state in which no action is enabled is a released message (with `never_freed_twice`: released
exactly once). Together with `cancelled_paths_terminate`: every maximal path from "cancelled" ends in
"freed exactly once". -/
theorem terminal_is_freed {s : LState} (h : Reach s) (hterm : ∀ a, lstep s a = none) : s.life = .freed := by
  have := R_prog (reach_mem h)
  simp only [Prog, Bool.and_eq_true, Bool.or_eq_true, Bool.not_eq_true'] at this
  rcases this.1.2 with h1 | h1
  · have : succs s = [] := List.filterMap_eq_nil_iff.2 fun a _ => hterm a
    rw [this] at h1; cases h1
  · simpa using h1

/-- progress does not depend on the environment: a cancelled, not yet released message always has a
runtime action enabled (pop, flag update, forward, pending insert, undo during `match_anti_msg`
rollback, free, or the shutdown frees) -/
theorem cancelled_runtime_action_enabled {s : LState} (h : Reach s) (hc : s.cancelled = true)
    (hl : s.life = .live) : ∃ a s', isSys s a = true ∧ lstep s a = some s' := by
  have := R_prog (reach_mem h)
  simp only [Prog, Bool.and_eq_true, Bool.or_eq_true, Bool.not_eq_true'] at this
  rcases this.2 with h1 | h1
  · simp [hc, hl] at h1
  · rw [List.any_eq_true] at h1
    obtain ⟨a, _, ha⟩ := h1
    simp only [Bool.and_eq_true, Option.isSome_iff_exists] at ha
    obtain ⟨h1, s', h2⟩ := ha
    exact ⟨a, s', h1, h2⟩

/-! ## Remote messages -/

def ReachR (s : RState) : Prop := ∃ acts : List RAct, rrun RState.init acts = some s

theorem reachR_mem {s : RState} : ReachR s → s ∈ RR := fun ⟨acts, h⟩ => RR_run acts RR_init h

theorem reachR_good {s : RState} (h : ReachR s) : GoodR s := RR_good (reachR_mem h)

theorem remote_invariant_inductive {s s' : RState} {a : RAct} (hs : s ∈ RR) (h : rstep s a = some s') :
    s' ∈ RR := RR_step hs h

/-- none of the three buffers (sender's `S`, receiver's copy `R`, anti copy `A`) is released twice, no
released buffer is touched, at most one queue copy of each, the flag arithmetic stays below the id -/
theorem remote_memory_safe {s : RState} (h : ReachR s) :
    s.err = false ∧ s.sLife ≠ .dfreed ∧ s.rLife ≠ .dfreed ∧ s.aLife ≠ .dfreed ∧ s.rq ≤ 1 ∧ s.aq ≤ 1 ∧
    s.rLow < 4 ∧ s.aLow < 3 := (reachR_good h).1

/-- released buffers are unreachable (for `S`: also no MPI transfer still reads it, given the two GVT
hypotheses `scommit`/`commit` and the drain before shutdown) -/
theorem remote_never_freed_while_reachable {s : RState} (h : ReachR s) :
    (s.rLife = .freed → s.rq = 0 ∧ s.rHist = false ∧ onR s.pc = false ∧ s.rpend = false) ∧
    (s.aLife = .freed → s.aq = 0 ∧ s.aEarly = false ∧ onA s.pc = false) ∧
    (s.sLife = .freed → s.sref = false ∧ s.sAtGvt = false ∧ s.posFlight = false ∧ s.antiFlight = false) :=
  (reachR_good h).2.1

theorem remote_never_orphaned {s : RState} (h : ReachR s) :
    (s.rLife = .live → 0 < s.rq ∨ s.rHist = true ∨ onR s.pc = true ∨ s.rpend = true) ∧
    (s.aLife = .live → 0 < s.aq ∨ s.aEarly = true ∨ onA s.pc = true) ∧
    (s.sLife = .live → s.sref = true ∨ s.sAtGvt = true) ∧
    (s.pc = .rbA → s.rHist = true) := (reachR_good h).2.2.1

/-- once the receiver has handled the anti copy the message is never dispatched forward; it is undone
after that exactly when it was found processed (then once), and an early anti only ever waits for an
unprocessed copy -/
theorem remote_exactly_once {s : RState} (h : ReachR s) :
    s.fwdAfterObs = false ∧ (s.obs = true → s.pc ≠ .procR) ∧
    s.unpAfterObs ≤ (if s.hitHist then 1 else 0) ∧
    (s.hitHist = true → s.aLife = .freed → s.unpAfterObs = 1) ∧
    (s.aEarly = true → s.rHist = false ∧ s.pc ≠ .procR) ∧
    (s.aLife ≠ .fresh → s.cancelled = true) ∧ (s.antiFlight = true → s.cancelled = true) :=
  (reachR_good h).2.2.2

/-- runtime actions strictly decrease `rrank`. (Unlike the local case the ENVIRONMENT can prolong a path:
while the anti-message is in flight the receiver may process, roll back and re-process the message any
number of times.) -/
theorem remote_runtime_actions_terminate {s s' : RState} {a : RAct} (h : ReachR s)
    (hsys : risSys s a = true) (hs : rstep s a = some s') : rrank s' < rrank s := by
  have := RR_prog (reachR_mem h)
  simp only [ProgR, Bool.and_eq_true, List.all_eq_true] at this
  have := this.1.1 a (RAct.mem_all a)
  rw [hs] at this
  simpa [hsys] using this

/-- terminal states: everything released — except that an anti copy parked in `early_antis` is never
released when the run shuts down first -/
theorem remote_terminal {s : RState} (h : ReachR s) (hterm : ∀ a, rstep s a = none) :
    s.sLife = .freed ∧ (s.rLife = .freed ∨ s.rLife = .fresh) ∧
    (s.aLife = .freed ∨ s.aLife = .fresh ∨ (s.aLife = .live ∧ s.aEarly = true ∧ s.down = true)) := by
  have := RR_prog (reachR_mem h)
  simp only [ProgR, Bool.and_eq_true, Bool.or_eq_true, Bool.not_eq_true'] at this
  rcases this.1.2 with h1 | h1
  · have : rsuccs s = [] := List.filterMap_eq_nil_iff.2 fun a _ => hterm a
    rw [this] at h1; cases h1
  · simp only [beq_iff_eq] at h1
    obtain ⟨⟨a, b⟩, c⟩ := h1
    refine ⟨a, b, ?_⟩
    rcases c with (c | c) | ⟨⟨c1, c2⟩, c3⟩
    · exact Or.inl c
    · exact Or.inr (Or.inl c)
    · exact Or.inr (Or.inr ⟨c1, c2, c3⟩)

/-- OBSERVATION (memory leak, not a violation of C06's wording): `process_lp_fini` never releases
`lp->p.early_antis`. If the run ends while an early anti-message still waits for its message (which is
then dropped by `mpi_remote_msg_drain` or freed by `msg_queue_fini`), the anti copy is leaked. -/
theorem early_anti_leak_at_shutdown :
    ∃ s, ReachR s ∧ (∀ a, rstep s a = none) ∧ s.aLife = .live ∧ s.aEarly = true := by
  refine ⟨_, ⟨[.alloc, .sendRemote, .antiRemote, .recvAnti, .popA, .flagA, .shutdown, .drainPos, .sFiniFree], rfl⟩,
    ?_, rfl, rfl⟩
  intro a; cases a <;> rfl

/-! ## Identifiers: matching by `(raw_flags & ~3, m_seq)` is matching by identity -/

/-- what the receiver compares: the id left in `raw_flags` and `m_seq` -/
def key (nid rid : Nat) (e : Nat × Nat × Nat) : Nat × Nat :=
  (recvId (stampFlags nid rid e.2.1), stampSeq e.2.2 e.2.1)

/-- Two messages (send-log entries `(dest, phase, counter)` of threads `(n1,r1)`, `(n2,r2)`) whose keys are
equal at a receiver were sent by the SAME thread in the same GVT phase with counters congruent modulo
`2^31`. Hence different threads never collide; the same thread: see `id_unique_same_thread`. -/
theorem id_unique (n1 r1 n2 r2 : Nat) (hn1 : n1 < 65536) (hr1 : r1 + 1 < 4096) (hn2 : n2 < 65536)
    (hr2 : r2 + 1 < 4096) (e1 e2 : Nat × Nat × Nat) (hp1 : e1.2.1 < 2) (hp2 : e2.2.1 < 2)
    (hk : key n1 r1 e1 = key n2 r2 e2) :
    (n1 = n2 ∧ r1 = r2) ∧ e1.2.1 = e2.2.1 ∧ e1.2.2 % 2147483648 = e2.2.2 % 2147483648 := by
  simp only [key, Prod.mk.injEq] at hk
  exact ⟨stamp_inj n1 r1 _ n2 r2 _ hn1 hr1 hp1 hn2 hr2 hp2 hk.1, stampSeq_inj _ _ _ _ hp1 hp2 hk.2⟩

/-- same thread, two different sends to the same rank, provided the 31-bit counter has not wrapped between
them (fewer than `2^31` sends of that thread to that rank in that GVT phase in between — the
hypothesis of C06) ⇒ different keys -/
theorem id_unique_same_thread (nid rid : Nat) (c : SendCtr) (ops : List SendOp) (i j : Nat) (hij : i < j)
    (hj : j < (sendLog c ops).length) (hdest : (sendLog c ops)[i].1 = (sendLog c ops)[j].1)
    (hp : (sendLog c ops)[j].2.1 < 2) (hp' : (sendLog c ops)[i].2.1 < 2)
    (hwrap : (sendLog c ops)[j].2.2 < (sendLog c ops)[i].2.2 + 2147483648) :
    key nid rid (sendLog c ops)[i] ≠ key nid rid (sendLog c ops)[j] := by
  intro hk
  obtain ⟨hph, hmod⟩ := stampSeq_inj _ _ _ _ hp' hp (congrArg Prod.snd hk)
  have hinc := List.pairwise_iff_getElem.mp (sendLog_increasing c ops) i j (Nat.lt_trans hij hj) hj hij hdest hph
  -- the two counter values are congruent modulo 2^31 and the later one is larger: they are 2^31 apart
  have := Nat.le_of_dvd (Nat.sub_pos_of_lt hinc) (Nat.dvd_of_mod_eq_zero (Nat.sub_mod_eq_zero_of_mod_eq hmod.symm))
  exact Nat.lt_irrefl _ (Nat.lt_of_lt_of_le hwrap (Nat.add_comm _ _ ▸ Nat.add_le_of_le_sub (Nat.le_of_lt hinc) this))

/-- CORNER CASE: with exactly `MAX_THREADS = 4096` threads per rank the thread field `(rid+1) << 2`
overflows into the rank field: thread 4095 of rank 0 and thread 4095 of rank 1 stamp the same id. -/
theorem id_collision_at_max_threads :
    recvId (stampFlags 0 4095 0) = recvId (stampFlags 1 4095 0) := by decide

/-! ## Non-vacuity -/

/-- a full cancel of a processed message: released exactly once, by the anti path, after one rollback -/
example : (lrun LState.init [.alloc, .sendLocal, .pop, .flagProcess, .forward, .antiLocal, .antiInsert, .pop,
    .flagProcess, .unprocess, .antiFree]).map (fun s => (s.life, s.flags, s.qc, s.unpAfter, s.freedBy))
    = some (.freed, 3, 0, 1, .anti) := by decide
/-- the window: receiver rollback re-queues, then the sender cancels: freed without processing -/
example : (lrun LState.init [.alloc, .sendLocal, .pop, .flagProcess, .forward, .unprocess, .requeue, .antiLocal,
    .pop, .flagProcess, .antiFree]).map (fun s => (s.life, s.flags, s.qc, s.unpAfter, s.fwdAfterAnti))
    = some (.freed, 3, 0, 0, 0) := by decide
/-- a valid message: delivered once, released by fossil collection after the commit -/
example : (lrun LState.init [.alloc, .sendLocal, .pop, .flagProcess, .forward, .commit, .fossilFree]).map
    (fun s => (s.life, s.flags, s.cancelled, s.freedBy)) = some (.freed, 2, false, .fossil) := by decide
/-- remote, early anti: the anti overtakes the message; both copies released, message never processed -/
example : (rrun RState.init [.alloc, .sendRemote, .antiRemote, .recvAnti, .popA, .flagA, .recvPos, .popR, .flagR,
    .earlyFree, .commit, .sGvtFree]).map (fun s => (s.sLife, s.rLife, s.aLife, s.rHist, s.fwdAfterObs))
    = some (.freed, .freed, .freed, false, false) := by decide
/-- remote, late anti: message processed, then undone once and released -/
example : (rrun RState.init [.alloc, .sendRemote, .recvPos, .popR, .flagR, .forwardR, .antiRemote, .recvAnti,
    .popA, .flagA, .unprocessR, .freeRA]).map (fun s => (s.rLife, s.aLife, s.rLow, s.unpAfterObs, s.hitHist))
    = some (.freed, .freed, 1, 1, true) := by decide
example : key 3 7 (5, 1, 100) = (3 * 16384 + 8 * 4, 201) := by decide

end RootSim.C06
