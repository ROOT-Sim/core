import RootSim.Props.C05LP
/-!
# C01 / C03 — part (A): LP-local refinement

(The composition of C01 is described in DESIGN.md §3 C01: (A) LP-local refinement — this file and
`Props/C05LP.lean`; (B) the per-message automaton — `Props/C06.lean`; (C) the GVT cut —
`Props/C04.lean`; (D) the prefix-uniqueness theorem — `Props/PrefixUnique.lean`; (E) the glue — the abstract
global Time Warp machine of `Props/C01Glue.lean`, of which every LP step is one action (`Props/C01Refine.lean`); that its bags
are what the concrete queues and flag words hold is covered by trace re-execution of real runs, not by a theorem.)
-/
namespace RootSim.C01
open RootSim RootSim.LP

variable {σ : Type}

/-- the history layout `[sent* past]*`: a forward step appends the ordinals of the handler's
outputs as `sent` entries followed by the message's own `past` entry, and reports exactly the
handler's outputs -/
theorem forward_records_outputs (h : σ → Event → σ × List Event) (lp : LPState σ) (m : Nat) (e : Event)
    (outs : List Nat) :
    (forward h lp m e outs).2 = (h lp.st e).2 ∧
    (forward h lp m e outs).1.hist = lp.hist ++ outs.map Entry.sent ++ [.past m] ∧
    (forward h lp m e outs).1.st = (h lp.st e).1 := by
  simp [forward]

/-- **straggler matching** (`match_straggler_msg`): the returned index `k` is at most
`length − 1` (the last entry is always undone), the entry just before it (if any) is a processed
message that the straggler is NOT before, and every processed message from `k` up to (excluding)
the last entry is one the straggler IS before — so exactly the events that must be re-executed
after the straggler are undone, whatever the history. -/
theorem matchStraggler_spec (look : Nat → Msg) (hist : List Entry) (s : Msg) :
    let k := matchStraggler look hist s
    k ≤ hist.length - 1 ∧
    (0 < k → ∃ e, hist[k - 1]? = some e ∧ e.isPast = true ∧ isBefore s (look e.msg) = false) ∧
    (∀ j e, k ≤ j → j < hist.length - 1 → hist[j]? = some e → e.isPast = true →
      isBefore s (look e.msg) = true) := by
  intro k
  obtain ⟨hle, hpos, hall⟩ := scanBack_rev_idx (fun e => e.isPast && !(isBefore s (look e.msg))) hist.dropLast
  rw [List.length_dropLast] at hle
  have hget : ∀ j, j < hist.length - 1 → hist.dropLast[j]? = hist[j]? := fun j hj => by
    rw [List.getElem?_dropLast, if_pos hj]
  refine ⟨hle, fun hk => ?_, fun j e hkj hj he hp => ?_⟩
  · obtain ⟨e, he, hpe⟩ := hpos hk
    simp only [Bool.and_eq_true, Bool.not_eq_true'] at hpe
    exact ⟨e, (hget _ (Nat.lt_of_lt_of_le (Nat.sub_lt hk Nat.one_pos) hle)).symm.trans he, hpe.1, hpe.2⟩
  · have := hall j e hkj ((hget j hj).trans he)
    simpa [hp] using this

/-- **anti-message matching** (`match_anti_msg`): when the cancelled message `m` is in the history, the returned index `k` is
the start of `m`'s own group `[sent* past m]`: the entries from `k` up to the (last) past entry of `m` are all `sent` markers,
and the entry before `k` (if any) is a processed message - so the rollback undoes `m`, everything after it, and the sends of
`m` itself, and nothing before. -/
theorem matchAnti_spec (hist : List Entry) (m k : Nat) (h : matchAnti hist m = some k) :
    ∃ i, hist[i]? = some (.past m) ∧ k ≤ i ∧
      (∀ j e, i < j → hist[j]? = some e → e ≠ .past m) ∧
      (∀ j e, k ≤ j → j < i → hist[j]? = some e → e.isPast = false) ∧
      (0 < k → ∃ e, hist[k - 1]? = some e ∧ e.isPast = true) := by
  unfold matchAnti findPast at h
  simp only at h
  -- `i` from the scan for `past m` over the whole history, `k` from the scan for a past entry over `hist[0..i)`
  obtain ⟨_, hpos, hall⟩ := scanBack_rev_idx (fun e => e == Entry.past m) hist
  by_cases hk0 : scanBack (fun e => e == Entry.past m) hist.reverse = 0
  · simp only [hk0, if_true] at h
    cases h
  · simp only [hk0, if_false] at h
    cases h
    obtain ⟨x, hx, hxm⟩ := hpos (Nat.pos_of_ne_zero hk0)
    cases (beq_iff_eq.mp hxm)
    obtain ⟨hle', hpos', hall'⟩ := scanBack_rev_idx Entry.isPast
      (hist.take (scanBack (fun e => e == Entry.past m) hist.reverse - 1))
    have hki := Nat.le_trans hle' (List.length_take_le _ _)
    refine ⟨_, hx, hki, fun j e hj he hne => ?_, fun j e hkj hji he => ?_, fun hk => ?_⟩
    · have := hall j e (Nat.le_of_pred_lt hj) he
      simp [hne] at this
    · exact hall' j e hkj ((List.getElem?_take_of_lt hji).trans he)
    · obtain ⟨e, he, hp⟩ := hpos' hk
      exact ⟨e, (List.getElem?_take_of_lt (Nat.lt_of_lt_of_le (Nat.sub_lt hk Nat.one_pos) hki)).symm.trans he, hp⟩

/-- re-export: the state of an LP is always the deterministic execution of its not-undone events -/
theorem lp_state_is_fold {h : σ → Event → σ × List Event} {ev : Nat → Event} {init : σ}
    (ops : List C05LP.Op) (lp lp' : LPState σ) (hE : C05LP.Exact h ev init lp)
    (hr : C05LP.run h ev lp ops = some lp') :
    ∃ base, lp'.st = replay h ev init (base ++ pastMsgs lp'.hist) := by
  obtain ⟨base, hI⟩ := C05LP.run_exact ops lp lp' hE hr
  exact ⟨base, hI.st_ok⟩

/-! non-vacuity -/
example : matchStraggler (fun m => { destT := 10 * m, rawFlags := 0, mType := 1, plSize := 0, pl := [] })
    [.past 0, .sent 7, .past 2, .sent 8, .past 4, .past 6]
    { destT := 30, rawFlags := 0, mType := 1, plSize := 0, pl := [] } = 3 := by decide

end RootSim.C01
