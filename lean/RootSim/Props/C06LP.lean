import RootSim.Proofs.LPFullRun
/-!
# C06 / C01 / C02 at the LP level — ALL dispatch branches of `process_msg` (src/lp/process.c)

Model: `RootSim/Model/LPFull.lean` (`step` = `stepPre` + `stepFwd`), the function the re-execution driver (`Driver/Run.lean`,
`onExtract`) runs on every `ext` line of every real trace. Branches: ordinary message (straggler test, rollback, forward),
local anti-message with flag word 1 (discard) and 3 (`match_anti_msg`, rollback, discard), remote anti-message
(`handle_remote_anti_msg`: matched → rollback + release of both, or parked on `early_antis`), remote event whose anti-message is
already parked (`check_early_anti_messages`).

All theorems: every handler `h`, every LP state type `σ`, every history, every checkpoint placement, every allocator choice.
`step … = some …` means the C code stayed inside its arrays; `step_defined` says when that is guaranteed.
-/
namespace RootSim.C06LP
open RootSim RootSim.LP RootSim.LPFull

variable {σ : Type} {h : σ → Event → σ × List Event} {ev : Nat → Event} {init : σ} {base : List Nat}

/-- **(1) The well-formedness invariant is preserved by EVERY branch.** `WF` = `LInv` (LP state and every checkpoint = fold of the
handler over the corresponding prefix of the processed messages, on top of the committed `base`; checkpoint log sorted and inside
the history) + `SInv` (processed messages sorted by the event order as the code compares them, `bound` an upper bound, layout
`[sent* past]*`). The hypotheses on the dequeued message are needed only when it is going to be processed (`f` even). -/
theorem step_preserves_wf {look : Nat → Msg} {remote : Nat → Bool} {alloc : Nat → Nat} {s s' : St σ} {m f : Nat}
    {acts : List Action} (hW : WF h ev look init base s)
    (hm : f % 2 = 0 → (look m).WF ∧ (look m).destT = (ev m).t ∧ (look m).rawFlags = f + 2)
    (hs : step h ev look remote alloc s m f = some (s', acts)) : WF h ev look init base s' :=
  ⟨step_linv hW.linv hs, step_sinv hW.linv hW.sinv hm hs⟩

/-- the exactness half needs no hypothesis at all on the snapshot: whatever the flag words, after ANY branch the LP state is the
fold over the processed messages that remain -/
theorem step_state_is_fold {look : Nat → Msg} {remote : Nat → Bool} {alloc : Nat → Nat} {s s' : St σ} {m f : Nat}
    {acts : List Action} (hI : LInv h ev init base s.lp)
    (hs : step h ev look remote alloc s m f = some (s', acts)) :
    s'.lp.st = replay h ev init (base ++ pastMsgs s'.lp.hist) :=
  (step_linv hI hs).st_ok

/-- **the step is defined** in every well-formed state that owns a checkpoint with reference 0 (C13: always, after the first
fossil collection), provided a local anti-message with flag word 3 has its message in the history (C06
`processed_bit_iff_in_history`) -/
theorem step_defined {look : Nat → Msg} {remote : Nat → Bool} {alloc : Nat → Nat} {s : St σ} {m f : Nat}
    (hW : WF h ev look init base s) (hck : ∃ x ∈ s.lp.logs, x.1 = 0)
    (h3 : f = 3 → Entry.past m ∈ s.lp.hist) : ∃ r, step h ev look remote alloc s m f = some r :=
  LPFull.step_defined hW.linv hW.sinv hck h3

/-- **(2) A local anti-message (`f = 3`) removes exactly its target.** If `m` is a processed entry, the history is
`A ++ G ++ past m :: B` (`G` = the sent entries of `m`'s own execution, `A` empty or ending with a processed message, `m` not in
`B`) and after the step: the history is exactly `A` (the entries BEFORE the target's group); every processed message after the
target is un-processed (to be re-queued), the target is un-processed with the `cancelled` mark (never re-queued), in this order;
`m` is released exactly once and nothing else is; an anti-message goes to exactly the sent entries of `G` and `B`; the early list
is untouched; the LP state is the fold over `A`. -/
theorem anti_removes_exactly_target {look : Nat → Msg} {remote : Nat → Bool} {alloc : Nat → Nat} {s s' : St σ} {m : Nat}
    {acts : List Action} (hI : LInv h ev init base s.lp) (hm : Entry.past m ∈ s.lp.hist)
    (hs : step h ev look remote alloc s m 3 = some (s', acts)) :
    ∃ A G B, s.lp.hist = A ++ G ++ Entry.past m :: B ∧ Entry.past m ∉ B ∧ (∀ g ∈ G, g.isPast = false) ∧
      (∀ e, A.getLast? = some e → e.isPast = true) ∧
      s'.lp.hist = A ∧ s'.earlyAntis = s.earlyAntis ∧
      s'.lp.st = replay h ev init (base ++ pastMsgs A) ∧
      unprocs acts = (m, true) :: (pastMsgs B).map (fun y => (y, false)) ∧
      frees acts = [m] ∧
      antis acts = G ++ B.filter Entry.isSent := by
  obtain ⟨k, hk, c⟩ := step_case hs
  -- with flag word 3 the dispatch is `match_anti_msg`, whatever the state
  cases (show Refine.kindOf look s m 3 = .antiRollback m from rfl).symm.trans hk
  cases c with
  | remoteAnti _ _ _ _ _ hf => exact absurd hf (by decide)
  | localAnti hd a hB =>
    have r := doRollback_spec hI hd
    obtain ⟨e1, e2, e3, e4⟩ := r.around a hB [] [.termRollback (ev m).t, .antiDiscard m 3, .free m] ⟨rfl, rfl⟩ ⟨rfl, rfl⟩
    refine ⟨_, _, _, a.eq, hB, a.sent, a.ends, e1, rfl, e2, e3, ?_, e4⟩
    rw [frees_append, r.frees]; rfl

/-- **(2') A remote anti-message whose event is processed removes exactly that event.** The target `x` is the LAST processed
entry carrying the (id word, m_seq) of the anti-message; same statement, and both buffers are released exactly once:
`frees = [x, m]`. -/
theorem remote_anti_removes_exactly_target {look : Nat → Msg} {remote : Nat → Bool} {alloc : Nat → Nat} {s s' : St σ}
    {m f : Nat} {acts : List Action} (hI : LInv h ev init base s.lp) (hf : f % 2 = 1) (hf3 : 3 < f)
    (hm : ∃ y, Entry.past y ∈ s.lp.hist ∧ keyAt look y = (f + 1, (look m).mSeq))
    (hs : step h ev look remote alloc s m f = some (s', acts)) :
    ∃ A G x B, s.lp.hist = A ++ G ++ Entry.past x :: B ∧ keyAt look x = (f + 1, (look m).mSeq) ∧
      (∀ y, Entry.past y ∈ B → keyAt look y ≠ (f + 1, (look m).mSeq)) ∧
      (∀ g ∈ G, g.isPast = false) ∧ (∀ e, A.getLast? = some e → e.isPast = true) ∧
      s'.lp.hist = A ∧ s'.earlyAntis = s.earlyAntis ∧
      s'.lp.st = replay h ev init (base ++ pastMsgs A) ∧
      unprocs acts = (x, true) :: (pastMsgs B).map (fun y => (y, false)) ∧
      frees acts = [x, m] ∧
      antis acts = G ++ B.filter Entry.isSent := by
  obtain ⟨y, hy, hky⟩ := hm
  obtain ⟨k, _, c⟩ := step_case hs
  cases c with
  | park _ _ h0 => exact absurd hky (findRemote_zero h0 y (pastMsgs_mem.mpr hy))
  | @remoteAnti A G B x lp' racts hd a hx hB =>
    have hBx : Entry.past x ∉ B := fun hm => hB x hm hx
    have r := doRollback_spec hI hd
    obtain ⟨e1, e2, e3, e4⟩ := r.around a hBx [.markAnti x] [.termRollback (ev x).t, .free x, .free m] ⟨rfl, rfl⟩ ⟨rfl, rfl⟩
    refine ⟨_, _, x, _, a.eq, hx, hB, a.sent, a.ends, e1, rfl, e2, e3, ?_, e4⟩
    rw [frees_append, show frees (Action.markAnti x :: racts) = frees racts from rfl, r.frees]; rfl
  | localAnti _ _ _ h3 => exact (not_local_of_gt hf3 (.inl h3)).elim
  | discard h1 => exact (not_local_of_gt hf3 (.inr h1)).elim
  | earlyMatch _ _ _ hev | straggler _ _ hev | inOrder _ hev => exact (not_even_of_odd hf hev).elim

/-- **(3) A remote event and its anti-message annihilate in either order.** `P.e` / `P.a`: the two messages, id word `P.w`,
sequence number `P.q`. Any run (process_msg steps on any messages, checkpoints, fossil collections) that satisfies the
environment's guarantees `Legal` (unique ids; `e` is dequeued only while it is in the queue, `a` once — see `OkOp`) and in which
the anti-message is dequeued at some point (`pre ++ [a] ++ post`). Whichever comes first — the event is a processed entry when
the anti-message is dequeued, or the event is dequeued (again) after it — at the end: `e` is not a processed entry, `a` is not on
the early list, each of the two buffers has been released exactly once over the whole trace, and the LP state is the fold over
the processed entries that remain. -/
theorem remote_cancel_any_order {P : Pair} (hP : P.Ok) {remote : Nat → Bool} {s0 s' : St σ} {T : Trace σ}
    (hE : ∃ base, LInv h ev init base s0.lp) (hfresh : P.Fresh s0)
    (pre post : List Op) (iA : Inp) (hA : iA.m = P.a)
    (hlegal : Legal P h ev remote false s0 (pre ++ Op.msg iA :: post))
    (hrun : run h ev remote s0 (pre ++ Op.msg iA :: post) = some (s', T))
    (hcomplete : (∃ s1 T1, run h ev remote s0 pre = some (s1, T1) ∧ P.e ∈ pastMsgs s1.lp.hist) ∨
                 (∃ op ∈ post, op.isE P = true)) :
    P.e ∉ pastMsgs s'.lp.hist ∧ P.a ∉ s'.earlyAntis ∧
    (frees (Trace.acts T)).count P.e = 1 ∧ (frees (Trace.acts T)).count P.a = 1 ∧
    ∃ base', s'.lp.st = replay h ev init (base' ++ pastMsgs s'.lp.hist) := by
  obtain ⟨h1, h2, h3, h4⟩ := remote_cancel_core hP hE hfresh pre post iA hA hlegal hrun hcomplete
  obtain ⟨b, hI⟩ := run_exact _ s0 s' T hE hrun
  exact ⟨h1, h2, h3, h4, b, hI.st_ok⟩

/-- (3') … and at EVERY moment of every legal run nothing is lost or released twice: before the anti-message is dequeued neither
buffer has been released; afterwards either the anti-message waits on the early list, the event is not processed and nothing has
been released (the event is still in the queue or on its way), or the pair is cancelled: each released exactly once. -/
theorem remote_pair_status {P : Pair} (hP : P.Ok) {remote : Nat → Bool} {s0 s' : St σ} {T : Trace σ}
    (hE : ∃ base, LInv h ev init base s0.lp) (hfresh : P.Fresh s0) (ops : List Op)
    (hlegal : Legal P h ev remote false s0 ops) (hrun : run h ev remote s0 ops = some (s', T)) :
    (ops.any (fun op => op.isA P) = false →
      P.a ∉ s'.earlyAntis ∧ (frees (Trace.acts T)).count P.e = 0 ∧ (frees (Trace.acts T)).count P.a = 0) ∧
    (ops.any (fun op => op.isA P) = true →
      (P.a ∈ s'.earlyAntis ∧ s'.earlyAntis.count P.a = 1 ∧ P.e ∉ pastMsgs s'.lp.hist ∧
        (frees (Trace.acts T)).count P.e = 0 ∧ (frees (Trace.acts T)).count P.a = 0) ∨
      (P.a ∉ s'.earlyAntis ∧ P.e ∉ pastMsgs s'.lp.hist ∧
        (frees (Trace.acts T)).count P.e = 1 ∧ (frees (Trace.acts T)).count P.a = 1)) := by
  have hinv := pinv_run hP ops false s0 s' [] T (pinv_init hfresh) hE hlegal hrun
  simp only [Bool.false_or, List.nil_append] at hinv
  refine ⟨fun hd => ?_, fun hd => ?_⟩
  · rw [hd] at hinv; exact hinv.before rfl
  · rw [hd] at hinv
    by_cases hm : P.a ∈ s'.earlyAntis
    · left
      obtain ⟨q1, q2, q3⟩ := hinv.parked rfl hm
      exact ⟨hm, Nat.le_antisymm hinv.a_once (List.count_pos_iff.mpr hm), q1, q2, q3⟩
    · right
      obtain ⟨q1, q2, q3⟩ := hinv.done rfl hm
      exact ⟨hm, q1, q2, q3⟩

/-- **(4) The early list is exact, over every run.** Starting from an empty list, after any run in which parked anti-messages have
pairwise different (id, seq) and keep them while they wait: `earlyAntis` is — element for element, newest first — the list of the
remote anti-messages dequeued so far that found no processed event with their (id, seq) in the history, and whose event has not
been dequeued since (`waiting`). -/
theorem early_list_exact {remote : Nat → Bool} (ops : List Op) (s0 s' : St σ) (T : Trace σ)
    (h0 : s0.earlyAntis = []) (hE : ∃ base, LInv h ev init base s0.lp)
    (hr : run h ev remote s0 ops = some (s', T))
    (hnd : ((T.filterMap parkedBy).map (·.2)).Nodup) (hks : KeysStable T) :
    s'.earlyAntis = (waiting T).map (·.1) :=
  earlyAntis_eq_waiting ops s0 s' T h0 hr hnd hks

/-- (4') `check_early_anti_messages` removes exactly one entry, the matching one, wherever it is in the list, keeps the others in
place, releases both buffers, and does not touch the LP -/
theorem check_early_removes_exactly_one {look : Nat → Msg} {remote : Nat → Bool} {alloc : Nat → Nat} (s : St σ) (m f b : Nat)
    (l1 l2 : List Nat) (hf : f % 2 = 0) (hf0 : f ≠ 0) (hl : s.earlyAntis = l1 ++ b :: l2)
    (hb : keyAt look b = (f + 2, (look m).mSeq)) (hl1 : ∀ c ∈ l1, keyAt look c ≠ (f + 2, (look m).mSeq)) :
    step h ev look remote alloc s m f =
      some ({ s with earlyAntis := l1 ++ l2 }, [.earlyMatch m b, .free m, .free b]) :=
  early_match_exact s m f b l1 l2 hf hf0 hl hb hl1

/-- (4'') … and when no waiting anti-message matches, the list is left alone and the event is processed -/
theorem check_early_no_match {look : Nat → Msg} {remote : Nat → Bool} {alloc : Nat → Nat} {s s' : St σ} {m f : Nat}
    {acts : List Action} (hI : LInv h ev init base s.lp) (hf : f % 2 = 0)
    (hno : ∀ c ∈ s.earlyAntis, keyAt look c ≠ (f + 2, (look m).mSeq))
    (hs : step h ev look remote alloc s m f = some (s', acts)) :
    s'.earlyAntis = s.earlyAntis ∧ (∃ k, pastMsgs s'.lp.hist = pastMsgs (s.lp.hist.take k) ++ [m]) ∧ frees acts = [] := by
  rcases step_summary hI hs with ⟨h1, _⟩ | ⟨h1, _⟩ | ⟨hf', _⟩ | ⟨_, _, b, l1, l2, hl, hb, _⟩ | ⟨_, _, k, hh, he, hfr⟩
  · exact (not_even_of_odd h1 hf).elim
  · exact (not_even_of_odd h1 hf).elim
  · exact (not_even_of_odd (odd_of_local hf') hf).elim
  · exact absurd hb (hno b (by rw [hl]; exact List.mem_append_right _ (List.mem_cons_self ..)))
  · exact ⟨he, ⟨k, hh⟩, hfr⟩

/-- (4) with hypotheses on the INPUTS only: the dequeued remote anti-messages have pairwise different (id, seq), and one snapshot
function `lk`, used by every step, shows on each of them the word and sequence number it is dequeued with -/
theorem early_list_exact_of_inputs {remote : Nat → Bool} (ops : List Op) (s0 s' : St σ) (T : Trace σ) (lk : Nat → Msg)
    (h0 : s0.earlyAntis = []) (hE : ∃ base, LInv h ev init base s0.lp)
    (hr : run h ev remote s0 ops = some (s', T))
    (hnd : (ops.filterMap Op.antiKey?).Nodup)
    (hlk : ∀ op ∈ ops, ∀ i, op = Op.msg i → i.look = lk ∧ (i.f % 2 = 1 → 3 < i.f → keyAt lk i.m = i.antiKey)) :
    s'.earlyAntis = (waiting T).map (·.1) :=
  early_list_exact ops s0 s' T h0 hE hr (parked_nodup_of_ops hr hnd) (keysStable_of_const lk hr hlk)

/-! ## Non-vacuity: one concrete LP, every branch, every theorem's hypotheses -/

/-- time stamps: message ordinal `m` carries time `10 m`, except the straggler 35 (time 35) -/
def exT : Nat → Nat := fun m => if m = 35 then 35 else 10 * m
/-- handler: the state records the processed time stamps; every event of type 1 schedules one event for LP 1 (this rank) and one
for LP 7 (another rank) -/
def exH : List Nat → Event → List Nat × List Event := fun s e =>
  (s ++ [e.t], if e.type = 1 then [{ dest := 1, t := e.t + 5, type := 2, payload := [] },
                                   { dest := 7, t := e.t + 6, type := 2, payload := [] }] else [])
def exEv : Nat → Event := fun m => { dest := 0, t := exT m, type := 1, payload := [] }
def exRemote : Nat → Bool := fun d => decide (4 ≤ d)
/-- flag / id words: 3 is a processed remote event (id word 40, so 42 once processed) with sequence number 7, 50 its
anti-message; 60 and 61 are parked remote anti-messages (words 82, 86; sequence numbers 1, 2); 70 is the remote event of 60
(id word 80, sequence number 1); everything else is local and processed (word 2) -/
def exFlags : Nat → Nat := fun m => if m = 3 then 42 else if m = 50 then 43 else if m = 60 then 82 else if m = 61 then 86
  else if m = 70 then 82 else 2
def exSeq : Nat → Nat := fun m => if m = 3 then 7 else if m = 50 then 7 else if m = 60 then 1 else if m = 61 then 2
  else if m = 70 then 1 else 0
def exLook : Nat → Msg := fun m =>
  { destT := exT m, rawFlags := exFlags m, mSeq := exSeq m, mType := 1, plSize := 0, pl := [] }

/-- four processed messages with local and remote sent entries in between, two checkpoints, two parked anti-messages -/
def exS : St (List Nat) :=
  { lp := { hist := [.past 1, .sent 101, .rsent 102, .past 2, .sent 103, .rsent 104, .past 3, .sent 105, .rsent 106, .past 4]
            logs := [(0, []), (4, [10, 20])], st := [10, 20, 30, 40], bound := some 40 }
    earlyAntis := [61, 60] }

def view (r : Option (St (List Nat) × List Action)) :=
  r.map (fun x => (x.1.lp.hist, x.1.lp.st, x.1.lp.logs, x.1.lp.bound, x.1.earlyAntis, x.2))

/-- the state satisfies the invariant -/
theorem exS_wf : WF exH exEv exLook [] [] exS :=
  ⟨⟨by decide, by decide, by decide⟩, SInv.of_checks 40 rfl (by decide) (by decide) rfl⟩

example : ∃ x ∈ exS.lp.logs, x.1 = 0 := ⟨(0, []), by decide, rfl⟩

/-- local anti-message (`f = 3`) for message 2, a target in the middle of the history: the history shrinks to `[past 1]`; 101, 102
(sent by 2 itself), 103 … 106 are cancelled; 3 and 4 are un-processed (re-queued), 2 with the `cancelled` mark; 2 is released -/
example : view (step exH exEv exLook exRemote (fun k => 200 + k) exS 2 3) =
    some ([.past 1], [10], [(0, [])], some 40, [61, 60],
      [.antiLocal 101, .antiRemote 102, .freeAtGvt 102, .unproc 2 true, .antiLocal 103, .antiRemote 104, .freeAtGvt 104,
       .unproc 3 false, .antiLocal 105, .antiRemote 106, .freeAtGvt 106, .unproc 4 false, .rollback 1 0, .silent 0 1,
       .rollbackDone 1, .termRollback 20, .antiDiscard 2 3, .free 2]) := by rfl
example : Entry.past 2 ∈ exS.lp.hist := by decide +kernel

/-- remote anti-message 50 (flag word 41 = id 40 + ANTI) for the processed remote event 3: found by (42, 7), rollback to the start of
3's group (index 4 = a checkpoint: nothing to re-execute), both released -/
example : view (step exH exEv exLook exRemote (fun k => 200 + k) exS 50 41) =
    some ([.past 1, .sent 101, .rsent 102, .past 2], [10, 20], [(0, []), (4, [10, 20])], some 40, [61, 60],
      [.markAnti 3, .antiLocal 103, .antiRemote 104, .freeAtGvt 104, .unproc 3 true, .antiLocal 105, .antiRemote 106,
       .freeAtGvt 106, .unproc 4 false, .rollback 4 4, .rollbackDone 4, .termRollback 30, .free 3, .free 50]) := by rfl
example : ∃ y, Entry.past y ∈ exS.lp.hist ∧ keyAt exLook y = (41 + 1, (exLook 50).mSeq) := ⟨3, by decide, by decide⟩

/-- remote anti-message 91 whose event has not arrived: parked in front of the two already waiting -/
example : view (step exH exEv exLook exRemote (fun k => 200 + k) exS 91 91) =
    some (exS.lp.hist, [10, 20, 30, 40], exS.lp.logs, some 40, [91, 61, 60], [.earlyPark 91]) := by rfl

/-- remote event 70 (id word 80, sequence number 1): its anti-message 60 is the SECOND entry of the early list; exactly that entry is
unlinked, 61 stays, nothing is processed -/
example : view (step exH exEv exLook exRemote (fun k => 200 + k) exS 70 80) =
    some (exS.lp.hist, [10, 20, 30, 40], exS.lp.logs, some 40, [61], [.earlyMatch 70 60, .free 70, .free 60]) := by rfl
example : exS.earlyAntis = [61] ++ 60 :: [] ∧ keyAt exLook 60 = (80 + 2, (exLook 70).mSeq) ∧
    (∀ c ∈ [61], keyAt exLook c ≠ (80 + 2, (exLook 70).mSeq)) := by decide +kernel

/-- local anti-message of a message that was never processed (`f = 1`): discarded -/
example : view (step exH exEv exLook exRemote (fun k => 200 + k) exS 90 1) =
    some (exS.lp.hist, [10, 20, 30, 40], exS.lp.logs, some 40, [61, 60], [.antiDiscard 90 1, .free 90]) := by rfl

/-- ordinary message 5 (time 50, not a straggler): processed, one local and one remote output -/
example : view (step exH exEv exLook exRemote (fun k => 200 + k) exS 5 0) =
    some (exS.lp.hist ++ [.sent 200, .rsent 201, .past 5], [10, 20, 30, 40, 50], exS.lp.logs, some 50, [61, 60],
      [.send 200 { dest := 1, t := 55, type := 2, payload := [] }, .rsend 201 { dest := 7, t := 56, type := 2, payload := [] },
       .forward 5 12]) := by rfl

/-- straggler 35 (time 35): message 4 is undone and re-queued, its outputs cancelled, then 35 is processed -/
example : view (step exH exEv exLook exRemote (fun k => 200 + k) exS 35 0) =
    some ([.past 1, .sent 101, .rsent 102, .past 2, .sent 103, .rsent 104, .past 3, .sent 200, .rsent 201, .past 35],
      [10, 20, 30, 35], [(0, []), (4, [10, 20])], some 35, [61, 60],
      [.antiLocal 105, .antiRemote 106, .freeAtGvt 106, .unproc 4 false, .rollback 7 4, .silent 6 3, .rollbackDone 7,
       .termRollback 35, .send 200 { dest := 1, t := 40, type := 2, payload := [] },
       .rsend 201 { dest := 7, t := 41, type := 2, payload := [] }, .forward 35 9]) := by rfl
example : (exLook 35).WF ∧ (exLook 35).destT = (exEv 35).t ∧ (exLook 35).rawFlags = 0 + 2 := by decide +kernel

/-! ### the target at index 0 of the history, after a fossil collection -/

/-- message 3 produced no output; the checkpoint (3, [10, 20]) is the one fossil collection at GVT 25 keeps -/
def exS2 : St (List Nat) :=
  { lp := { hist := [.past 1, .sent 101, .past 2, .past 3, .sent 105, .past 4]
            logs := [(0, []), (3, [10, 20])], st := [10, 20, 30, 40], bound := some 40 } }

def inp (m f : Nat) : Inp := { m := m, f := f, look := exLook, alloc := fun k => 200 + 10 * m + k }

def viewR (r : Option (St (List Nat) × Trace (List Nat))) :=
  r.map (fun x => (x.1.lp.hist, x.1.lp.st, x.1.lp.logs, x.1.lp.bound, x.1.earlyAntis, Trace.acts x.2))

example : LInv exH exEv [] [] exS2.lp := ⟨by decide, by decide, by decide⟩

/-- fossil collection releases 2 and 1 (index 2 down to 0, the local sent entry 101 is only dropped) and leaves `[past 3, sent 105,
past 4]` with the checkpoint rebased to 0; then the remote anti-message 50 finds its event 3 in slot 0: rollback to index 0, the
history becomes empty, `bound` becomes -1 (`none`), the state is the checkpoint's (= the fold over the committed 1, 2) -/
example : viewR (run exH exEv exRemote exS2 [.fossil 25 1, .msg (inp 50 41)]) =
    some ([], [10, 20], [(0, [10, 20])], none, [],
      [.free 2, .free 1,
       .markAnti 3, .unproc 3 true, .antiLocal 105, .unproc 4 false, .rollback 0 0, .rollbackDone 0, .termRollback 30,
       .free 3, .free 50]) := by rfl

/-! ### a remote event and its anti-message: three orders -/

def exS0 : St (List Nat) := { exS with earlyAntis := [61] }
/-- event 70 (id word 80, sequence number 1) and its anti-message 60 -/
def exP : Pair := { e := 70, a := 60, w := 80, q := 1 }
example : exP.Ok := ⟨by decide, by decide, by decide⟩
example : exP.Fresh exS0 := ⟨by decide, by decide, by decide, by decide⟩
example : ∃ base, LInv exH exEv [] base exS0.lp := ⟨[], exS_wf.linv⟩

/-- A: the anti-message first (parked), an unrelated message in between, then the event (annihilated on arrival) -/
def opsA : List Op := [.msg (inp 60 81), .msg (inp 5 0), .msg (inp 70 80)]
/-- B: the event first (processed), a checkpoint and an unrelated local anti-message, then the anti-message (rollback) -/
def opsB : List Op := [.msg (inp 70 80), .ckpt, .msg (inp 90 1), .msg (inp 60 81)]
/-- C: the event is processed, a straggler (5, time 50 < 700) rolls it back into the queue, the anti-message arrives and must
wait, the event is dequeued again and annihilated -/
def opsC : List Op := [.msg (inp 70 80), .msg (inp 5 0), .msg (inp 60 81), .ckpt, .msg (inp 70 80)]

example : Legal exP exH exEv exRemote false exS0 opsA := by decide +kernel
example : Legal exP exH exEv exRemote false exS0 opsB := by decide +kernel
example : Legal exP exH exEv exRemote false exS0 opsC := by decide +kernel

/-- `hcomplete` in the three orders -/
example : ∃ op ∈ [Op.msg (inp 5 0), Op.msg (inp 70 80)], op.isE exP = true := ⟨_, List.mem_cons_of_mem _ (List.mem_singleton.mpr rfl), rfl⟩
example : ∃ s1 T1, run exH exEv exRemote exS0 [.msg (inp 70 80), .ckpt, .msg (inp 90 1)] = some (s1, T1) ∧
    exP.e ∈ pastMsgs s1.lp.hist := by
  have h1 : (run exH exEv exRemote exS0 [.msg (inp 70 80), .ckpt, .msg (inp 90 1)]).map
      (fun r => decide (exP.e ∈ pastMsgs r.1.lp.hist)) = some true := by decide +kernel
  cases hr : run exH exEv exRemote exS0 [.msg (inp 70 80), .ckpt, .msg (inp 90 1)] with
  | none => rw [hr] at h1; cases h1
  | some r =>
    rw [hr] at h1
    exact ⟨r.1, r.2, rfl, by simpa using h1⟩
example : ∃ op ∈ [Op.ckpt, Op.msg (inp 70 80)], op.isE exP = true := ⟨_, List.mem_cons_of_mem _ (List.mem_singleton.mpr rfl), rfl⟩

/-- the three runs are defined and end in the same cancelled situation: 70 is not processed, 60 is not waiting, each released once -/
def viewP (r : Option (St (List Nat) × Trace (List Nat))) :=
  r.map (fun x => (pastMsgs x.1.lp.hist, x.1.lp.st, x.1.earlyAntis, frees (Trace.acts x.2)))
example : viewP (run exH exEv exRemote exS0 opsA) = some ([1, 2, 3, 4, 5], [10, 20, 30, 40, 50], [61], [70, 60]) := by decide +kernel
example : viewP (run exH exEv exRemote exS0 opsB) = some ([1, 2, 3, 4], [10, 20, 30, 40], [61], [90, 70, 60]) := by decide +kernel
example : viewP (run exH exEv exRemote exS0 opsC) = some ([1, 2, 3, 4, 5], [10, 20, 30, 40, 50], [61], [70, 60]) := by decide +kernel

/-! ### the early list over a run -/

def exS1 : St (List Nat) := { exS with earlyAntis := [] }
/-- two anti-messages are parked (60, then 61), an unrelated message is processed, the event of the OLDER one (60) arrives -/
def opsE : List Op := [.msg (inp 60 81), .msg (inp 61 85), .msg (inp 5 0), .msg (inp 70 80)]

example : (opsE.filterMap Op.antiKey?).Nodup := by decide +kernel
example : ∀ op ∈ opsE, ∀ i, op = Op.msg i →
    i.look = exLook ∧ (i.f % 2 = 1 → 3 < i.f → keyAt exLook i.m = i.antiKey) := by
  intro op hop i hi
  simp only [opsE, List.mem_cons, List.not_mem_nil, or_false] at hop
  rcases hop with rfl | rfl | rfl | rfl <;> (cases hi; exact ⟨rfl, by decide⟩)
example : (run exH exEv exRemote exS1 opsE).map (fun r => (r.1.earlyAntis, (waiting r.2).map (·.1))) =
    some ([61], [61]) := by decide +kernel
/-- … and before the event arrives both wait, newest first -/
example : (run exH exEv exRemote exS1 (opsE.take 3)).map (fun r => (r.1.earlyAntis, (waiting r.2).map (·.1))) =
    some ([61, 60], [61, 60]) := by decide +kernel

/-- Why (3) is not stated as "after both have been dequeued": in run C, after the event, the straggler and the anti-message —
both members of the pair HAVE been dequeued — the anti-message is waiting on the early list and nothing has been released: the
straggler's rollback put the event back into the queue (`unproc 70 false`), and only its second dequeue completes the
cancellation. `remote_pair_status` covers this intermediate situation, `remote_cancel_any_order` the completed one. -/
theorem both_dequeued_is_not_enough :
    (run exH exEv exRemote exS0 (opsC.take 3)).map (fun r =>
      (r.1.earlyAntis, pastMsgs r.1.lp.hist, frees (Trace.acts r.2), (unprocs (Trace.acts r.2)).filter (fun x => x.1 == 70))) =
    some ([60, 61], [1, 2, 3, 4, 5], [], [(70, false)]) := by decide +kernel

end RootSim.C06LP
