import RootSim.Proofs.TimeWarpDProgress
import RootSim.Props.C01GlueV2
/-!
# Time Warp with the straggler rule of the CODE (speculation on doomed entries) equals the sequential execution

`Props/C01GlueV2.lean` proves the end-to-end theorems for the abstract global Time Warp machine of
`Model/TimeWarpG.lean`, whose `exec` cuts a history by the CONTENT order. The code compares flag words
(`src/lp/msg.h: msg_is_before_extended`, first criterion: the ANTI bit): a processed entry that its sender has
already cancelled ("doomed") stops the backward scan of `match_straggler_msg` (and the straggler test of
`process_msg`) for every incoming message with the SAME time stamp, so the code may process a message ON TOP of a
doomed entry that is after it by content (`C01Refine.cmpOk_is_needed`, `Driver/Run.lean: Sys.gapAt`). That step
is not a step of the machine of `Model/TimeWarpG.lean`; it is a step of the machine of `Model/TimeWarpD.lean`
(`TWD`), which contains every TWG step (`twg_step_is_twd_step`).

**Result.** The relaxed machine is CORRECT. For every model satisfying the runtime's real contract `Spec.V2`,
every TWD-reachable state, every lower bound `g` of what is pending, every LP: `tw_prefix_of_sequential_D`,
`tw_equals_sequential_D`, `tw_committed_prefix_of_sequential_D`, `tw_sequential_run_exists_D`,
`tw_quiescent_equals_sequential_D`, `tw_quiescent_final_D`, `tw_quiescent_is_sequential_D`,
`tw_schedule_independent_D`, `tw_committed_monotone_D` have EXACTLY the conclusions of their `_V2` counterparts
(about `histOf s`, the whole histories).

**What changes.** The whole history of an LP is no longer sorted by the event order (an entry processed on top
of a doomed entry may be before it), so `Spec.Hist M (histOf s) g` — the literal conclusion of
`reachable_hist_V2` — is FALSE for this machine (`reachable_hist_D_literal_refuted`, kernel-checked on the
replayed scenario). It holds, together with `Spec.Progress`, for the UNTAINTED prefixes `TWD.cleanOf s` (the
entries before the first doomed entry of each LP: `reachable_hist_D`, `reachable_progress_D`), and below every
lower bound `g` the untainted prefix and the whole history coincide (`below_bound_untainted`): a doomed entry's
anti-message is in `antis`, so its time stamp is `≥ g`, and every history is sorted by TIME STAMP
(`reachable_invariant_D`), so everything after a doomed entry is `≥ g` too.

The invariant (`Proofs/TimeWarpD.lean`): the split-independent part of `TWG.GInv` (well-formedness, tagged
counting I2, ghost creation order) holds for ANY cut; "doomed" is a STABLE property of an entry (processing
steps are unique, the creation step of an anti-message is the step of an undone invocation, hence for the tag of
an anti-message `pending + processed = antis`: every doomed entry has its own anti-message); every history is
sorted by time stamp; every prefix of a history without doomed entries is sorted by the event order.
-/
namespace RootSim.C01GlueD
open RootSim RootSim.Spec RootSim.TWG RootSim.TWD

variable {σ : Type} {M : SimModel σ} {s s' : TWGState} {g g' : Nat}

/-! ### The relaxed machine contains the machine of `Model/TimeWarpG.lean` -/

/-- every step of the content-rule machine is a step of the machine with the code's rule (`V = []`) -/
theorem twg_step_is_twd_step {s₁ s₂ : TWGState} (h : TWG.Step M s₁ s₂) : TWD.Step M s₁ s₂ :=
  TWD.twg_step_is_twd_step h

theorem twg_reachable_is_twd_reachable (h : TWG.Reachable M s) : TWD.Reachable M s :=
  TWD.twg_reachable_is_twd_reachable h

/-- a TWG action is the TWD action that keeps no extra entry -/
theorem twg_action_is_twd_action (s : TWGState) (a : TWG.Action) :
    TWD.step? M s (TWD.ofTWG a) = TWG.step? M s a :=
  TWD.step?_ofTWG s a

/-- the executable step function performs exactly the steps of the relation the theorems are about (the split
point is part of the `exec` action) -/
theorem step_function_exact_D {s₁ s₂ : TWGState} :
    TWD.Step M s₁ s₂ ↔ ∃ a, TWD.step? M s₁ a = some s₂ :=
  ⟨TWD.step?_complete, fun ⟨_, h⟩ => TWD.step?_sound h⟩

/-- **The invariant under V2.** (I1') well-formed histories, sorted by TIME STAMP, every prefix without doomed
entries sorted by the event order; (I2) `pending + processed = sent + anti` for every tagged message, whatever
the cuts; (G) the ghost order; (D) processing steps are unique across LPs and no entry of any history was
processed at the creation step of an anti-message (so a doomed entry stays doomed until it is undone). -/
theorem reachable_invariant_D (V : V2 M) (hr : TWD.Reachable M s) :
    (∀ ℓ, ℓ < M.nLps → (histOf s ℓ).head? = some (initEv ℓ) ∧
      (∀ e ∈ (histOf s ℓ).tail, e.dest = ℓ ∧ e.type < LP_INIT) ∧
      (histOf s ℓ).Pairwise (fun a b => a.t ≤ b.t)) ∧
    (∀ ℓ n, (∀ u ∈ (s.past ℓ).tail.take n, ¬ Doomed s u) →
      (evs ((s.past ℓ).tail.take n)).Pairwise (fun a b => Event.before b a = false)) ∧
    (∀ ℓ, M.nLps ≤ ℓ → s.past ℓ = []) ∧
    (∀ x ∈ s.pending ++ s.antis, x.ev.dest < M.nLps ∧ x.ev.type < LP_INIT) ∧
    (∀ x : TMsg,
      s.pending.count x +
          ((List.range M.nLps).flatMap (fun ℓ => (s.past ℓ).tail.map TEntry.msg)).count x =
        (toutsAll M s.past).count x + s.antis.count x) ∧
    (∀ ℓ, ∀ u ∈ (s.past ℓ).tail, u.cr < u.pr) ∧
    (∀ ℓ, (s.past ℓ).Pairwise (fun a b => a.pr < b.pr)) ∧
    (∀ x ∈ s.pending, x.cr < s.now) ∧ (∀ ℓ, ∀ u ∈ s.past ℓ, u.pr < s.now) ∧
    (∀ ℓ ℓ', ∀ u ∈ s.past ℓ, ∀ u' ∈ s.past ℓ', 0 < u.pr → u.pr = u'.pr → ℓ = ℓ') ∧
    (∀ a ∈ s.antis, ∀ ℓ, ∀ u ∈ s.past ℓ, u.pr ≠ a.cr) := by
  have I := reachable_dinv V hr
  exact ⟨fun ℓ hℓ => ⟨I.b.core.hist_head hℓ, I.b.core.hist_dest hℓ, I.hist_tsorted hℓ⟩, I.s.csorted,
    I.b.out, List.forall_mem_append.mpr ⟨I.b.pendOk, I.b.antiOk⟩, I.b.cnt, I.b.crLt, I.b.prInc, I.b.pendCr,
    I.b.prLt, I.b.prUniq, I.b.antiFresh⟩

/-- **Below a lower bound nothing is tainted**: every entry from the first doomed entry of an LP on has a time
stamp `≥ g` … -/
theorem tainted_above_bound (V : V2 M) (hr : TWD.Reachable M s) (ha : ∀ x ∈ s.antis, g ≤ x.ev.t) (ℓ : Nat) :
    s.past ℓ = cleanPast s ℓ ++ taintedPast s ℓ ∧ ∀ u ∈ taintedPast s ℓ, g ≤ u.ev.t :=
  ⟨past_split s ℓ, (reachable_dinv V hr).tainted_ge ha ℓ⟩

/-- … so below `g` the untainted prefix IS the history -/
theorem below_bound_untainted (V : V2 M) (hr : TWD.Reachable M s) (ha : ∀ x ∈ s.antis, g ≤ x.ev.t) (ℓ : Nat) :
    (cleanOf s ℓ).filter (below g) = (histOf s ℓ).filter (below g) :=
  (reachable_dinv V hr).clean_filter ha ℓ

/-- without anti-messages nothing is tainted -/
theorem untainted_of_no_antis (ha : s.antis = []) : cleanOf s = histOf s := cleanOf_eq_histOf ha

/-! ### Glue (E): `Hist` and `Progress` for the untainted prefixes -/

/-- the literal conclusion of `C01GlueV2.reachable_hist_V2` (about the WHOLE histories) — FALSE for this machine,
see `reachable_hist_D_literal_refuted` -/
def reachable_hist_D_literalStatement : Prop :=
  ∀ (σ : Type) (M : SimModel σ) (s : TWGState) (g : Nat), V2 M → TWD.Reachable M s →
    (∀ x ∈ s.pending, g ≤ x.ev.t) → (∀ x ∈ s.antis, g ≤ x.ev.t) → Spec.Hist M (histOf s) g

/-- **Glue (E), first half**: H1–H3 at every lower bound `g` of what is pending, for the untainted prefixes of
the histories (which are the histories below `g`: `below_bound_untainted`). -/
theorem reachable_hist_D (V : V2 M) (hr : TWD.Reachable M s)
    (hp : ∀ x ∈ s.pending, g ≤ x.ev.t) (ha : ∀ x ∈ s.antis, g ≤ x.ev.t) :
    Spec.Hist M (cleanOf s) g :=
  (reachable_dinv V hr).hist V hp ha

/-- **Glue (E), second half**: a sequential run that has followed the untainted prefixes so far can always
continue along them. -/
theorem reachable_progress_D (V : V2 M) (hr : TWD.Reachable M s)
    (hp : ∀ x ∈ s.pending, g ≤ x.ev.t) (ha : ∀ x ∈ s.antis, g ≤ x.ev.t) :
    Spec.Progress M (cleanOf s) g :=
  (reachable_dinv V hr).progress V hp ha

/-- `Progress` holds literally for the WHOLE histories too (exactly the conclusion of `C01GlueV2.reachable_progress_V2`); without
`Hist` of the whole histories it is of no use, the theorems below go through `cleanOf s`. -/
theorem reachable_progress_D_literal (V : V2 M) (hr : TWD.Reachable M s)
    (hp : ∀ x ∈ s.pending, g ≤ x.ev.t) (ha : ∀ x ∈ s.antis, g ≤ x.ev.t) :
    Spec.Progress M (histOf s) g :=
  (reachable_dinv V hr).progress_full V hp ha

/-! ### The end-to-end theorems (conclusions exactly as in `Props/C01GlueV2.lean`) -/

/-- the sequential runs can follow the untainted prefixes (which are the histories below `g`) -/
theorem reachable_followable_D (V : V2 M) (hr : TWD.Reachable M s)
    (hp : ∀ x ∈ s.pending, g ≤ x.ev.t) (ha : ∀ x ∈ s.antis, g ≤ x.ev.t) : Followable M (cleanOf s) g :=
  .of_V2 (reachable_hist_D V hr hp ha) V (reachable_progress_D V hr hp ha)

/-- below `g`, what ANY sequential run has dispatched to an LP is a prefix of what the optimistic LP
has processed and not undone -/
theorem tw_prefix_of_sequential_D (V : V2 M) (hr : TWD.Reachable M s)
    (hp : ∀ x ∈ s.pending, g ≤ x.ev.t) (ha : ∀ x ∈ s.antis, g ≤ x.ev.t)
    {q : SeqState σ} (hq : Spec.Reachable M q) {ℓ : Nat} (hℓ : ℓ < M.nLps) :
    (q.disp ℓ).filter (below g) <+: (histOf s ℓ).filter (below g) := by
  rw [← below_bound_untainted V hr ha ℓ]
  exact ((reachable_followable_D V hr hp ha).prefix_unique hq hℓ).1

/-- **`tw_equals_sequential` for the machine with the code's straggler rule.** Once the sequential run has
nothing below `g` pending, the two sequences below `g` are EQUAL, and so are the LP states they produce. -/
theorem tw_equals_sequential_D (V : V2 M) (hr : TWD.Reachable M s)
    (hp : ∀ x ∈ s.pending, g ≤ x.ev.t) (ha : ∀ x ∈ s.antis, g ≤ x.ev.t)
    {q : SeqState σ} (hq : Spec.Reachable M q) (hl : ∀ x ∈ q.pending, g ≤ x.t)
    {ℓ : Nat} (hℓ : ℓ < M.nLps) :
    (q.disp ℓ).filter (below g) = (histOf s ℓ).filter (below g) ∧
    lpState M ℓ ((q.disp ℓ).filter (below g)) = lpState M ℓ ((histOf s ℓ).filter (below g)) := by
  rw [← below_bound_untainted V hr ha ℓ]
  exact and_lpState_eq (((reachable_followable_D V hr hp ha).prefix_unique hq hℓ).2 hl)

/-- the committed part of an optimistic history is a prefix of the history itself and of the dispatch
sequence of every sequential run that has passed `g` -/
theorem tw_committed_prefix_of_sequential_D (V : V2 M) (hr : TWD.Reachable M s)
    (hp : ∀ x ∈ s.pending, g ≤ x.ev.t) (ha : ∀ x ∈ s.antis, g ≤ x.ev.t)
    {q : SeqState σ} (hq : Spec.Reachable M q) (hl : ∀ x ∈ q.pending, g ≤ x.t)
    {ℓ : Nat} (hℓ : ℓ < M.nLps) :
    (histOf s ℓ).filter (below g) <+: histOf s ℓ ∧ (histOf s ℓ).filter (below g) <+: q.disp ℓ := by
  refine ⟨tsorted_filter_prefix_self _ ((reachable_dinv V hr).hist_tsorted hℓ), ?_⟩
  rw [← below_bound_untainted V hr ha ℓ]
  have F := reachable_followable_D V hr hp ha
  exact (F.phase2 hq hl).filter_prefix F.hist hℓ

/-- the equality case is never vacuous: some sequential run does execute everything below `g` -/
theorem tw_sequential_run_exists_D (V : V2 M) (hr : TWD.Reachable M s)
    (hp : ∀ x ∈ s.pending, g ≤ x.ev.t) (ha : ∀ x ∈ s.antis, g ≤ x.ev.t) :
    ∃ q, Spec.Reachable M q ∧ ∀ x ∈ q.pending, g ≤ x.t := by
  obtain ⟨q, hq, _, hl⟩ := (reachable_followable_D V hr hp ha).exists_run
  exact ⟨q, hq, hl⟩

/-- in a reachable state with nothing pending and no anti-message the statement holds for EVERY `g` … -/
theorem tw_quiescent_equals_sequential_D (V : V2 M) (hr : TWD.Reachable M s)
    (hp : s.pending = []) (ha : s.antis = []) (g : Nat)
    {q : SeqState σ} (hq : Spec.Reachable M q) {ℓ : Nat} (hℓ : ℓ < M.nLps) :
    (q.disp ℓ).filter (below g) <+: (histOf s ℓ).filter (below g) ∧
    ((∀ x ∈ q.pending, g ≤ x.t) →
      (q.disp ℓ).filter (below g) = (histOf s ℓ).filter (below g) ∧
      lpState M ℓ ((q.disp ℓ).filter (below g)) = lpState M ℓ ((histOf s ℓ).filter (below g))) :=
  ⟨tw_prefix_of_sequential_D V hr (forall_mem_nil hp _) (forall_mem_nil ha _) hq hℓ,
   fun hl => tw_equals_sequential_D V hr (forall_mem_nil hp _) (forall_mem_nil ha _) hq hl hℓ⟩

/-- **`tw_quiescent_final` for the machine with the code's straggler rule.** Every FINISHED sequential run has
dispatched exactly the optimistic histories and ended in exactly the LP states that are the folds of the
handler over them. -/
theorem tw_quiescent_final_D (V : V2 M) (hr : TWD.Reachable M s)
    (hp : s.pending = []) (ha : s.antis = [])
    {q : SeqState σ} (hq : Spec.Reachable M q) (hqp : q.pending = []) {ℓ : Nat} (hℓ : ℓ < M.nLps) :
    q.disp ℓ = histOf s ℓ ∧ q.st ℓ = lpState M ℓ (histOf s ℓ) :=
  PrefixUnique.disp_and_state hq (C01Glue.eq_of_filter_below fun g =>
    ((tw_quiescent_equals_sequential_D V hr hp ha g hq hℓ).2 (forall_mem_nil hqp _)).1)

/-- a quiescent optimistic state IS a final state of some run of the sequential executor -/
theorem tw_quiescent_is_sequential_D (V : V2 M) (hr : TWD.Reachable M s)
    (hp : s.pending = []) (ha : s.antis = []) :
    ∃ q, Spec.Reachable M q ∧ q.pending = [] ∧
      ∀ ℓ, ℓ < M.nLps → q.disp ℓ = histOf s ℓ ∧ q.st ℓ = lpState M ℓ (histOf s ℓ) := by
  obtain ⟨q, hq, hqp, hd⟩ := (reachable_dinv V hr).quiescent_sequential V hp ha
  exact ⟨q, hq, hqp, fun ℓ hℓ => PrefixUnique.disp_and_state hq (hd ℓ hℓ)⟩

/-- **`tw_schedule_independent` (C09 at protocol level) for the machine with the code's straggler rule.** -/
theorem tw_schedule_independent_D (V : V2 M) (hr : TWD.Reachable M s) (hr' : TWD.Reachable M s')
    (hp : ∀ x ∈ s.pending, g ≤ x.ev.t) (ha : ∀ x ∈ s.antis, g ≤ x.ev.t)
    (hp' : ∀ x ∈ s'.pending, g ≤ x.ev.t) (ha' : ∀ x ∈ s'.antis, g ≤ x.ev.t)
    {ℓ : Nat} (hℓ : ℓ < M.nLps) :
    (histOf s ℓ).filter (below g) = (histOf s' ℓ).filter (below g) ∧
    lpState M ℓ ((histOf s ℓ).filter (below g)) = lpState M ℓ ((histOf s' ℓ).filter (below g)) := by
  rw [← below_bound_untainted V hr ha ℓ, ← below_bound_untainted V hr' ha' ℓ]
  exact and_lpState_eq ((reachable_followable_D V hr hp ha).history_unique
    (reachable_followable_D V hr' hp' ha') hℓ)

/-- **`tw_committed_monotone` (C03 at protocol level) for the machine with the code's straggler rule.** -/
theorem tw_committed_monotone_D (V : V2 M) (hr : TWD.Reachable M s) (hr' : TWD.Reachable M s')
    (hgg : g' ≤ g)
    (hp : ∀ x ∈ s.pending, g' ≤ x.ev.t) (ha : ∀ x ∈ s.antis, g' ≤ x.ev.t)
    (hp' : ∀ x ∈ s'.pending, g ≤ x.ev.t) (ha' : ∀ x ∈ s'.antis, g ≤ x.ev.t)
    {ℓ : Nat} (hℓ : ℓ < M.nLps) :
    (histOf s ℓ).filter (below g') <+: (histOf s' ℓ).filter (below g) := by
  rw [← below_bound_untainted V hr ha ℓ, ← below_bound_untainted V hr' ha' ℓ]
  exact Followable.committed_prefix hgg (reachable_followable_D V hr hp ha)
    (reachable_followable_D V hr' hp' ha') hℓ

/-- a state reached by the content-rule machine and a state reached with the code's rule agree below every
common lower bound (so the two machines commit the same things) -/
theorem twd_agrees_with_twg (V : V2 M) (hr : TWG.Reachable M s) (hr' : TWD.Reachable M s')
    (hp : ∀ x ∈ s.pending, g ≤ x.ev.t) (ha : ∀ x ∈ s.antis, g ≤ x.ev.t)
    (hp' : ∀ x ∈ s'.pending, g ≤ x.ev.t) (ha' : ∀ x ∈ s'.antis, g ≤ x.ev.t)
    {ℓ : Nat} (hℓ : ℓ < M.nLps) :
    (histOf s ℓ).filter (below g) = (histOf s' ℓ).filter (below g) :=
  (tw_schedule_independent_D V (twg_reachable_is_twd_reachable hr) hr' hp ha hp' ha' hℓ).1

/-! ### Non-vacuity: the scenario of `C01Refine.cmpOk_is_needed`, replayed from the initial state -/

theorem run_reachable {as : List TWD.Action} (h : TWD.run? M (TWG.init M) as = some s) :
    TWD.Reachable M s :=
  TWD.run?_reachable as TWD.Reachable.init h

/-- `doom` satisfies the runtime's contract in every state -/
theorem doom_V2 : V2 doom := by
  intro ℓ s c o ho
  simp only [doom] at ho
  rcases PrefixUnique.mem_ite ho with ⟨_, ho⟩ | ⟨_, ho⟩
  · rcases PrefixUnique.mem_ite ho with ⟨_, ho⟩ | ⟨_, ho⟩
    · simp only [List.mem_cons, List.mem_nil_iff, or_false] at ho
      rcases ho with rfl | rfl
      · exact ⟨Event.not_before_of_t_lt (Nat.lt_add_one _), (by decide : 0 < 2), (by decide : 3 < LP_INIT)⟩
      · exact ⟨Event.not_before_of_t_lt (Nat.lt_add_of_pos_right (by decide)), (by decide : 0 < 2),
          (by decide : 2 < LP_INIT)⟩
    · rw [List.mem_singleton.mp ho]
      exact ⟨Event.not_before_of_t_lt (Nat.lt_add_of_pos_right (by decide)), (by decide : 1 < 2),
        (by decide : 2 < LP_INIT)⟩
  · rcases PrefixUnique.mem_ite ho with ⟨_, ho⟩ | ⟨_, ho⟩
    · rw [List.mem_singleton.mp ho]
      exact ⟨Event.not_before_of_t_lt (Nat.lt_add_of_pos_right (by decide)), (by decide : 1 < 2),
        (by decide : 1 < LP_INIT)⟩
    · cases ho

/-- LP 0's two model events, the speculative message `x` and the message `e` with the same time stamp that is
BEFORE `x` by content (larger type) -/
def dY : Event := ⟨0, 1, 3, []⟩
def dZ : Event := ⟨0, 2, 2, []⟩
def dX : Event := ⟨1, 5, 1, []⟩
def dE : Event := ⟨1, 5, 2, []⟩

example : Event.before dE dX = true ∧ dE.t = dX.t := by decide

/-- LP 0 speculatively processes `z` before `y` and sends `x` (created at step 1) to LP 1, which processes it.
The straggler `y` undoes `z`: the anti-message of `x` exists, `x` is DOOMED in LP 1's history. LP 1 now extracts
`e`: the code's straggler test reads the ANTI bit of `x`, `msg_is_before(e, x)` is false, `e` is processed ON TOP
of `x` (`extra = 1`). The anti-message of `x` arrives: `x` and `e` are undone, `e` is re-queued. LP 0 re-executes
`z` (nothing sent), LP 1 re-executes `e`. -/
def doomActs : List TWD.Action :=
  [ .exec 0 dZ 0 0, .exec 1 dX 1 0,
    .exec 0 dY 0 0,          -- the straggler: `x` becomes doomed
    .exec 1 dE 0 1,          -- `e` on top of the doomed `x`: one entry MORE than the content rule is kept
    .antiRollback 1 1,       -- the anti-message of `x`: `x` and `e` undone, `e` re-queued
    .exec 0 dZ 0 0, .exec 1 dE 0 0 ]

/-- what a replay computes: the histories, the untainted prefixes, what is pending, the anti-messages -/
def obs (n : Nat) (s : TWGState) : List (List Event) × List (List Event) × List TMsg × List TMsg :=
  ((List.range n).map (histOf s), (List.range n).map (cleanOf s), s.pending, s.antis)

/-- after the straggler: `x` is processed at LP 1 and its anti-message exists — `x` is doomed (tainted) -/
example : (TWD.run? doom (TWG.init doom) (doomActs.take 3)).map (obs 2) =
    some ([[initEv 0, dY], [initEv 1, dX]], [[initEv 0, dY], [initEv 1]],
          [⟨dE, 0⟩, ⟨dZ, 0⟩], [⟨dX, 1⟩]) := by decide +kernel

/-- the content rule (`extra = 0`, the step of `TWG.exec?`) undoes `x` … -/
example : ((TWD.run? doom (TWG.init doom) (doomActs.take 3)).bind
      (fun s => TWD.step? doom s (.exec 1 dE 0 0))).map (fun s => histOf s 1) = some [initEv 1, dE] ∧
    ((TWD.run? doom (TWG.init doom) (doomActs.take 3)).bind
      (fun s => TWG.step? doom s (.exec 1 dE 0))).map (fun s => histOf s 1) = some [initEv 1, dE] := by
  decide +kernel

/-- … the code's rule keeps it: `e` is processed on top of the doomed `x`. The whole history of LP 1 is NOT
sorted by the event order; its untainted prefix is, and below the lower bound `g = 2` they coincide. -/
example : (TWD.run? doom (TWG.init doom) (doomActs.take 4)).map (obs 2) =
    some ([[initEv 0, dY], [initEv 1, dX, dE]], [[initEv 0, dY], [initEv 1]],
          [⟨dZ, 0⟩], [⟨dX, 1⟩]) := by decide +kernel

/-- keeping an entry is allowed ONLY on a doomed entry with the same time stamp: before the straggler `x` is not
doomed, and `extra = 1` is refused -/
example : ((TWD.run? doom (TWG.init doom) (doomActs.take 2)).bind
      (fun s => TWD.step? doom s (.exec 1 dE 0 1))).isNone = true := by decide +kernel

/-- the anti-rollback undoes `x` and `e` and re-queues `e` -/
example : (TWD.run? doom (TWG.init doom) (doomActs.take 5)).map (obs 2) =
    some ([[initEv 0, dY], [initEv 1]], [[initEv 0, dY], [initEv 1]], [⟨dZ, 0⟩, ⟨dE, 0⟩], []) := by decide +kernel

/-- the whole trace is enabled and ends in a quiescent state whose histories are those of the executable
sequential run -/
example : (TWD.run? doom (TWG.init doom) doomActs).map
      (fun s => ((List.range 2).map (histOf s), s.pending, s.antis)) =
    some ((List.range 2).map (seqRunN doom 3).disp, [], []) ∧ (seqRunN doom 3).pending = [] := by decide +kernel

/-- the state in which `e` stands on top of the doomed `x`: reachable, lower bound `2`, something pending, an
anti-message, LP 1's history `[LP_INIT, x, e]` -/
theorem doom_speculating : ∃ s, TWD.Reachable doom s ∧
    (∀ x ∈ s.pending, 2 ≤ x.ev.t) ∧ (∀ x ∈ s.antis, 2 ≤ x.ev.t) ∧ s.pending ≠ [] ∧ s.antis ≠ [] ∧
    histOf s 1 = [initEv 1, dX, dE] ∧ cleanOf s 1 = [initEv 1] ∧
    (histOf s 0).filter (below 2) = [initEv 0, dY] := by
  have h : (TWD.run? doom (TWG.init doom) (doomActs.take 4)).map
      (fun s => (histOf s 0, histOf s 1, cleanOf s 1, s.pending, s.antis)) =
      some ([initEv 0, dY], [initEv 1, dX, dE], [initEv 1], [⟨dZ, 0⟩], [⟨dX, 1⟩]) := by
    decide +kernel
  obtain ⟨s, hs, ho⟩ := Option.map_eq_some_iff.mp h
  simp only [Prod.mk.injEq] at ho
  obtain ⟨h0, h1, c1, hpend, hanti⟩ := ho
  refine ⟨s, run_reachable hs, ?_, ?_, ?_, ?_, h1, c1, ?_⟩
  · rw [hpend]; decide
  · rw [hanti]; decide
  · rw [hpend]; exact List.cons_ne_nil _ _
  · rw [hanti]; exact List.cons_ne_nil _ _
  · rw [h0]; decide

/-- **`Spec.Hist` of the WHOLE histories is refuted for the machine with the code's rule**: in the state of
`doom_speculating` LP 1's history `[LP_INIT, x, e]` is not sorted by the event order (whatever `g`). -/
theorem reachable_hist_D_literal_refuted : ¬ reachable_hist_D_literalStatement := by
  intro S
  obtain ⟨s, hr, hp, ha, _, _, h1, _, _⟩ := doom_speculating
  have H := S Nat doom s 2 doom_V2 hr hp ha
  have := H.sorted 1 (by decide)
  rw [h1] at this
  revert this
  decide

/-- that state is NOT reachable by the content-rule machine of `Model/TimeWarpG.lean`: the relaxed machine has
strictly more behaviours -/
theorem twd_reaches_more_than_twg : ∃ s, TWD.Reachable doom s ∧ ¬ TWG.Reachable doom s := by
  obtain ⟨s, hr, hp, ha, _, _, h1, _, _⟩ := doom_speculating
  refine ⟨s, hr, fun hg => ?_⟩
  have := (C01GlueV2.reachable_hist_V2 doom_V2 hg hp ha).sorted 1 (by decide)
  rw [h1] at this
  revert this
  decide

/-- the theorems apply to that state (non-trivial lower bound, non-empty tainted part): whatever a sequential
run of `doom` that has passed time 2 has dispatched to LP 0 below time 2 is `LP_INIT`, `y` -/
example {q : SeqState Nat} (hq : Spec.Reachable doom q) (hl : ∀ x ∈ q.pending, 2 ≤ x.t) :
    (q.disp 0).filter (below 2) = [initEv 0, dY] := by
  obtain ⟨s, hr, hp, ha, _, _, _, _, h0⟩ := doom_speculating
  rw [← h0]
  exact (tw_equals_sequential_D doom_V2 hr hp ha hq hl (by decide)).1

/-- the hypotheses of the `tw_quiescent_*_D` theorems are satisfiable by a run that speculated on a doomed
entry -/
theorem doom_nonvacuous : ∃ s, TWD.Reachable doom s ∧ s.pending = [] ∧ s.antis = [] ∧
    histOf s 1 = [initEv 1, dE] := by
  have h : (TWD.run? doom (TWG.init doom) doomActs).map (fun s => (histOf s 1, s.pending, s.antis)) =
      some ([initEv 1, dE], [], []) := by decide +kernel
  obtain ⟨s, hs, ho⟩ := Option.map_eq_some_iff.mp h
  simp only [Prod.mk.injEq] at ho
  exact ⟨s, run_reachable hs, ho.2.1, ho.2.2, ho.1⟩

/-- every finished sequential run of `doom` has dispatched to LP 1 exactly `LP_INIT` and `e` -/
example {q : SeqState Nat} (hq : Spec.Reachable doom q) (hqp : q.pending = []) :
    q.disp 1 = [initEv 1, dE] := by
  obtain ⟨s, hr, hp, ha, h1⟩ := doom_nonvacuous
  rw [← h1]
  exact (tw_quiescent_final_D doom_V2 hr hp ha hq hqp (by decide)).1

/-- the V2-only token ring of `Props/C01GlueV2.lean` replays unchanged (every TWG action is a TWD action) -/
example : (TWD.run? ring (TWG.init ring) (C01GlueV2.ringActs.map TWD.ofTWG)).map
      (fun s => ((List.range 3).map (histOf s), s.pending, s.antis)) =
    some ((List.range 3).map (seqRunN ring 6).disp, [], []) := by decide +kernel

end RootSim.C01GlueD
