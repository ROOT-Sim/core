import RootSim.Proofs.Place
/-!
# C14 — LP placement and routing

"For any number of LPs, ranks and threads, each LP identifier is initialised, processed and finalised
by exactly one thread of exactly one rank, and the rank and thread computed when routing an event to
an LP are that owner. Ownership ranges are contiguous, cover all identifiers, and leave no thread of a
rank without work when that rank hosts at least as many LPs as it has threads."

All theorems quantify over EVERY `lps ≥ 1`, `n ≥ 1` (ranks), `t ≥ 1` (threads): no bound, LPs not
divisible by ranks/threads, fewer LPs than threads, one LP included. The definitions are those of
`Model/Place.lean` (no fuel: `partStart` is the macro `partition_start` with its two loops).

* Arithmetic (`node_*`, `thread_*`, `partStart_*`): hold for every triple, empty ranges included.
* The run-level statement `placement` ("initialised, processed and finalised by exactly one thread of
  exactly one rank; routing computes that owner") carries `n ≤ lps`: with fewer LPs than ranks a rank
  hosts no LP, `lp_global_init` clamps its `n_threads` to 0, `parallel_simulation` starts no worker
  there (`f9_rank_without_lps`, `f9_counterexample`) and the other ranks wait for it at
  `mpi_node_barrier` forever (finding F9, reproduced on the real code: 1 LP, `mpiexec -n 2`).
* `u64_faithful_*`: under `lps * n < 2^64`, `n < 2^31`, `t < 2^32`, `first + m < 2^64`,
  `m * t < 2^64` the fixed-width model (the C types) equals the `Nat` model; `u64_wrap_*` show that
  without the bound ownership does break (documents the domain).
-/
namespace RootSim.C14
open RootSim.Place

/-! ## `partition_start` -/

/-- **`partition_start` terminates** (it is a total function: the only thing needed is that the second
loop can exit, `CanExit`, and `part_cnt ≠ 0`) **and returns the least index `g ≥ start_i` with
`part_fnc(g) ≥ part_id`**, for every `part_fnc` that is monotone non-decreasing on `[start_i, ∞)` —
independently of the initial guess `part_id * tot_i / part_cnt + start_i`. -/
theorem partStart_spec (partId partCnt : Nat) (fnc : Nat → Nat) (start tot : Nat) (hc : 0 < partCnt)
    (hx : CanExit fnc partId) (hmono : ∀ a b, start ≤ a → a ≤ b → fnc a ≤ fnc b) :
    start ≤ partStart partId partCnt fnc start tot hc hx ∧
    partId ≤ fnc (partStart partId partCnt fnc start tot hc hx) ∧
    ∀ g, start ≤ g → partId ≤ fnc g → partStart partId partCnt fnc start tot hc hx ≤ g :=
  partStart_spec' partId partCnt fnc start tot hc hx hmono

/-- without monotonicity the macro still returns a *local* boundary: an index `≥ start_i` with
`part_fnc ≥ part_id` that is `start_i` or whose predecessor has `part_fnc < part_id`. -/
theorem partStart_boundary (partId partCnt : Nat) (fnc : Nat → Nat) (start tot : Nat) (hc : 0 < partCnt)
    (hx : CanExit fnc partId) :
    start ≤ partStart partId partCnt fnc start tot hc hx ∧
    partId ≤ fnc (partStart partId partCnt fnc start tot hc hx) ∧
    (partStart partId partCnt fnc start tot hc hx = start ∨
      fnc (partStart partId partCnt fnc start tot hc hx - 1) < partId) :=
  partStart_local partId partCnt fnc start tot hc hx

/-- for `part_id = part_cnt` the result is `start_i + tot_i`, provided `part_fnc(start_i + tot_i) ≥
part_cnt` and `part_fnc < part_cnt` on the index space `[start_i, start_i + tot_i)`. -/
theorem partStart_last (partCnt : Nat) (fnc : Nat → Nat) (start tot : Nat) (hc : 0 < partCnt)
    (hx : CanExit fnc partCnt) (hmono : ∀ a b, start ≤ a → a ≤ b → fnc a ≤ fnc b)
    (hend : partCnt ≤ fnc (start + tot)) (hin : ∀ g, start ≤ g → g < start + tot → fnc g < partCnt) :
    partStart partCnt partCnt fnc start tot hc hx = start + tot :=
  partStart_last' partCnt fnc start tot hc hx hmono hend hin

/-! ## node (rank) ranges: `lp_global_init` -/

theorem node_first_zero (lps n : Nat) (hl : 0 < lps) (hn : 0 < n) : nodeFirst lps n hl hn 0 = 0 :=
  threadFirst_zero 0 lps n hl hn

theorem node_first_last (lps n : Nat) (hl : 0 < lps) (hn : 0 < n) : nodeFirst lps n hl hn n = lps :=
  (threadFirst_last 0 lps n hl hn).trans (Nat.zero_add lps)

theorem node_first_mono (lps n : Nat) (hl : 0 < lps) (hn : 0 < n) (k k' : Nat) (h : k ≤ k') :
    nodeFirst lps n hl hn k ≤ nodeFirst lps n hl hn k' :=
  threadFirst_mono 0 lps n hl hn k k' h

/-- contiguous: rank `k` hosts exactly `[nodeFirst k, nodeFirst (k+1))`, `n_lps_node` LPs -/
theorem node_contiguous (lps n : Nat) (hl : 0 < lps) (hn : 0 < n) (k : Nat) :
    nodeFirst lps n hl hn k + nLpsNode lps n hl hn k = nodeFirst lps n hl hn (k + 1) :=
  nodeFirst_add_nLpsNode lps n hl hn k

/-- **routing = ownership** for ranks: `lid_to_nid(lp) = k` iff `lp` is in the range of rank `k` -/
theorem node_route_iff (lps n : Nat) (hl : 0 < lps) (hn : 0 < n) (k lp : Nat) :
    lidToNid lps n lp = k ↔ nodeFirst lps n hl hn k ≤ lp ∧ lp < nodeFirst lps n hl hn (k + 1) :=
  route_iff 0 lps n hl hn k lp (Nat.zero_le _)

/-- every LP id below `lps` is routed to an existing rank -/
theorem node_route_lt (lps n : Nat) (hn : 0 < n) (lp : Nat) (h : lp < lps) : lidToNid lps n lp < n :=
  lidToRid_lt 0 lps n lp (Nat.zero_lt_of_lt h) hn ((Nat.zero_add lps).symm ▸ h)

/-- the ranges cover `[0, lps)` and are disjoint: exactly one rank owns `lp` -/
theorem node_owner_unique (lps n : Nat) (hl : 0 < lps) (hn : 0 < n) (lp : Nat) (h : lp < lps) :
    ∃ k, (k < n ∧ nodeFirst lps n hl hn k ≤ lp ∧ lp < nodeFirst lps n hl hn (k + 1)) ∧
      ∀ k', (k' < n ∧ nodeFirst lps n hl hn k' ≤ lp ∧ lp < nodeFirst lps n hl hn (k' + 1)) → k' = k := by
  refine ⟨lidToNid lps n lp, ⟨node_route_lt lps n hn lp h, (node_route_iff lps n hl hn _ lp).1 rfl⟩, ?_⟩
  rintro k' ⟨_, h'⟩
  exact ((node_route_iff lps n hl hn k' lp).2 h').symm

/-- with at least as many LPs as ranks no rank is empty -/
theorem node_nonempty (lps n : Nat) (hl : 0 < lps) (hn : 0 < n) (hnl : n ≤ lps) (k : Nat) :
    0 < nLpsNode lps n hl hn k :=
  nLpsNode_pos lps n hl hn hnl k

/-! ## thread ranges inside a rank: `lp_init`, after the clamp of `lp_global_init`

`first = lid_node_first`, `m = n_lps_node > 0`, `t` = requested threads, `clampThreads t m = min t m`
= `global_config.n_threads` as seen by `lp_init` and `lid_to_rid`. -/

theorem clamp_pos (m t : Nat) (hm : 0 < m) (ht : 0 < t) : 0 < clampThreads t m :=
  clampThreads_eq_min t m ▸ Nat.lt_min.2 ⟨ht, hm⟩

theorem clamp_le_m (m t : Nat) : clampThreads t m ≤ m :=
  clampThreads_eq_min t m ▸ Nat.min_le_right t m

theorem clamp_le_t (m t : Nat) : clampThreads t m ≤ t :=
  clampThreads_eq_min t m ▸ Nat.min_le_left t m

/-- "…when that rank hosts at least as many LPs as it has threads": then nothing is clamped -/
theorem clamp_eq_of_le (m t : Nat) (h : t ≤ m) : clampThreads t m = t :=
  (clampThreads_eq_min t m).trans (Nat.min_eq_left h)

theorem thread_first_zero (first m t : Nat) (hm : 0 < m) (ht : 0 < t) :
    threadFirst first m (clampThreads t m) hm (clamp_pos m t hm ht) 0 = first :=
  threadFirst_zero first m _ hm _

theorem thread_first_last (first m t : Nat) (hm : 0 < m) (ht : 0 < t) :
    threadFirst first m (clampThreads t m) hm (clamp_pos m t hm ht) (clampThreads t m) = first + m :=
  threadFirst_last first m _ hm _

theorem thread_first_mono (first m t : Nat) (hm : 0 < m) (ht : 0 < t) (r r' : Nat) (h : r ≤ r') :
    threadFirst first m (clampThreads t m) hm (clamp_pos m t hm ht) r ≤
    threadFirst first m (clampThreads t m) hm (clamp_pos m t hm ht) r' :=
  threadFirst_mono first m _ hm _ r r' h

/-- **routing = ownership** for threads: `lid_to_rid(lp) = r` iff `lp ∈ [lid_thread_first, lid_thread_end)`
of thread `r` (for LPs hosted on this rank or beyond: `first ≤ lp`) -/
theorem thread_route_iff (first m t : Nat) (hm : 0 < m) (ht : 0 < t) (r lp : Nat) (hlp : first ≤ lp) :
    lidToRid first m (clampThreads t m) lp = r ↔
      threadFirst first m (clampThreads t m) hm (clamp_pos m t hm ht) r ≤ lp ∧
      lp < threadEnd first m (clampThreads t m) hm (clamp_pos m t hm ht) r :=
  route_iff first m _ hm _ r lp hlp

theorem thread_route_lt (first m t : Nat) (hm : 0 < m) (ht : 0 < t) (lp : Nat) (h : lp < first + m) :
    lidToRid first m (clampThreads t m) lp < clampThreads t m :=
  lidToRid_lt first m _ lp hm (clamp_pos m t hm ht) h

theorem thread_owner_unique (first m t : Nat) (hm : 0 < m) (ht : 0 < t) (lp : Nat) (h1 : first ≤ lp) (h2 : lp < first + m) :
    ∃ r, (r < clampThreads t m ∧
        threadFirst first m (clampThreads t m) hm (clamp_pos m t hm ht) r ≤ lp ∧
        lp < threadEnd first m (clampThreads t m) hm (clamp_pos m t hm ht) r) ∧
      ∀ r', (r' < clampThreads t m ∧
        threadFirst first m (clampThreads t m) hm (clamp_pos m t hm ht) r' ≤ lp ∧
        lp < threadEnd first m (clampThreads t m) hm (clamp_pos m t hm ht) r') → r' = r := by
  refine ⟨lidToRid first m (clampThreads t m) lp, ⟨thread_route_lt first m t hm ht lp h2,
    (thread_route_iff first m t hm ht _ lp h1).1 rfl⟩, ?_⟩
  rintro r' ⟨_, h'⟩
  exact ((thread_route_iff first m t hm ht r' lp h1).2 h').symm

/-- **no idle thread**: after the clamp every started thread owns at least one LP … -/
theorem no_idle_thread (first m t : Nat) (hm : 0 < m) (ht : 0 < t) (r : Nat) (_hr : r < clampThreads t m) :
    threadFirst first m (clampThreads t m) hm (clamp_pos m t hm ht) r <
    threadEnd first m (clampThreads t m) hm (clamp_pos m t hm ht) r :=
  threadFirst_strict first m _ hm _ (clamp_le_m m t) r

/-- … in particular all `t` requested threads when the rank hosts at least `t` LPs. -/
theorem no_idle_thread_of_enough (first m t : Nat) (hm : 0 < m) (ht : 0 < t) (htm : t ≤ m) (r : Nat) (_hr : r < t) :
    threadFirst first m t hm ht r < threadEnd first m t hm ht r :=
  threadFirst_strict first m t hm ht htm r

/-! ## the combined statement -/

/-- every rank starts `min t n_lps_node ≥ 1` workers, each with a non-empty range, when `n ≤ lps` -/
theorem all_ranks_work (lps n t : Nat) (hl : 0 < lps) (hn : 0 < n) (ht : 0 < t) (hnl : n ≤ lps)
    (k : Nat) :
    ∃ ws, nodeWorkers? lps n t k = .ok ws ∧
      ws.length = clampThreads t (nLpsNode lps n hl hn k) ∧ 0 < ws.length ∧
      ∀ rg, rg ∈ ws → rg.1 < rg.2 := by
  have hm := nLpsNode_pos lps n hl hn hnl k
  have hc := clamp_pos _ t hm ht
  refine ⟨_, nodeWorkers?_eq (lpGlobalInit?_eq lps n t k hl hn) hm hc, by simp, by simpa using hc, ?_⟩
  intro rg hrg
  simp only [List.mem_map, List.mem_range] at hrg
  obtain ⟨r, hr, rfl⟩ := hrg
  exact no_idle_thread _ _ t hm ht r hr

/-- **C14, combined**: for every `lp < lps` (with `1 ≤ n ≤ lps`, `t ≥ 1`) there is exactly one
(rank, thread) owner among all ranks `< n` and all their workers, and routing computes it. -/
theorem placement (lps n t : Nat) (hn : 0 < n) (ht : 0 < t) (hnl : n ≤ lps) (lp : Nat) (hlp : lp < lps) :
    ∃ k r, k < n ∧ route lps n t lp = .ok (k, r) ∧ Owner lps n t k r lp ∧
      ∀ k' r', Owner lps n t k' r' lp → k' = k ∧ r' = r := by
  have hl : 0 < lps := Nat.lt_of_lt_of_le hn hnl
  have hm := fun k => nLpsNode_pos lps n hl hn hnl k
  have hc := fun k => clamp_pos _ t (hm k) ht
  -- the owner is what routing computes
  let k := lidToNid lps n lp
  have hkr := (node_route_iff lps n hl hn k lp).1 rfl
  have hend : lp < nodeFirst lps n hl hn k + nLpsNode lps n hl hn k := node_contiguous lps n hl hn k ▸ hkr.2
  let r := lidToRid (nodeFirst lps n hl hn k) (nLpsNode lps n hl hn k) (clampThreads t (nLpsNode lps n hl hn k)) lp
  refine ⟨k, r, node_route_lt lps n hn lp hlp, ?_, ?_, ?_⟩
  · unfold route lidToNid? lidToRid?
    simp only [if_pos hl, lpGlobalInit?_eq lps n t _ hl hn]
    rw [if_pos (hm k)]
  · rw [owner_iff r lp (lpGlobalInit?_eq lps n t k hl hn) (hm k) (hc k)]
    exact ⟨thread_route_lt _ _ t (hm k) ht lp hend, (thread_route_iff _ _ t (hm k) ht r lp hkr.1).1 rfl⟩
  · intro k' r' ho
    rw [owner_iff r' lp (lpGlobalInit?_eq lps n t k' hl hn) (hm k') (hc k')] at ho
    obtain ⟨hr', h1, h2⟩ := ho
    -- the thread ranges of rank `k'` lie inside its node range, so `lp` is routed to `k'`
    have hlo := threadFirst_ge (nodeFirst lps n hl hn k') _ _ (hm k') (hc k') r'
    have hhi := threadFirst_le_end (nodeFirst lps n hl hn k') _ _ (hm k') (hc k') (r' + 1) hr'
    rw [node_contiguous lps n hl hn k'] at hhi
    obtain rfl : k' = k :=
      ((node_route_iff lps n hl hn k' lp).2 ⟨Nat.le_trans hlo h1, Nat.lt_of_lt_of_le h2 hhi⟩).symm
    exact ⟨rfl, ((thread_route_iff _ _ t (hm k) ht r' lp hkr.1).2 ⟨h1, h2⟩).symm⟩

/-! ## F9: fewer LPs than ranks -/

/-- **F9**: with fewer LPs than ranks some rank computes `n_lps_node = 0`, clamps `n_threads` to 0 and
starts no worker thread: it never calls `lp_init`, never reaches `mpi_node_barrier`; the other ranks
block there forever. (The arithmetic theorems above still hold: its range is empty.) -/
theorem f9_rank_without_lps (lps n t : Nat) (hl : 0 < lps) (hlt : lps < n) :
    ∃ k, k < n ∧ nodeWorkers? lps n t k = .error .noThreads := by
  have hn : 0 < n := by omega
  obtain ⟨k, hk, hz⟩ := exists_empty_rank lps n hl hn hlt
  refine ⟨k, hk, ?_⟩
  unfold nodeWorkers?
  rw [lpGlobalInit?_eq lps n t k hl hn, hz]
  simp [clampThreads]

/-- …and if a thread did run `lp_init` there, `rid * n_lps_node / n_threads` divides by zero -/
theorem f9_div_by_zero (first r : Nat) : lpInit? ⟨first, 0, 0⟩ r = .error .divByZero := by
  simp [lpInit?]

/-- minimal instance: 1 LP on 2 ranks (the case reproduced with `mpiexec -n 2`) -/
theorem f9_counterexample : ∃ k, k < 2 ∧ nodeWorkers? 1 2 1 k = .error .noThreads :=
  f9_rank_without_lps 1 2 1 (by decide) (by decide)

/-! ## the fixed-width model (the C types) -/

/-- `lid_to_nid` in C = the `Nat` one, for every `lp ≤ lps` -/
theorem u64_faithful_nid (lps n lp : Nat) (hl : 0 < lps) (hn : 0 < n) (h31 : n < 2 ^ 31)
    (hov : lps * n < 2 ^ 64) (hlp : lp ≤ lps) :
    lidToNidU64 lps n lp = Int.ofNat (lidToNid lps n lp) :=
  lidToNidU64_eq lps n lp hn h31 hov hlp

/-- `partition_start(k, n_nodes, lid_to_nid, 0, lps)` in C = the `Nat` one (`k = nid`, `nid + 1`) -/
theorem u64_faithful_node (lps n k : Nat) (hl : 0 < lps) (hn : 0 < n) (h31 : n < 2 ^ 31)
    (hov : lps * n < 2 ^ 64) (hk : k ≤ n) :
    nodeFirstU64 lps n k = .ok (nodeFirst lps n hl hn k) :=
  nodeFirstU64_eq lps n k hl hn h31 hov hk

/-- `lp_global_init` in C = the `Nat` one -/
theorem u64_faithful_global_init (lps n t k : Nat) (hl : 0 < lps) (hn : 0 < n) (h31 : n < 2 ^ 31)
    (hov : lps * n < 2 ^ 64) (h32 : t < 2 ^ 32) (hk : k < n) :
    lpGlobalInitU64 lps n t k = lpGlobalInit? lps n t k :=
  lpGlobalInitU64_eq lps n t k hl hn h31 hov h32 hk

/-- `lid_to_rid` in C = the `Nat` one for LPs of the rank -/
theorem u64_faithful_rid (first m t lp : Nat) (hm : 0 < m) (ht : 0 < t) (h32 : t < 2 ^ 32)
    (hfm : first + m < 2 ^ 64) (hov : m * t < 2 ^ 64) (h1 : first ≤ lp) (h2 : lp ≤ first + m) :
    lidToRidU64 first m t lp = lidToRid first m t lp :=
  lidToRidU64_eq first m t lp h32 hfm hov h1 h2

/-- `partition_start(r, n_threads, lid_to_rid, lid_node_first, n_lps_node)` in C = the `Nat` one -/
theorem u64_faithful_thread (first m t r : Nat) (hm : 0 < m) (ht : 0 < t) (h32 : t < 2 ^ 32)
    (hfm : first + m < 2 ^ 64) (hov : m * t < 2 ^ 64) (hr : r ≤ t) :
    threadFirstU64 first m t r = .ok (threadFirst first m t hm ht r) :=
  threadFirstU64_eq first m t r hm ht h32 hfm hov hr

/-! ### outside the bound: `lps = 2^63`, 4 ranks (`lps * n = 2^65`) -/

/-- `4 * lp` wraps: LP `2^62` is routed to rank 0 (unbounded arithmetic: rank 2) … -/
theorem u64_wrap_route :
    lidToNidU64 (2 ^ 63) 4 (2 ^ 62) = 0 ∧ lidToNid (2 ^ 63) 4 (2 ^ 62) = 2 := by
  constructor <;> decide

/-- … but rank 0 owns `[0, 2^61)` only: **routing ≠ ownership** without the no-overflow hypothesis … -/
theorem u64_wrap_owner : nodeFirstU64 (2 ^ 63) 4 0 = .ok 0 ∧ nodeFirstU64 (2 ^ 63) 4 1 = .ok (2 ^ 61) := by
  constructor
  · unfold nodeFirstU64
    rw [if_neg (by decide)]
    exact partStartU64_ok _ _ _ _ _ _ 0 0 (by decide) (by decide) (Nat.le_refl _) (by decide)
      (fun x h1 h2 => absurd h1 (Nat.not_le_of_lt h2)) (by decide)
  · unfold nodeFirstU64
    rw [if_neg (by decide)]
    -- the guess is `2^61`; the first loop steps down once, the second one up again
    refine partStartU64_ok _ _ _ _ _ _ (2 ^ 61 - 1) (2 ^ 61) (by decide) (by decide) (by decide) (by decide) ?_ (by decide)
    intro x h1 h2
    obtain rfl : x = 2 ^ 61 - 1 := by omega
    decide

/-- … and rank 1 never leaves `lp_global_init`: `partition_start(2, 4, lid_to_nid, 0, 2^63)` loops
forever, because `(4 * g mod 2^64) / 2^63 < 2` for every `uint64_t g`. -/
theorem u64_wrap_nonterm : nodeFirstU64 (2 ^ 63) 4 2 = .error .nonterm := by
  unfold nodeFirstU64
  rw [if_neg (by decide)]
  apply partStartU64_nonterm _ _ _ _ _ _ (by decide)
  intro x _
  have hq : wrap64 (wrap64 x * sext32 4) / wrap64 (2 ^ 63) < 2 :=
    Nat.div_lt_of_lt_mul (Nat.mod_lt _ (Nat.two_pow_pos 64))
  unfold lidToNidU64
  rw [toI32_small _ (Nat.lt_trans hq (by decide))]
  exact Int.ofNat_lt.2 hq

/-! ## non-vacuity: concrete, non-trivial instances -/

theorem nodeFirst_10_3 :
    nodeFirst 10 3 (by decide) (by decide) 1 = 4 ∧ nodeFirst 10 3 (by decide) (by decide) 2 = 7 := by
  have a := (node_route_iff 10 3 (by decide) (by decide) 0 3).1 (by decide)
  have b := (node_route_iff 10 3 (by decide) (by decide) 1 4).1 (by decide)
  have c := (node_route_iff 10 3 (by decide) (by decide) 1 6).1 (by decide)
  have d := (node_route_iff 10 3 (by decide) (by decide) 2 7).1 (by decide)
  simp only [Nat.reduceAdd] at a b c d
  omega

/-- 10 LPs on 3 ranks: ranges `[0,4) [4,7) [7,10)` — not divisible, uneven -/
example : nodeFirst 10 3 (by decide) (by decide) 1 = 4 ∧ nodeFirst 10 3 (by decide) (by decide) 2 = 7 :=
  nodeFirst_10_3

/-- the hypotheses of `placement` are satisfiable with LPs not divisible by ranks or threads, and its
conclusion is not trivial: LP 6 of 10 on 3 ranks × 2 threads is routed to (rank 1, thread 1). -/
example : route 10 3 2 6 = .ok (1, 1) := by
  simp [route, lidToNid?, lpGlobalInit?, lidToRid?, lidToNid, nLpsNode, nodeFirst_10_3.1, nodeFirst_10_3.2,
    clampThreads, lidToRid]
example : (0 < 3 ∧ 0 < 2 ∧ 3 ≤ 10 ∧ 6 < 10) := by decide
/-- fewer LPs than threads (1 LP, 1 rank, 8 threads): clamp to one worker -/
example : clampThreads 8 1 = 1 := by decide
/-- the no-overflow hypotheses of `u64_faithful_*` hold for 2^40 LPs, 1000 ranks, 64 threads -/
example : (2 : Nat) ^ 40 * 1000 < 2 ^ 64 ∧ 1000 < 2 ^ 31 ∧ 64 < 2 ^ 32 := by decide

end RootSim.C14
