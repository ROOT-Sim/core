import RootSim.Proofs.SpecV2
/-!
# Prefix uniqueness of Time Warp (the pure core of C01 / C02 / C03 / C09)

`Model/Spec.lean` defines the textbook sequential executor as a relation (`Spec.Step`,
`Spec.Reachable`: dispatch SOME `Event.before`-minimal pending event) and the interface `Spec.Hist M G g`
to the optimistic runtime: at GVT `g`, `G ℓ` is what LP `ℓ` has processed and not undone (H1: `LP_INIT`
first, then events for `ℓ` in an order compatible with the event order; H2: states and sent events are
the folds of the handler over `G ℓ` — built into `lpState`/`outsAll`; H3: below `g`, what has been
processed by `ℓ` is, as a multiset, exactly what all LPs have sent to `ℓ`).

Model contracts used:
* `Spec.V2sBelow M G g` — STRICT causality (`Event.before cause effect = true`) and existing
  destinations, required only of the handler invocations that occur in the history on events below `g`;
* `Spec.TimeMono M` — no invocation schedules an event with a smaller time stamp than its cause.
Both follow from the global strict contract `Spec.V2s M`.

With the runtime's contract V2 alone (`Event.before effect cause = false`, which allows an event to schedule
a simultaneous event of identical content, i.e. incomparable with its cause) H1–H3 are NOT sufficient
(`v2_only_counterexample` below: two simultaneous identical events that "cause each other" form a
self-justifying history that satisfies H1–H3 but that no execution can produce). The V2-only case needs an
extra hypothesis from the runtime layers, `Spec.Progress` (`Proofs/SpecV2.lean`), which strict causality
implies; the theorems here are the strict-causality instances of the ones proved there from `Progress`.

All statements hold for every model, every number of LPs, every history, every `g`, every run of the
sequential relation (every choice among incomparable events).
-/
namespace RootSim.PrefixUnique
open RootSim RootSim.Spec

variable {σ : Type} {M : SimModel σ} {G G' : Nat → List Event} {g g' : Nat}

/-- **Key lemma**: while a sequential run has only dispatched events below `g` (invariant `Phase1`:
its dispatch sequences are prefixes of the histories, its pending bag is "sent minus dispatched"),
a minimal pending event below `g` is exactly the next event of its destination LP's history. -/
theorem next_event_unique (H : Hist M G g) (V : V2sBelow M G g) (T : TimeMono M) {s : SeqState σ}
    (P : Phase1 M G g s) {e : Event} (he : e ∈ s.pending) (hmin : Minimal e s.pending) (hlt : e.t < g) :
    e.dest < M.nLps ∧ ∃ S, G e.dest = s.disp e.dest ++ e :: S := by
  obtain ⟨hd, S, hS⟩ := P.next_of_minimal (.of_V2sBelow H V T) he hmin hlt
  exact ⟨hd, S, by rw [P.split hd, hS]⟩

/-- the invariant holds along every sequential run -/
theorem run_invariant (H : Hist M G g) (V : V2sBelow M G g) (T : TimeMono M) {s : SeqState σ}
    (hr : Reachable M s) : Phase1 M G g s ∨ Phase2 M G g s :=
  reachable_phase (.of_V2sBelow H V T) hr

/-- **Prefix uniqueness.** Let `G` be a global history of the optimistic runtime at GVT `g` (H1–H3),
executed under strict causality below `g`. For EVERY reachable state `s` of the sequential reference
relation and every LP `ℓ`: what the sequential run has dispatched to `ℓ` below `g` is a prefix of what
the optimistic LP has processed below `g`; and once the sequential run has nothing below `g` pending,
the two sequences are equal and so are the LP states they produce.

(The case where only V2 — not V2s — holds: see Props/C01GlueV2.lean — refuted for histories alone and for the content-level machine, proved for the machine with a ghost creation order.) -/
theorem prefix_unique (H : Hist M G g) (V : V2sBelow M G g) (T : TimeMono M) {s : SeqState σ}
    (hr : Reachable M s) {ℓ : Nat} (hℓ : ℓ < M.nLps) :
    (s.disp ℓ).filter (below g) <+: (G ℓ).filter (below g) ∧
    ((∀ x ∈ s.pending, g ≤ x.t) →
      (s.disp ℓ).filter (below g) = (G ℓ).filter (below g) ∧
      lpState M ℓ ((s.disp ℓ).filter (below g)) = lpState M ℓ ((G ℓ).filter (below g))) :=
  have h := (Followable.of_V2sBelow H V T).prefix_unique hr hℓ
  ⟨h.1, fun hl => and_lpState_eq (h.2 hl)⟩

/-- the same under the global strict contract -/
theorem prefix_unique_V2s (H : Hist M G g) (V : V2s M) {s : SeqState σ}
    (hr : Reachable M s) {ℓ : Nat} (hℓ : ℓ < M.nLps) :
    (s.disp ℓ).filter (below g) <+: (G ℓ).filter (below g) ∧
    ((∀ x ∈ s.pending, g ≤ x.t) →
      (s.disp ℓ).filter (below g) = (G ℓ).filter (below g) ∧
      lpState M ℓ ((s.disp ℓ).filter (below g)) = lpState M ℓ ((G ℓ).filter (below g))) :=
  prefix_unique H (V.below G g) V.timeMono hr hℓ

/-- the state of an LP of a sequential run is the fold of the handler over its dispatch sequence
(so `lpState M ℓ (…)` above is the state the sequential LP had after its events below `g`) -/
theorem seq_state_exact {s : SeqState σ} (hr : Reachable M s) (ℓ : Nat) :
    s.st ℓ = lpState M ℓ (s.disp ℓ) := reachable_st hr ℓ

/-- … so a dispatch sequence determines the state -/
theorem disp_and_state {s : SeqState σ} (hr : Reachable M s) {ℓ : Nat} {l : List Event} (h : s.disp ℓ = l) :
    s.disp ℓ = l ∧ s.st ℓ = lpState M ℓ l :=
  ⟨h, by rw [seq_state_exact hr ℓ, h]⟩

/-- the part of a history below `g` is a prefix of the history (so `lpState M ℓ ((G ℓ).filter …)` is the
state the optimistic LP had, or is rolled back to, after its events below `g`) -/
theorem hist_below_prefix (H : Hist M G g) {ℓ : Nat} (hℓ : ℓ < M.nLps) (g' : Nat) :
    (G ℓ).filter (below g') <+: G ℓ :=
  tsorted_filter_prefix_self _ (H.tsorted hℓ)

/-- the sequential relation can always execute everything below `g`: some run reaches a state with
no pending event below `g` (so the equality case of `prefix_unique` is not vacuous) -/
theorem exists_sequential_run (H : Hist M G g) (V : V2sBelow M G g) (T : TimeMono M) :
    ∃ s, Reachable M s ∧ ∀ x ∈ s.pending, g ≤ x.t := by
  obtain ⟨s, hr, _, hl⟩ := (Followable.of_V2sBelow H V T).exists_run
  exact ⟨s, hr, hl⟩

/-- **Corollary (i) — C09 / C01**: two global histories at the same GVT `g` (different thread counts,
checkpoint intervals, GVT timing, interleavings, rollback patterns …) agree below `g`, LP by LP, and
produce the same LP states. -/
theorem history_unique (H : Hist M G g) (V : V2sBelow M G g) (H' : Hist M G' g) (V' : V2sBelow M G' g)
    (T : TimeMono M) {ℓ : Nat} (hℓ : ℓ < M.nLps) :
    (G ℓ).filter (below g) = (G' ℓ).filter (below g) ∧
    lpState M ℓ ((G ℓ).filter (below g)) = lpState M ℓ ((G' ℓ).filter (below g)) :=
  and_lpState_eq ((Followable.of_V2sBelow H V T).history_unique (.of_V2sBelow H' V' T) hℓ)

/-- **Corollary (ii) — C03**: what is committed at an earlier GVT `g'` (history `G'`) is a prefix of what
is committed at a later GVT `g` (history `G`) … -/
theorem committed_prefix (hg : g' ≤ g) (H' : Hist M G' g') (V' : V2sBelow M G' g')
    (H : Hist M G g) (V : V2sBelow M G g) (T : TimeMono M) {ℓ : Nat} (hℓ : ℓ < M.nLps) :
    (G' ℓ).filter (below g') <+: (G ℓ).filter (below g) :=
  Followable.committed_prefix hg (.of_V2sBelow H' V' T) (.of_V2sBelow H V T) hℓ

/-- … and of the per-LP sequence of every sequential run that has nothing below `g` pending. -/
theorem committed_prefix_seq (H : Hist M G g) (V : V2sBelow M G g) (T : TimeMono M) {s : SeqState σ}
    (hr : Reachable M s) (hl : ∀ x ∈ s.pending, g ≤ x.t) {ℓ : Nat} (hℓ : ℓ < M.nLps) :
    (G ℓ).filter (below g) <+: s.disp ℓ :=
  ((Followable.of_V2sBelow H V T).phase2 hr hl).filter_prefix H hℓ

/-! ### Non-vacuity -/

theorem mem_ite {α : Type} {c : Prop} [Decidable c] {a b : List α} {x : α} (h : x ∈ if c then a else b) :
    (c ∧ x ∈ a) ∨ (¬ c ∧ x ∈ b) := by
  by_cases hc : c
  · exact Or.inl ⟨hc, by rwa [if_pos hc] at h⟩
  · exact Or.inr ⟨hc, by rwa [if_neg hc] at h⟩

/-- ping-pong satisfies the global strict contract -/
theorem pingPong_V2s : V2s pingPong := by
  intro ℓ s c o ho
  simp only [pingPong] at ho
  rcases mem_ite ho with ⟨_, ho⟩ | ⟨_, ho⟩
  · rw [List.mem_singleton.mp ho]
    exact ⟨Event.before_of_t_lt (Nat.lt_add_one _), show 1 - ℓ < 2 by omega, (by decide : 1 < LP_INIT)⟩
  · cases ho

theorem fanIn_V2s : V2s fanIn := by
  intro ℓ s c o ho
  simp only [fanIn] at ho
  rcases mem_ite ho with ⟨_, ho⟩ | ⟨_, ho⟩
  · simp only [List.mem_cons, List.mem_nil_iff, or_false] at ho
    rcases ho with rfl | rfl
    · exact ⟨Event.before_of_t_lt (Nat.lt_add_one _), (by decide : 2 < 3), (by decide : 1 < LP_INIT)⟩
    · exact ⟨Event.before_of_t_lt (Nat.lt_add_one _), show 1 - ℓ < 3 by omega, (by decide : 2 < LP_INIT)⟩
  · cases ho

/-- a history of ping-pong at GVT 4: LP 0 is ahead (it has speculatively processed its events at
times 4 and 5), LP 1 has processed exactly its events below 4 -/
def ppG : Nat → List Event
  | 0 => [initEv 0, ⟨0, 1, 1, [0]⟩, ⟨0, 2, 1, [1]⟩, ⟨0, 3, 1, [2]⟩, ⟨0, 4, 1, [3]⟩, ⟨0, 5, 1, [4]⟩]
  | 1 => [initEv 1, ⟨1, 1, 1, [0]⟩, ⟨1, 2, 1, [1]⟩, ⟨1, 3, 1, [2]⟩]
  | _ => []

/-- another history at GVT 4: LP 1 is ahead, and LP 0 has processed a straggler-to-be speculative
event (time 9, never sent by anybody) that will be undone -/
def ppG' : Nat → List Event
  | 0 => [initEv 0, ⟨0, 1, 1, [0]⟩, ⟨0, 2, 1, [1]⟩, ⟨0, 3, 1, [2]⟩, ⟨0, 9, 1, [7]⟩]
  | 1 => [initEv 1, ⟨1, 1, 1, [0]⟩, ⟨1, 2, 1, [1]⟩, ⟨1, 3, 1, [2]⟩, ⟨1, 4, 1, [3]⟩]
  | _ => []

theorem ppG_hist : Hist pingPong ppG 4 := histCheck_sound (by decide +kernel)
theorem ppG'_hist : Hist pingPong ppG' 4 := histCheck_sound (by decide +kernel)

example : Hist pingPong ppG 4 := ppG_hist
example : Hist pingPong ppG' 4 := ppG'_hist
example : ppG 0 ≠ ppG' 0 ∧ (ppG 0).filter (below 4) = (ppG' 0).filter (below 4) := by decide +kernel

/-- the hypotheses are not satisfied by a history that misses an event below `g` … -/
example : histCheck pingPong (fun ℓ => if ℓ = 1 then (ppG 1).take 3 else ppG ℓ) 4 = false := by decide +kernel
/-- … nor by one that has processed simultaneous events in the wrong order -/
example : histCheck pingPong
    (fun ℓ => if ℓ = 0 then [initEv 0, ⟨0, 2, 1, [1]⟩, ⟨0, 1, 1, [0]⟩, ⟨0, 3, 1, [2]⟩] else ppG ℓ) 4 =
    false := by decide +kernel

/-- the theorems compose on the concrete histories -/
example {ℓ : Nat} (hℓ : ℓ < 2) : (ppG ℓ).filter (below 4) = (ppG' ℓ).filter (below 4) :=
  (history_unique ppG_hist (pingPong_V2s.below _ _) ppG'_hist (pingPong_V2s.below _ _)
    pingPong_V2s.timeMono hℓ).1

/-- fan-in at GVT 3: LP 2 has received every notification below 3 (IDENTICAL events occur twice) and
one of the two notifications at time 3 -/
def fiG : Nat → List Event
  | 0 => [initEv 0, ⟨0, 1, 2, [0]⟩, ⟨0, 2, 2, [1]⟩, ⟨0, 3, 2, [2]⟩]
  | 1 => [initEv 1, ⟨1, 1, 2, [0]⟩, ⟨1, 2, 2, [1]⟩]
  | 2 => [initEv 2, ⟨2, 1, 1, []⟩, ⟨2, 1, 1, []⟩, ⟨2, 2, 1, []⟩, ⟨2, 2, 1, []⟩, ⟨2, 3, 1, []⟩]
  | _ => []

example : Hist fanIn fiG 3 := histCheck_sound (by decide +kernel)

/-- the executable sequential run, stopped when nothing below 3 is pending, agrees with `fiG` below 3
(as `prefix_unique_V2s` says it must) -/
example : (∀ x ∈ (seqRunN fanIn 8).pending, 3 ≤ x.t) ∧
    ∀ ℓ < 3, ((seqRunN fanIn 8).disp ℓ).filter (below 3) = (fiG ℓ).filter (below 3) := by decide +kernel

/-- a run of the RELATION that resolves a tie differently from `seqRunN` (it serves LP 0 before LP 1
at time 1: the two events are incomparable, the destination is not part of the order) -/
example : ∃ s, Step pingPong (init pingPong) s ∧ s.disp 0 = [initEv 0, ⟨0, 1, 1, [0]⟩] ∧
    s.disp 1 = [initEv 1] ∧ (seqRunN pingPong 1).disp 1 = [initEv 1, ⟨1, 1, 1, [0]⟩] :=
  ⟨_, Step.mk (init pingPong) ⟨0, 1, 1, [0]⟩ (by decide +kernel) (by decide +kernel), by decide +kernel,
    by decide +kernel, by decide +kernel⟩

/-! ### V2s cannot simply be replaced by V2 -/

/-- a self-justifying history of `echo`: LP 0 has processed an event that only LP 1's processing of
the identical simultaneous event sends, and vice versa -/
def echoG : Nat → List Event
  | 0 => [initEv 0, ⟨0, 5, 1, []⟩]
  | 1 => [initEv 1, ⟨1, 5, 1, []⟩]
  | _ => []

/-- **H1–H3 + V2 (non-strict) + `TimeMono` do not imply prefix uniqueness**: `echo` satisfies the
runtime's model contract (`SimModel.validStep`: V2, V3, V4) in every state, `echoG` satisfies H1–H3 at
GVT 10, the sequential run is finished in its initial state (nothing pending), yet LP 0's history
below 10 is not what the sequential run dispatched. -/
theorem v2_only_counterexample :
    (∀ ℓ s c, echo.validStep ℓ s c) ∧ TimeMono echo ∧ Hist echo echoG 10 ∧
    Reachable echo (init echo) ∧ (init echo).pending = [] ∧
    ((init echo).disp 0).filter (below 10) ≠ (echoG 0).filter (below 10) := by
  refine ⟨?_, ?_, histCheck_sound (by decide +kernel), Reachable.init, by decide +kernel,
    by decide +kernel⟩
  · intro ℓ s c o ho
    simp only [echo] at ho
    rcases mem_ite ho with ⟨h1, ho⟩ | ⟨_, ho⟩
    · rw [List.mem_singleton.mp ho]
      exact ⟨Event.not_before_same rfl h1.symm rfl, show 1 - ℓ < 2 by omega, (by decide : 1 < LP_INIT)⟩
    · cases ho
  · intro ℓ s c o ho
    simp only [echo] at ho
    rcases mem_ite ho with ⟨_, ho⟩ | ⟨_, ho⟩
    · rw [List.mem_singleton.mp ho]; exact Nat.le_refl _
    · cases ho

end RootSim.PrefixUnique
