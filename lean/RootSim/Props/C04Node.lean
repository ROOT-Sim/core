import RootSim.Proofs.GvtNodeDrain
/-!
# C04, node level: the message-counting core of `gvt_node_phase_run` (any K nodes, any N threads)

Model: `RootSim/Model/GvtNode.lean`. `old` is the colour every thread has when the round starts.
`Reach old s`: `s` is reachable by some interleaving from some state satisfying `RoundStart old`
(all threads in `node_phase_redux_first` with colour `old`, node counters clear, `N > 0` threads on every node,
old-colour messages possibly already in flight / received but consistently counted).
Assumed (see the model header): no 32-bit wrap-around; `report` atomic; the reduce-scatter delivers
`Σ_j total_sent_j[k]` to node `k` once every node has contributed.
-/
namespace RootSim.C04.Node
open RootSim.GvtNode

/-- reachable inside the round whose old colour is `old` -/
def Reach (old : Bool) (s : St) : Prop := ∃ s0 as, RoundStart old s0 ∧ run s0 as = some s

theorem reach_full {old : Bool} {s : St} : Reach old s → Full old s := fun ⟨s0, as, h0, hr⟩ =>
  full_run old as s0 s (full_of_roundStart old s0 h0) hr

theorem reach_inv {old : Bool} {s : St} (h : Reach old s) : Inv old s := (reach_full h).inv

/-- counting invariant, receive side: `total_msg_received` = (threads of `k` that executed
`node_sent_reduce`) + (old-colour messages received at `k` and already polled)
− (`remote_msg_to_receive + n_threads` once subtracted) -/
theorem counting_received (old : Bool) (s : St) (hr : Reach old s) (k : Nat) (nd : Node)
    (hk : s.nodes[k]? = some nd) :
    nd.cc = nReported s k ∧
    nd.totalRecv = (nReported s k : Int) + nd.polled
      - (if nd.subtracted then ((nd.toReceive.getD 0 : Nat) : Int) + s.N else 0) ∧
    (nd.subtracted = true → nd.toReceive = some (scatter s k) ∧ scatter s k = reportedTo s k) := by
  have I := (reach_inv hr).node k nd hk
  refine ⟨I.cc_eq, by rw [← I.cc_eq]; exact I.recv_eq, fun h => ?_⟩
  exact ⟨(I.sub h).2, scatter_eq_reportedTo (I.sub h).1 k⟩

/-- counting invariant, send side: (old-colour sends to `k` already added to some `total_sent`, as
deposited in the collective) + (not yet reported) = (polled at `k`) + (received at `k`, not yet polled)
+ (in flight to `k`) -/
theorem counting_sent (old : Bool) (s : St) (hr : Reach old s) (k : Nat) (nd : Node)
    (hk : s.nodes[k]? = some nd) :
    reportedTo s k + unreportedTo old s k = nd.polled + unpolledAt old s k + flightTo old s k :=
  ((reach_inv hr).node k nd hk).balance

/-- `no_premature_pass`: as long as the `fetch_sub` of `node_sent_reduce_wait` has not been executed at
node `k` (`subtracted = false`), a thread of `k` in `node_sent_wait` reads a value `≥ 1`, so `poll`
leaves it in `node_sent_wait`. -/
theorem no_premature_pass (old : Bool) (s s' : St) (hr : Reach old s) (t : Nat) (th : Thr) (nd : Node)
    (ht : s.thr[t]? = some th) (hnd : s.nodes[th.node]? = some nd) (hsub : nd.subtracted = false)
    (hp : poll s t = some s') :
    1 ≤ nd.totalRecv ∧ ∃ th', s'.thr[t]? = some th' ∧ th'.stage = .wait := by
  obtain ⟨th0, nd0, th', h1, h2, h3, h4, -, h6⟩ := poll_spec s s' t hp
  cases ht.symm.trans h1
  cases hnd.symm.trans h2
  have := recv_pos_of_not_subtracted old (reach_inv hr) ht hnd (by rw [h3]; rfl) hsub
  exact ⟨this, th', h4, h6.trans (if_neg (by omega))⟩

/-- `old_colour_drained`: if `poll` lets thread `t` (of node `k`) pass — it read `0` and moved to
`node_phase_redux_second` — then the collective had been consumed at `k`, every thread of every node
has reported (hence flipped: it no longer stamps the old colour), no old-colour message to `k` is in
flight or waiting to be polled, and this stays so in every continuation of the run. -/
theorem old_colour_drained (old : Bool) (s s' : St) (hr : Reach old s) (t : Nat) (th' : Thr)
    (hp : poll s t = some s') (ht' : s'.thr[t]? = some th') (hpass : th'.stage = .redux2) :
    (∀ th ∈ s'.thr, th.stage ≠ .redux1 ∧ th.colour = !old) ∧
    flightTo old s' th'.node = 0 ∧ unpolledAt old s th'.node = 0 ∧ unreportedTo old s th'.node = 0 ∧
    (∀ nd, s.nodes[th'.node]? = some nd → nd.subtracted = true) ∧
    ∀ as s'', run s' as = some s'' →
      flightTo old s'' th'.node = 0 ∧ ∀ th ∈ s''.thr, th.stage ≠ .redux1 ∧ th.colour = !old := by
  obtain ⟨th, nd, th1, h1, h2, h3, h4, h5, h6⟩ := poll_spec s s' t hp
  cases ht'.symm.trans h4
  have hz : nd.totalRecv = 0 := Decidable.byContradiction fun hne => by
    rw [h6, if_neg hne] at hpass; cases hpass
  have hinv := reach_inv hr
  obtain ⟨d1, d2, d3, d4, d5⟩ := drained_of_zero old hinv h1 h2 (by rw [h3]; rfl) hz
  have hq : Quiet old s th.node := ⟨allFlipped_of_reported old hinv d2, d5⟩
  have hq' : Quiet old s' th.node := quiet_step old s s' _ (.poll t) hq hp
  rw [h5]
  refine ⟨hq'.1, hq'.2, d4, d3, ?_, ?_⟩
  · intro nd1 hnd1; rw [h2] at hnd1; cases hnd1; exact d1
  · intro as s'' hrun
    have := quiet_run old _ as s' s'' hq' hrun
    exact ⟨this.2, this.1⟩

/-- `counters_reset`: once every thread of node `k` has passed `node_sent_wait` (and executed its
`memset` slice), `total_msg_received` is `0` and `total_sent[·]` is all zero again, i.e. the two counters
that the next round accumulates into are back to their initial values. (`c_c` is reset later, in
`node_min_reduce_wait`, outside this model; `remote_msg_to_receive` is overwritten by the next collective.) -/
theorem counters_reset (old : Bool) (s : St) (hr : Reach old s) (k : Nat) (nd : Node)
    (hk : s.nodes[k]? = some nd) (hall : ∀ th ∈ s.thr, th.node = k → th.stage = .redux2) :
    nd.totalRecv = 0 ∧ nd.totalSent = [] := by
  have h := reach_full hr
  have hlt : k < s.nodes.length := (List.getElem?_eq_some_iff.1 hk).1
  constructor
  · obtain ⟨th, hm, h1, _⟩ := h.rids.2 k hlt 0 h.rids.1
    obtain ⟨t, ht⟩ := List.getElem?_of_mem hm
    exact h.passed t th nd ht (hall th hm h1) (h1 ▸ hk)
  · -- an entry `d` left in `total_sent` would lie in the slice of some thread of `k`, which has cleared it
    rw [List.eq_nil_iff_forall_not_mem]
    intro d hd
    obtain ⟨hr, hin⟩ := slice_cover s.nodes.length s.N d h.rids.1 (h.clean.sent_lt k nd hk d hd)
    obtain ⟨th, hm, h1, h2⟩ := h.rids.2 k hlt _ hr
    obtain ⟨t, ht⟩ := List.getElem?_of_mem hm
    exact h.clean.slice t th nd ht (hall th hm h1) (h1 ▸ hk) d hd (h2 ▸ hin)

/-- a thread that passed keeps seeing `total_msg_received == 0` on its node for the rest of the round -/
theorem passed_zero (old : Bool) (s : St) (hr : Reach old s) (t : Nat) (th : Thr) (nd : Node)
    (ht : s.thr[t]? = some th) (hst : th.stage = .redux2) (hnd : s.nodes[th.node]? = some nd) :
    nd.totalRecv = 0 :=
  (reach_full hr).passed t th nd ht hst hnd

/-! ## Non-vacuity: 2 nodes × 2 threads (threads 0,1 on node 0; 2,3 on node 1), one old-colour message
from thread 0 to node 1 that is still in flight when both collectives complete. -/

def exPre : List Action :=
  [.send 0 1 5, .flip 0, .flip 1, .flip 2, .flip 3, .report 0, .report 1, .report 2, .report 3]
def exMid : List Action := [.collective 1, .collective 3, .poll 2, .deliver 0 3, .poll 3]
def exFin : List Action := [.poll 2, .poll 3, .poll 0, .poll 1]

/-- what we look at: stages, in-flight list, `total_msg_received`, `remote_msg_to_receive`, `total_sent` -/
structure View where
  stages : List Stage
  flight : List Msg
  totalRecv : List Int
  toReceive : List (Option Nat)
  totalSent : List (List Nat)
deriving DecidableEq

def view (s : St) : View :=
  ⟨s.thr.map (·.stage), s.flight, s.nodes.map (·.totalRecv), s.nodes.map (·.toReceive),
   s.nodes.map (·.totalSent)⟩

theorem roundStart_init22 : RoundStart false (init 2 2 false) :=
  ⟨by decide, by decide, by decide, by decide, by decide, by decide, by decide⟩

/-- all reported, nothing consumed yet: every `total_msg_received` is 2 (≥ 1), the message is in flight -/
example : (run (init 2 2 false) exPre).map view =
    some ⟨[.wait, .reduceWait, .wait, .reduceWait], [⟨false, 1, 5⟩], [2, 2], [none, none], [[1], []]⟩ := by
  decide +kernel

/-- both collectives done, message still in flight: node 1 reads −1, thread 2 polls and does NOT pass -/
example : (run (init 2 2 false) (exPre ++ [.collective 1, .collective 3, .poll 2])).map view =
    some ⟨[.wait, .wait, .wait, .wait], [⟨false, 1, 5⟩], [0, -1], [some 0, some 1], [[1], []]⟩ := by
  decide +kernel

/-- the whole round: after the delivery and its poll the counter reaches 0, everybody passes,
`total_sent` and `total_msg_received` are back to their initial values -/
example : (run (init 2 2 false) (exPre ++ exMid ++ exFin)).map view =
    some ⟨[.redux2, .redux2, .redux2, .redux2], [], [0, 0], [some 0, some 1], [[], []]⟩ := by
  decide +kernel

/-- the hypotheses of `old_colour_drained` are satisfiable (thread 2 passes after `exPre ++ exMid`) -/
example : ∃ s s' th', Reach false s ∧ poll s 2 = some s' ∧ s'.thr[2]? = some th' ∧ th'.stage = .redux2 := by
  have h : (((run (init 2 2 false) (exPre ++ exMid)).bind (poll · 2)).bind (·.thr[2]?)).map (·.stage)
      = some .redux2 := by decide +kernel
  simp only [Option.map_eq_some_iff, Option.bind_eq_some_iff] at h
  obtain ⟨th', ⟨s', ⟨s, hs, hp⟩, ht⟩, hst⟩ := h
  exact ⟨s, s', th', ⟨_, _, roundStart_init22, hs⟩, hp, ht, hst⟩

/-- the hypotheses of `no_premature_pass` are satisfiable (thread 0 polls right after `exPre`) -/
example : ∃ s s' th nd, Reach false s ∧ s.thr[0]? = some th ∧ s.nodes[th.node]? = some nd ∧
    nd.subtracted = false ∧ poll s 0 = some s' := by
  have h : ((run (init 2 2 false) exPre).bind fun s => s.thr[0]?.bind fun th => s.nodes[th.node]?.bind fun nd =>
      (poll s 0).map fun _ => nd.subtracted) = some false := by decide +kernel
  simp only [Option.map_eq_some_iff, Option.bind_eq_some_iff] at h
  obtain ⟨s, hs, th, ht, nd, hnd, s', hp, hsub⟩ := h
  exact ⟨s, s', th, nd, ⟨_, _, roundStart_init22, hs⟩, ht, hnd, hsub, hp⟩

/-- the hypotheses of `counters_reset` are satisfiable (node 0 at the end of the example round; its
`total_sent` was `[1]` before the threads passed) -/
example : ∃ s nd, Reach false s ∧ s.nodes[0]? = some nd ∧ ∀ th ∈ s.thr, th.node = 0 → th.stage = .redux2 := by
  have h : ((run (init 2 2 false) (exPre ++ exMid ++ exFin)).bind fun s => s.nodes[0]?.map fun _ =>
      decide (∀ th ∈ s.thr, th.node = 0 → th.stage = .redux2)) = some true := by decide +kernel
  simp only [Option.map_eq_some_iff, Option.bind_eq_some_iff] at h
  obtain ⟨s, hs, nd, hnd, hall⟩ := h
  exact ⟨s, nd, ⟨_, _, roundStart_init22, hs⟩, hnd, of_decide_eq_true hall⟩

end RootSim.C04.Node
