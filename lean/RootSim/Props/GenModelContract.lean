import RootSim.Proofs.GenModelContract
import RootSim.Proofs.ClampTransfer
import RootSim.Props.C01Glue
import RootSim.Props.C01GlueD
/-!
# The GenModel family satisfies the model contracts the end-to-end theorems assume

`GenModel.simModel P rng0` is the Lean twin of `harness/genmodel.h`, the model every full-run correspondence
executes on the real runtime. The end-to-end theorems (`Props/C01Glue.lean` under `Spec.V2s`,
`Props/C01GlueV2.lean`, `Props/C01GlueD.lean` under `Spec.V2`) quantify over every model satisfying those
contracts. This file closes the gap for the family:

* The contracts AS STATED (`Spec.V2s`, `Spec.V2`: every LP index, every state, EVERY event) are FALSE for the
  family (`genmodel_not_V2`, `genmodel_not_V2s`, with three independent kernel-checked reasons: an LP index
  `≥ nLps`; an `LP_INIT` event with a positive time stamp; an event type above `LP_FINI`) — invocations the
  runtime never performs.
* The relativised contracts (`Spec.V2sOn`, `Spec.V2On`: every EXISTING LP, every state — reachable or not —,
  every model event and the LP's own `LP_INIT` event) hold: `genmodel_V2s` (strict mode, `fwdTok = false`),
  `genmodel_V2` / `genmodel_fwd_V2` (both modes); `genmodel_fwd_not_V2s`: the V2-only mode violates the strict
  contract on an admissible invocation in a reachable LP state.
* The relativised contracts are all the end-to-end theorems need (`Proofs/ClampTransfer.lean`: the machines
  only perform admissible invocations, so the runs of `M` are runs of `Spec.clamp M`, which satisfies the global
  contract): `v2sOn_tw_equals_sequential` … for every model, and their instances for the family,
  `genmodel_tw_…` (strict mode) and `genmodel_fwd_tw_…_D` (both modes).
-/
namespace RootSim.GenModelContract
open RootSim RootSim.Spec RootSim.GenModel

/-- the statement asked for, literally (`Spec.V2s` quantifies over every LP index and every event): FALSE,
see `genmodel_V2s_Statement_false` -/
def genmodel_V2s_Statement : Prop :=
  ∀ (P : Params) (rng0 : Nat → Rng), 0 < P.nLps → 0 < P.nTypes → P.nTypes < LP_INIT → P.fwdTok = false →
    Spec.V2s (simModel P rng0)

/-- **1. Strict mode.** For every parameter set with at least one LP, at least one type, at most `LP_INIT`
types and `fwdTok = false` (nothing is needed on `maxFan`, the thresholds, `skew`, `useRng`, `memOps`,
`t0Events`), every generator seeding: every existing LP, in EVERY state, processing any model event (any type
below `LP_INIT`, also types the model never sends) or its `LP_INIT` event, schedules only events strictly after
their cause, for existing LPs, with model types. -/
theorem genmodel_V2s (P : Params) (rng0 : Nat → Rng) (hL : 0 < P.nLps) (hT : 0 < P.nTypes)
    (hT' : P.nTypes ≤ LP_INIT) (hF : P.fwdTok = false) : Spec.V2sOn (simModel P rng0) :=
  fun _ _ _ hA _ ho =>
    have ⟨hb, h⟩ := handler_out hL hT hT' hA.1 hA.2 ho
    ⟨hb.resolve_right fun hf => Bool.false_ne_true (hF ▸ hf.1), h⟩

/-- **2. Both modes** (in particular the V2-only mode `fwdTok = true`): the runtime's contract. -/
theorem genmodel_V2 (P : Params) (rng0 : Nat → Rng) (hL : 0 < P.nLps) (hT : 0 < P.nTypes)
    (hT' : P.nTypes ≤ LP_INIT) : Spec.V2On (simModel P rng0) :=
  fun _ _ _ hA _ ho =>
    have ⟨hb, h⟩ := handler_out hL hT hT' hA.1 hA.2 ho
    ⟨hb.elim Event.before_asymm fun hf => Event.not_before_same hf.2.1 hf.2.2.1 hf.2.2.2, h⟩

theorem genmodel_fwd_V2 (P : Params) (rng0 : Nat → Rng) (hL : 0 < P.nLps) (hT : 0 < P.nTypes)
    (hT' : P.nTypes ≤ LP_INIT) (_hF : P.fwdTok = true) : Spec.V2On (simModel P rng0) :=
  genmodel_V2 P rng0 hL hT hT'

/-- the same two facts as global contracts of the clamped model -/
theorem genmodel_clamp_V2s (P : Params) (rng0 : Nat → Rng) (hL : 0 < P.nLps) (hT : 0 < P.nTypes)
    (hT' : P.nTypes ≤ LP_INIT) (hF : P.fwdTok = false) : Spec.V2s (clamp (simModel P rng0)) :=
  (V2sOn_iff_clamp _).mp (genmodel_V2s P rng0 hL hT hT' hF)

theorem genmodel_clamp_V2 (P : Params) (rng0 : Nat → Rng) (hL : 0 < P.nLps) (hT : 0 < P.nTypes)
    (hT' : P.nTypes ≤ LP_INIT) : Spec.V2 (clamp (simModel P rng0)) :=
  (V2On_iff_clamp _).mp (genmodel_V2 P rng0 hL hT hT')

/-- **The V2-only mode leaves the strict contract** (4 LPs, 3 types, fan 3, thr 40, spread 20, `fwdTok`): LP 0,
in its state after `LP_INIT`, processing a type-1 event, forwards it unchanged — not after its cause. -/
theorem genmodel_fwd_not_V2s : ¬ Spec.V2sOn (simModel P0fwd rngZ) ∧ ¬ Spec.V2s (simModel P0fwd rngZ) :=
  ⟨genmodel_fwd_not_V2sOn, GenModel.genmodel_fwd_not_V2s⟩

/-- **The unrelativised contracts are false for the family** (already for the typical strict configuration) -/
theorem genmodel_not_V2 : ¬ Spec.V2 (simModel P0 rngZ) := GenModel.genmodel_not_V2

theorem genmodel_not_V2s : ¬ Spec.V2s (simModel P0 rngZ) := GenModel.genmodel_not_V2s

theorem genmodel_V2s_Statement_false : ¬ genmodel_V2s_Statement :=
  fun h => genmodel_not_V2s (h P0 rngZ (by decide) (by decide) (by decide) rfl)

/-- the three independent reasons, each an invocation the runtime never performs: (a) a non-existing LP index;
(b) an `LP_INIT` event with a positive time stamp (the first events are scheduled at absolute times); (c) an event type
above `LP_FINI` (the fan-out types are below the cause's type, not below `LP_INIT`) -/
theorem genmodel_unrelativised_counterexamples :
    ¬ (simModel P0 rngZ).validStep 7 ((simModel P0 rngZ).init 7) (initEv 7) ∧
    ¬ (simModel P0 rngZ).validStep 0 ((simModel P0 rngZ).init 0)
        { dest := 0, t := 100, type := LP_INIT, payload := [] } ∧
    ¬ (simModel P0 rngZ).validStep 0 (s0 P0) { dest := 0, t := 5, type := 65823, payload := [] } :=
  ⟨not_validStep_init_of_le rngZ (by decide) _, by unfold SimModel.validStep; decide,
    by unfold SimModel.validStep; decide⟩

/-! ### The relativised contracts are what the end-to-end theorems need (every model) -/

section general
variable {σ : Type} {M : SimModel σ} {g : Nat}

/-- `V2sOn M ↔ V2s (clamp M)`, `V2On M ↔ V2 (clamp M)`; a global contract implies the relativised one -/
theorem relativised_iff_clamp : (Spec.V2sOn M ↔ Spec.V2s (clamp M)) ∧ (Spec.V2On M ↔ Spec.V2 (clamp M)) ∧
    (Spec.V2s M → Spec.V2sOn M) ∧ (Spec.V2 M → Spec.V2On M) ∧ (Spec.V2sOn M → Spec.V2On M) :=
  ⟨V2sOn_iff_clamp M, V2On_iff_clamp M, V2s.on, V2.on, V2sOn.toV2On⟩

/-- the machines only perform admissible invocations: every run of `M` is a run of `clamp M` -/
theorem runs_are_clamped_runs (V : Spec.V2On M) :
    (∀ q, Spec.Reachable M q → Spec.Reachable (clamp M) q) ∧
    (∀ s, TW.Reachable M s → TW.Reachable (clamp M) s) ∧
    (∀ s, TWD.Reachable M s → TWD.Reachable (clamp M) s) :=
  ⟨fun _ h => Spec.reachable_clamp V h, fun _ h => TW.reachable_clamp V h, fun _ h => TWD.reachable_clamp V h⟩

/-- `C01Glue.tw_equals_sequential` under the relativised strict contract -/
theorem v2sOn_tw_equals_sequential (V : Spec.V2sOn M) {s : TWState} (hr : TW.Reachable M s)
    (hp : ∀ x ∈ s.pending, g ≤ x.t) (ha : ∀ x ∈ s.antis, g ≤ x.t)
    {q : SeqState σ} (hq : Spec.Reachable M q) (hl : ∀ x ∈ q.pending, g ≤ x.t)
    {ℓ : Nat} (hℓ : ℓ < M.nLps) :
    (q.disp ℓ).filter (below g) = (s.past ℓ).filter (below g) ∧
    lpState M ℓ ((q.disp ℓ).filter (below g)) = lpState M ℓ ((s.past ℓ).filter (below g)) := by
  have h := (C01Glue.tw_equals_sequential (M := clamp M) ((V2sOn_iff_clamp M).mp V)
    (TW.reachable_clamp V.toV2On hr) hp ha (Spec.reachable_clamp V.toV2On hq) hl hℓ).1
  exact ⟨h, congrArg _ h⟩

/-- `C01Glue.tw_quiescent_final` under the relativised strict contract -/
theorem v2sOn_tw_quiescent_final (V : Spec.V2sOn M) {s : TWState} (hr : TW.Reachable M s)
    (hp : s.pending = []) (ha : s.antis = [])
    {q : SeqState σ} (hq : Spec.Reachable M q) (hqp : q.pending = []) {ℓ : Nat} (hℓ : ℓ < M.nLps) :
    q.disp ℓ = s.past ℓ ∧ q.st ℓ = lpState M ℓ (s.past ℓ) := by
  have h := (C01Glue.tw_quiescent_final (M := clamp M) ((V2sOn_iff_clamp M).mp V)
    (TW.reachable_clamp V.toV2On hr) hp ha (Spec.reachable_clamp V.toV2On hq) hqp hℓ).1
  exact ⟨h, (PrefixUnique.seq_state_exact hq ℓ).trans (congrArg _ h)⟩

/-- `C01Glue.tw_schedule_independent` (C09 at protocol level) under the relativised strict contract -/
theorem v2sOn_tw_schedule_independent (V : Spec.V2sOn M) {s s' : TWState}
    (hr : TW.Reachable M s) (hr' : TW.Reachable M s')
    (hp : ∀ x ∈ s.pending, g ≤ x.t) (ha : ∀ x ∈ s.antis, g ≤ x.t)
    (hp' : ∀ x ∈ s'.pending, g ≤ x.t) (ha' : ∀ x ∈ s'.antis, g ≤ x.t)
    {ℓ : Nat} (hℓ : ℓ < M.nLps) :
    (s.past ℓ).filter (below g) = (s'.past ℓ).filter (below g) ∧
    lpState M ℓ ((s.past ℓ).filter (below g)) = lpState M ℓ ((s'.past ℓ).filter (below g)) := by
  have h := (C01Glue.tw_schedule_independent (M := clamp M) ((V2sOn_iff_clamp M).mp V)
    (TW.reachable_clamp V.toV2On hr) (TW.reachable_clamp V.toV2On hr') hp ha hp' ha' hℓ).1
  exact ⟨h, congrArg _ h⟩

/-- `C01GlueD.tw_equals_sequential_D` under the relativised runtime contract -/
theorem v2On_tw_equals_sequential_D (V : Spec.V2On M) {s : TWGState} (hr : TWD.Reachable M s)
    (hp : ∀ x ∈ s.pending, g ≤ x.ev.t) (ha : ∀ x ∈ s.antis, g ≤ x.ev.t)
    {q : SeqState σ} (hq : Spec.Reachable M q) (hl : ∀ x ∈ q.pending, g ≤ x.t)
    {ℓ : Nat} (hℓ : ℓ < M.nLps) :
    (q.disp ℓ).filter (below g) = (TWG.histOf s ℓ).filter (below g) ∧
    lpState M ℓ ((q.disp ℓ).filter (below g)) = lpState M ℓ ((TWG.histOf s ℓ).filter (below g)) := by
  have h := (C01GlueD.tw_equals_sequential_D (M := clamp M) ((V2On_iff_clamp M).mp V)
    (TWD.reachable_clamp V hr) hp ha (Spec.reachable_clamp V hq) hl hℓ).1
  exact ⟨h, congrArg _ h⟩

/-- `C01GlueD.tw_quiescent_final_D` under the relativised runtime contract -/
theorem v2On_tw_quiescent_final_D (V : Spec.V2On M) {s : TWGState} (hr : TWD.Reachable M s)
    (hp : s.pending = []) (ha : s.antis = [])
    {q : SeqState σ} (hq : Spec.Reachable M q) (hqp : q.pending = []) {ℓ : Nat} (hℓ : ℓ < M.nLps) :
    q.disp ℓ = TWG.histOf s ℓ ∧ q.st ℓ = lpState M ℓ (TWG.histOf s ℓ) := by
  have h := (C01GlueD.tw_quiescent_final_D (M := clamp M) ((V2On_iff_clamp M).mp V)
    (TWD.reachable_clamp V hr) hp ha (Spec.reachable_clamp V hq) hqp hℓ).1
  exact ⟨h, (PrefixUnique.seq_state_exact hq ℓ).trans (congrArg _ h)⟩

/-- `C01GlueD.tw_schedule_independent_D` under the relativised runtime contract -/
theorem v2On_tw_schedule_independent_D (V : Spec.V2On M) {s s' : TWGState}
    (hr : TWD.Reachable M s) (hr' : TWD.Reachable M s')
    (hp : ∀ x ∈ s.pending, g ≤ x.ev.t) (ha : ∀ x ∈ s.antis, g ≤ x.ev.t)
    (hp' : ∀ x ∈ s'.pending, g ≤ x.ev.t) (ha' : ∀ x ∈ s'.antis, g ≤ x.ev.t)
    {ℓ : Nat} (hℓ : ℓ < M.nLps) :
    (TWG.histOf s ℓ).filter (below g) = (TWG.histOf s' ℓ).filter (below g) ∧
    lpState M ℓ ((TWG.histOf s ℓ).filter (below g)) = lpState M ℓ ((TWG.histOf s' ℓ).filter (below g)) := by
  have h := (C01GlueD.tw_schedule_independent_D (M := clamp M) ((V2On_iff_clamp M).mp V)
    (TWD.reachable_clamp V hr) (TWD.reachable_clamp V hr') hp ha hp' ha' hℓ).1
  exact ⟨h, congrArg _ h⟩

end general

/-! ### 3. The end-to-end theorems for the GenModel family -/

section family
variable {g : Nat} (P : Params) (rng0 : Nat → Rng)

/-- **Strict mode: Time Warp = sequential, for the model the correspondences run.** Any reachable state of the
content-level Time Warp machine of `simModel P rng0`, any lower bound `g` of what is pending, any sequential
run that has passed `g`: same events below `g`, LP by LP, same LP states. -/
theorem genmodel_tw_equals_sequential (hL : 0 < P.nLps) (hT : 0 < P.nTypes) (hT' : P.nTypes ≤ LP_INIT)
    (hF : P.fwdTok = false) {s : TWState} (hr : TW.Reachable (simModel P rng0) s)
    (hp : ∀ x ∈ s.pending, g ≤ x.t) (ha : ∀ x ∈ s.antis, g ≤ x.t)
    {q : SeqState GState} (hq : Spec.Reachable (simModel P rng0) q) (hl : ∀ x ∈ q.pending, g ≤ x.t)
    {ℓ : Nat} (hℓ : ℓ < P.nLps) :
    (q.disp ℓ).filter (below g) = (s.past ℓ).filter (below g) ∧
    lpState (simModel P rng0) ℓ ((q.disp ℓ).filter (below g)) =
      lpState (simModel P rng0) ℓ ((s.past ℓ).filter (below g)) :=
  v2sOn_tw_equals_sequential (genmodel_V2s P rng0 hL hT hT' hF) hr hp ha hq hl hℓ

/-- strict mode, "whatever the interleaving": a quiescent optimistic state and a finished sequential run have
the same histories and the same final LP states -/
theorem genmodel_tw_quiescent_final (hL : 0 < P.nLps) (hT : 0 < P.nTypes) (hT' : P.nTypes ≤ LP_INIT)
    (hF : P.fwdTok = false) {s : TWState} (hr : TW.Reachable (simModel P rng0) s)
    (hp : s.pending = []) (ha : s.antis = [])
    {q : SeqState GState} (hq : Spec.Reachable (simModel P rng0) q) (hqp : q.pending = [])
    {ℓ : Nat} (hℓ : ℓ < P.nLps) :
    q.disp ℓ = s.past ℓ ∧ q.st ℓ = lpState (simModel P rng0) ℓ (s.past ℓ) :=
  v2sOn_tw_quiescent_final (genmodel_V2s P rng0 hL hT hT' hF) hr hp ha hq hqp hℓ

/-- strict mode, C09 at protocol level: two optimistic executions agree below a common lower bound -/
theorem genmodel_tw_schedule_independent (hL : 0 < P.nLps) (hT : 0 < P.nTypes) (hT' : P.nTypes ≤ LP_INIT)
    (hF : P.fwdTok = false) {s s' : TWState}
    (hr : TW.Reachable (simModel P rng0) s) (hr' : TW.Reachable (simModel P rng0) s')
    (hp : ∀ x ∈ s.pending, g ≤ x.t) (ha : ∀ x ∈ s.antis, g ≤ x.t)
    (hp' : ∀ x ∈ s'.pending, g ≤ x.t) (ha' : ∀ x ∈ s'.antis, g ≤ x.t)
    {ℓ : Nat} (hℓ : ℓ < P.nLps) :
    (s.past ℓ).filter (below g) = (s'.past ℓ).filter (below g) ∧
    lpState (simModel P rng0) ℓ ((s.past ℓ).filter (below g)) =
      lpState (simModel P rng0) ℓ ((s'.past ℓ).filter (below g)) :=
  v2sOn_tw_schedule_independent (genmodel_V2s P rng0 hL hT hT' hF) hr hr' hp ha hp' ha' hℓ

/-- **Both modes (in particular V2-only, `fwdTok = true`), the machine with the code's straggler rule.** -/
theorem genmodel_fwd_tw_equals_sequential_D (hL : 0 < P.nLps) (hT : 0 < P.nTypes) (hT' : P.nTypes ≤ LP_INIT)
    {s : TWGState} (hr : TWD.Reachable (simModel P rng0) s)
    (hp : ∀ x ∈ s.pending, g ≤ x.ev.t) (ha : ∀ x ∈ s.antis, g ≤ x.ev.t)
    {q : SeqState GState} (hq : Spec.Reachable (simModel P rng0) q) (hl : ∀ x ∈ q.pending, g ≤ x.t)
    {ℓ : Nat} (hℓ : ℓ < P.nLps) :
    (q.disp ℓ).filter (below g) = (TWG.histOf s ℓ).filter (below g) ∧
    lpState (simModel P rng0) ℓ ((q.disp ℓ).filter (below g)) =
      lpState (simModel P rng0) ℓ ((TWG.histOf s ℓ).filter (below g)) :=
  v2On_tw_equals_sequential_D (genmodel_V2 P rng0 hL hT hT') hr hp ha hq hl hℓ

theorem genmodel_fwd_tw_quiescent_final_D (hL : 0 < P.nLps) (hT : 0 < P.nTypes) (hT' : P.nTypes ≤ LP_INIT)
    {s : TWGState} (hr : TWD.Reachable (simModel P rng0) s)
    (hp : s.pending = []) (ha : s.antis = [])
    {q : SeqState GState} (hq : Spec.Reachable (simModel P rng0) q) (hqp : q.pending = [])
    {ℓ : Nat} (hℓ : ℓ < P.nLps) :
    q.disp ℓ = TWG.histOf s ℓ ∧ q.st ℓ = lpState (simModel P rng0) ℓ (TWG.histOf s ℓ) :=
  v2On_tw_quiescent_final_D (genmodel_V2 P rng0 hL hT hT') hr hp ha hq hqp hℓ

theorem genmodel_fwd_tw_schedule_independent_D (hL : 0 < P.nLps) (hT : 0 < P.nTypes)
    (hT' : P.nTypes ≤ LP_INIT) {s s' : TWGState}
    (hr : TWD.Reachable (simModel P rng0) s) (hr' : TWD.Reachable (simModel P rng0) s')
    (hp : ∀ x ∈ s.pending, g ≤ x.ev.t) (ha : ∀ x ∈ s.antis, g ≤ x.ev.t)
    (hp' : ∀ x ∈ s'.pending, g ≤ x.ev.t) (ha' : ∀ x ∈ s'.antis, g ≤ x.ev.t)
    {ℓ : Nat} (hℓ : ℓ < P.nLps) :
    (TWG.histOf s ℓ).filter (below g) = (TWG.histOf s' ℓ).filter (below g) ∧
    lpState (simModel P rng0) ℓ ((TWG.histOf s ℓ).filter (below g)) =
      lpState (simModel P rng0) ℓ ((TWG.histOf s' ℓ).filter (below g)) :=
  v2On_tw_schedule_independent_D (genmodel_V2 P rng0 hL hT hT') hr hr' hp ha hp' ha' hℓ

end family

/-! ### 4. Non-vacuity -/

/-- the typical check configuration (4 LPs, 3 types, fan 3, thr 40, spread 20) satisfies the hypotheses, in the
strict and in the V2-only mode; `Params.ofFields` is how the driver builds it from the `model` line -/
example : 0 < P0.nLps ∧ 0 < P0.nTypes ∧ P0.nTypes ≤ LP_INIT ∧ P0.nTypes < LP_INIT ∧ P0.fwdTok = false := by decide
example : 0 < P0fwd.nLps ∧ 0 < P0fwd.nTypes ∧ P0fwd.nTypes ≤ LP_INIT ∧ P0fwd.fwdTok = true := by decide
example : (Params.ofFields 12345 4 3 3 40 20 1 1 0 0).nLps = 4 ∧
    (Params.ofFields 12345 4 3 3 40 20 1 1 0 0).fwdTok = false ∧
    (Params.ofFields 12345 4 3 3 40 20 1 1 2 0).fwdTok = true := by decide

example : Spec.V2sOn (simModel P0 rngZ) := genmodel_V2s P0 rngZ (by decide) (by decide) (by decide) rfl
example : Spec.V2On (simModel P0fwd rngZ) := genmodel_fwd_V2 P0fwd rngZ (by decide) (by decide) (by decide) rfl

set_option maxRecDepth 100000 in
/-- the contract is not vacuous: the admissible invocation of `genmodel_fwd_not_V2s` does schedule an event, and `LP_INIT` schedules at least one -/
example : (handler P0fwd 0 (s0 P0fwd) cFwd).2.length = 1 ∧
    (handler P0 0 ((simModel P0 rngZ).init 0) (initEv 0)).2.length = 1 ∧
    Admissible (simModel P0 rngZ) 0 cFwd ∧ Admissible (simModel P0 rngZ) 0 (initEv 0) := by decide

/-- the initial states are reachable (the corollaries are about non-empty sets of states) -/
example : TW.Reachable (simModel P0 rngZ) (TW.init (simModel P0 rngZ)) ∧
    TWD.Reachable (simModel P0fwd rngZ) (TWG.init (simModel P0fwd rngZ)) ∧
    Spec.Reachable (simModel P0 rngZ) (Spec.init (simModel P0 rngZ)) :=
  ⟨TW.Reachable.init, TWD.Reachable.init, Spec.Reachable.init⟩

end RootSim.GenModelContract
