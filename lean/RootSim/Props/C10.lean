import RootSim.Proofs.Serial
import RootSim.Proofs.Ref
/-!
# C10 — the serial runtime implements the reference semantics

Model: `serialRun` (`Model/Serial.lean`, `src/serial/serial.c` step by step on the verbatim heap of
`Model/Heap.lean`), reference semantics `IsSpecRun` / `Step` / `MainRun` and the sorted-list executor `refRun`
(`Model/SeqSpec.lean`).  Hypothesis everywhere: `M.Valid` — every handler call the reference semantics can
reach satisfies the contract `validStep` (V2, V3, V4).

**The destination LP is not part of the content the event order compares**, so two equal-content events for
different LPs may be dispatched in either order: the global sequences of `(lp, t, type, payload)` of `serialRun`
and `refRun` are in general NOT equal (`serial_ref_global_order_differs`), and because the stop rule
("all LPs have signalled `CanEnd`") is evaluated after each dispatch, two runs may even stop at different
points within a group of equal-content events.  Per LP nothing differs, which is what `spec_deterministic`
states.
-/
namespace RootSim.C10
open RootSim RootSim.Heap RootSim.C15.Heap

variable {σ : Type} {M : SimModel σ}

/-- a model whose handler meets the contract on *every* input is valid -/
theorem valid_of_forall (h : ∀ lp s e, M.validStep lp s e) : M.Valid :=
  ⟨fun lp _ => h lp _ _, fun _ _ e s _ _ => h e.dest s e⟩

/-! ## The serial runtime is a run of the reference semantics -/

/-- **C10, refinement.**  For every valid model, `serialRun` — `LP_INIT` for every LP in LP order, then
repeatedly dispatch `heap_min` / bookkeeping / `heap_extract`, then `LP_FINI` for every LP — is a run of the
textbook event-list semantics: each dispatched event is `before`-minimal among the pending ones, the pending
multiset evolves by removing the dispatched event and adding what the handler scheduled, and the run stops
exactly by the stop rule (all LPs ended / timer fired at `t ≥ termination_time` / nothing pending).
The outcome is `finished` or `outOfFuel`, never `wrongExtract`/`badDest`/`emptyExtract`. -/
theorem serial_refines_spec (hv : M.Valid) (termT : Nat) (timer : Nat → Bool) (fuel : Nat) :
    IsSpecRun M termT timer (serialRun M termT timer fuel) :=
  serialRun_isSpecRun hv termT timer fuel

theorem serial_no_error (hv : M.Valid) (termT : Nat) (timer : Nat → Bool) (fuel : Nat) :
    (serialRun M termT timer fuel).outcome = .finished ∨ (serialRun M termT timer fuel).outcome = .outOfFuel := by
  obtain ⟨_, _, h | h⟩ := serial_refines_spec hv termT timer fuel
  · exact .inl h.1
  · exact .inr h.1

/-- **`heap_min` stays the root while the handler inserts** and `heap_extract` then removes exactly the
dispatched message: for a queue that is a heap of packed messages with root `msg`, after
`ScheduleNewEvent_serial` of any events that are not before `msg` (contract V2; C16 makes "not before" a
property of contents), `heap_extract` returns `msg` itself. -/
theorem root_stable {q : Array Msg} {msg : Msg} (k : Nat) (outs : List Event)
    (hh : IsHeap isBefore q) (hp : AllP Msg.Packed q) (h : heapMin q = some msg)
    (hv2 : ∀ o ∈ outs, Event.before o msg.toEvent = false) :
    heapMin (scheduleAll q k outs).1 = some msg ∧
    ∃ q2, heapExtract isBefore (scheduleAll q k outs).1 = some (msg, q2) ∧ IsHeap isBefore q2 ∧
      (pendOf q2).Perm ((pendOf q).erase msg.toEvent ++ outs) := by
  obtain ⟨q2, h1, h2, _, h4⟩ := dispatch_extract k outs hh hp h hv2
  exact ⟨extract_eq_root _ _ _ _ h1, q2, h1, h2, h4⟩

/-! ## What every run of the reference semantics satisfies -/

/-- **timestamp order with the content tie-break**: no dispatched event is before an earlier dispatched one -/
theorem specRun_sorted (hv : M.Valid) {termT : Nat} {timer : Nat → Bool} {k : Nat} {c : Cfg σ} {main : List Event}
    {fin : Bool} (h : MainRun M termT timer k (initCfg M) main c fin) :
    main.Pairwise (fun a b => Event.before b a = false) :=
  (steps_sorted h.steps (hv.goodFrom (.init rfl rfl (.refl _)))).1

/-- **exactly once**: the events scheduled at init plus the events scheduled by the dispatched events are, as
a multiset, the dispatched events plus the events still pending at the stop point -/
theorem specRun_exactly_once {termT : Nat} {timer : Nat → Bool} {k : Nat} {c : Cfg σ} {main : List Event}
    {fin : Bool} (h : MainRun M termT timer k (initCfg M) main c fin) :
    ((initCfg M).pend ++ (replay M (initCfg M).st main).2).Perm (main ++ c.pend) ∧
    c.st = (replay M (initCfg M).st main).1 :=
  ⟨(steps_accounting h.steps).2, (steps_accounting h.steps).1⟩

/-- the sorted-list executor `refRun` is a run of the reference semantics as well -/
theorem ref_refines_spec (hv : M.Valid) (termT : Nat) (timer : Nat → Bool) (fuel : Nat) :
    IsSpecRun M termT timer (refRun M termT timer fuel) :=
  refRun_isSpecRun hv termT timer fuel

/-! ## Determinism of the reference semantics -/

/-- **C10, determinism.**  Any two runs of the reference semantics of a valid model (any choices among minimal
events, any lengths): for every LP the sequences of events dispatched at that LP are prefix-comparable —
the `n`-th event an LP processes is the same in every run that gets that far — and when they are equal the LP
states are equal; moreover the global sequences of dispatched contents are prefix-comparable. -/
theorem spec_deterministic (hv : M.Valid) {A B : List Event} {cA cB : Cfg σ}
    (hA : Steps M (initCfg M) A cA) (hB : Steps M (initCfg M) B cB) :
    (∀ lp, Comparable (perLp lp A) (perLp lp B) ∧ (perLp lp A = perLp lp B → cA.st[lp]? = cB.st[lp]?)) ∧
    Comparable (A.map Event.content) (B.map Event.content) := by
  have hg : GoodFrom M (initCfg M) := hv.goodFrom (.init rfl rfl (.refl _))
  refine ⟨fun lp => ⟨steps_confluent hg hA hB lp, ?_⟩, steps_confluent_content hg hA hB⟩
  intro heq
  cases hs : (initCfg M).st[lp]? with
  | none =>
    have hlen := List.getElem?_eq_none_iff.1 hs
    rw [List.getElem?_eq_none (by rw [steps_length hA]; exact hlen),
      List.getElem?_eq_none (by rw [steps_length hB]; exact hlen)]
  | some s => rw [steps_state hA lp s hs, steps_state hB lp s hs, heq]

/-- the state of an LP is the fold of the handler over the events it has processed -/
theorem spec_state (_hv : M.Valid) {A : List Event} {cA : Cfg σ} (hA : Steps M (initCfg M) A cA) (lp : Nat) (s : σ)
    (hs : (initCfg M).st[lp]? = some s) : cA.st[lp]? = some (runLp M lp s (perLp lp A)) :=
  steps_state hA lp s hs

/-- determinism for complete results: two (prefixes of) runs, with any timer oracles and termination times -/
theorem specRuns_deterministic (hv : M.Valid) {t1 t2 : Nat} {tm1 tm2 : Nat → Bool} {r1 r2 : RunResult σ}
    (h1 : IsSpecRun M t1 tm1 r1) (h2 : IsSpecRun M t2 tm2 r2) :
    ∃ (m1 m2 : List Event) (c1 c2 : Cfg σ) (f1 f2 : Bool),
      r1.trace = initTrace M ++ m1 ++ (if f1 then finiTrace M else []) ∧
      r2.trace = initTrace M ++ m2 ++ (if f2 then finiTrace M else []) ∧
      r1.states = (if f1 then finiStates M c1.st else c1.st) ∧
      r2.states = (if f2 then finiStates M c2.st else c2.st) ∧
      (∀ lp, Comparable (perLp lp m1) (perLp lp m2) ∧ (perLp lp m1 = perLp lp m2 → c1.st[lp]? = c2.st[lp]?)) ∧
      Comparable (m1.map Event.content) (m2.map Event.content) := by
  obtain ⟨m1, c1, f1, hm1, e1, s1, _⟩ := isSpecRun_iff.1 h1
  obtain ⟨m2, c2, f2, hm2, e2, s2, _⟩ := isSpecRun_iff.1 h2
  obtain ⟨d1, d2⟩ := spec_deterministic hv hm1.steps hm2.steps
  exact ⟨m1, m2, c1, c2, f1, f2, e1, e2, s1, s2, d1, d2⟩

/-- **C10, equality with the independent executor.**  For every valid model the dispatch sequences of the
serial runtime and of the sorted-list executor (any budgets, even different timer oracles) are
`init ++ main ++ fini` with: per LP, `main` of one is a prefix of `main` of the other (same events in the
same order at every LP) with equal LP states when equal; and the global sequences of contents
`(t, type, payload)` agree on the common length. -/
theorem serial_eq_ref (hv : M.Valid) (termT : Nat) (timer timer' : Nat → Bool) (fuel fuel' : Nat) :
    ∃ (mS mR : List Event) (cS cR : Cfg σ) (fS fR : Bool),
      (serialRun M termT timer fuel).trace = initTrace M ++ mS ++ (if fS then finiTrace M else []) ∧
      (refRun M termT timer' fuel').trace = initTrace M ++ mR ++ (if fR then finiTrace M else []) ∧
      (serialRun M termT timer fuel).states = (if fS then finiStates M cS.st else cS.st) ∧
      (refRun M termT timer' fuel').states = (if fR then finiStates M cR.st else cR.st) ∧
      (∀ lp, Comparable (perLp lp mS) (perLp lp mR) ∧ (perLp lp mS = perLp lp mR → cS.st[lp]? = cR.st[lp]?)) ∧
      Comparable (mS.map Event.content) (mR.map Event.content) :=
  specRuns_deterministic hv (serial_refines_spec hv termT timer fuel) (ref_refines_spec hv termT timer' fuel')

/-- **exact equality for models without cross-LP ties.**  If no two distinct events are ever simultaneously
minimal (`UniqueMin`; e.g. every single-LP model, `uniqueMin_of_single_lp`), complete runs of the serial
runtime and of the sorted-list executor with the same timer oracle dispatch literally the same sequence
`(lp, t, type, payload)` and end in the same LP states. -/
theorem serial_eq_ref_exact (hv : M.Valid) (hu : UniqueMin M) (termT : Nat) (timer : Nat → Bool) (fuel fuel' : Nat)
    (h1 : (serialRun M termT timer fuel).outcome = .finished)
    (h2 : (refRun M termT timer fuel').outcome = .finished) :
    (serialRun M termT timer fuel).trace = (refRun M termT timer fuel').trace ∧
    (serialRun M termT timer fuel).states = (refRun M termT timer fuel').states := by
  obtain ⟨mS, cS, hS | hS⟩ := serial_refines_spec hv termT timer fuel
  · obtain ⟨mR, cR, hR | hR⟩ := ref_refines_spec hv termT timer fuel'
    · obtain ⟨e1, e2⟩ := mainRun_unique hu hS.2.1 hR.2.1 (Cfg.Equiv.refl _) (.init rfl rfl (.refl _))
      exact ⟨by rw [hS.2.2.1, hR.2.2.1, e1], by rw [hS.2.2.2, hR.2.2.2, e2]⟩
    · rw [hR.1] at h2; exact absurd h2 (by simp)
  · rw [hS.1] at h1; exact absurd h1 (by simp)

/-- The statement "the dispatch sequences `(lp, t, type, payload)` of the serial runtime and of the textbook
executor are equal" for ALL valid models — as literally worded in the property — is FALSE: see
`serial_eq_ref_globalStatement_false` below.  What holds in general is `serial_eq_ref`; what holds for models
without cross-LP ties is `serial_eq_ref_exact`. -/
def serial_eq_ref_globalStatement : Prop :=
  ∀ (M : SimModel Nat), M.Valid → ∀ (termT : Nat) (timer : Nat → Bool) (fuel : Nat),
    (serialRun M termT timer fuel).trace = (refRun M termT timer fuel).trace

/-! ## Non-vacuity and self-test: a 2-LP ping-pong model with ties, zero-delay events and events at init -/
section Examples

/-- LP state = number of processed events.  `LP_INIT` schedules three equal-content events (two of them for
different LPs: a cross-LP tie); a type-1 event bounces to the other LP one tick later and schedules a
zero-delay event (same `t`, lower priority type 0) to itself. -/
def pingPong : SimModel Nat where
  nLps := 2
  init := fun _ => 0
  handler := fun me s e =>
    if e.type = LP_INIT then
      (0, [⟨1 - me % 2, e.t + 1, 1, [7]⟩, ⟨0, e.t + 1, 1, [7]⟩, ⟨1, e.t + 1, 1, [7]⟩])
    else if e.type = LP_FINI then (s + 1000, [])
    else if e.type = 1 then
      (s + 1, if s < 4 then [⟨1 - me % 2, e.t + 1, 1, e.payload⟩, ⟨me % 2, e.t, 0, [1, 2, 3]⟩] else [])
    else (s + 1, [])
  canEnd := fun _ s => s ≥ 6

theorem pingPong_valid : pingPong.Valid := by
  refine valid_of_forall fun lp s e o ho => ?_
  have hd : 1 - lp % 2 < 2 ∧ lp % 2 < 2 := by omega
  have later {d ty pl} : Event.before ⟨d, e.t + 1, ty, pl⟩ e = false :=
    Event.not_before_of_t_lt (Nat.lt_succ_self _)
  simp only [pingPong] at ho
  by_cases h0 : e.type = LP_INIT
  · simp only [if_pos h0, List.mem_cons, List.not_mem_nil, or_false] at ho
    rcases ho with rfl | rfl | rfl
    · exact ⟨later, hd.1, by simp [LP_INIT]⟩
    · exact ⟨later, by simp [pingPong], by simp [LP_INIT]⟩
    · exact ⟨later, by simp [pingPong], by simp [LP_INIT]⟩
  rw [if_neg h0] at ho
  by_cases h1 : e.type = LP_FINI
  · rw [if_pos h1] at ho; cases ho
  rw [if_neg h1] at ho
  by_cases h2 : e.type = 1
  · rw [if_pos h2] at ho
    by_cases h3 : s < 4
    · simp only [if_pos h3, List.mem_cons, List.not_mem_nil, or_false] at ho
      rcases ho with rfl | rfl
      · exact ⟨later, hd.1, by simp [LP_INIT]⟩
      · exact ⟨Event.before_eq_false_of_type_lt rfl (h2 ▸ Nat.one_pos), hd.2, by simp [LP_INIT]⟩
    · rw [if_neg h3] at ho; cases ho
  · rw [if_neg h2] at ho; cases ho

def noTimer : Nat → Bool := fun _ => false
def everyOther : Nat → Bool := fun k => k % 2 == 1

/-- the two executors are run once on `pingPong`; the facts below are read off the two results -/
theorem pingPong_runs :
    let s := serialRun pingPong 1000 noTimer 100
    let r := refRun pingPong 1000 noTimer 100
    (s.outcome = .finished ∧ s.trace.length = 16 ∧ r.trace.length = 16 ∧ s.states = [1006, 1006] ∧
      r.states = [1006, 1006]) ∧
    (∀ lp < 2, perLp lp s.trace = perLp lp r.trace) ∧
    s.trace.map Event.content = r.trace.map Event.content ∧ s.trace ≠ r.trace := by
  decide +kernel

/-- both executors run to completion; 2 `LP_INIT` + 12 events + 2 `LP_FINI` -/
example : (serialRun pingPong 1000 noTimer 100).outcome = .finished ∧
    (serialRun pingPong 1000 noTimer 100).trace.length = 16 ∧
    (refRun pingPong 1000 noTimer 100).trace.length = 16 ∧
    (serialRun pingPong 1000 noTimer 100).states = [1006, 1006] ∧
    (refRun pingPong 1000 noTimer 100).states = [1006, 1006] := pingPong_runs.1

/-- per LP the two executors dispatch the same events in the same order … -/
example : ∀ lp < 2, perLp lp (serialRun pingPong 1000 noTimer 100).trace = perLp lp (refRun pingPong 1000 noTimer 100).trace :=
  pingPong_runs.2.1

/-- … and the same global sequence of contents … -/
example : (serialRun pingPong 1000 noTimer 100).trace.map Event.content =
    (refRun pingPong 1000 noTimer 100).trace.map Event.content := pingPong_runs.2.2.1

/-- … **but not the same global sequence of `(lp, t, type, payload)`**: the heap and the stable sorted list
order equal-content events for different LPs differently (the destination is not part of the tie-break). -/
theorem serial_ref_global_order_differs :
    pingPong.Valid ∧ (serialRun pingPong 1000 noTimer 100).trace ≠ (refRun pingPong 1000 noTimer 100).trace :=
  ⟨pingPong_valid, pingPong_runs.2.2.2⟩

theorem serial_eq_ref_globalStatement_false : ¬ serial_eq_ref_globalStatement :=
  fun h => serial_ref_global_order_differs.2 (h pingPong pingPong_valid 1000 noTimer 100)

/-- timer oracle and termination time: the run stops at the first timer tick at or after `t = 2` -/
example : (serialRun pingPong 2 everyOther 100).outcome = .finished ∧
    (serialRun pingPong 2 everyOther 100).trace.length = (refRun pingPong 2 everyOther 100).trace.length := by
  decide +kernel

/-- out of fuel = a prefix -/
example : (serialRun pingPong 1000 noTimer 5).outcome = .outOfFuel ∧
    (serialRun pingPong 1000 noTimer 5).trace.length = 7 := by decide +kernel

/-- a model violating V2 (a zero-delay event that is BEFORE the event scheduling it: same time, higher type):
the serial runtime extracts (and frees) the wrong message — explicit error outcome, not a silent default -/
def badModel : SimModel Nat where
  nLps := 1
  init := fun _ => 0
  handler := fun _ s e =>
    if e.type = LP_INIT then (0, [⟨0, 1, 1, []⟩])
    else if e.type = 1 ∧ s = 0 then (1, [⟨0, e.t, 2, []⟩])
    else (s + 1, [])
  canEnd := fun _ _ => false

example : (serialRun badModel 1000 noTimer 10).outcome = .wrongExtract 1 2 := by decide +kernel

/-- a single-LP model (ties and zero-delay events included) satisfies `UniqueMin`: `serial_eq_ref_exact` applies -/
def soloModel : SimModel Nat where
  nLps := 1
  init := fun _ => 0
  handler := fun _ s e =>
    if e.type = LP_INIT then (0, [⟨0, e.t + 1, 1, [7]⟩, ⟨0, e.t + 1, 1, [7]⟩, ⟨0, e.t + 1, 2, []⟩])
    else if e.type = 2 ∧ s < 9 then (s + 1, [⟨0, e.t, 1, [s]⟩, ⟨0, e.t + 2, 2, []⟩])
    else (s + 1, [])
  canEnd := fun _ s => s ≥ 12

theorem soloModel_valid : soloModel.Valid := by
  refine valid_of_forall fun lp s e o ho => ?_
  have later {k ty pl} : Event.before ⟨0, e.t + (k + 1), ty, pl⟩ e = false :=
    Event.not_before_of_t_lt (Nat.lt_add_of_pos_right (Nat.succ_pos k))
  simp only [soloModel] at ho
  by_cases h0 : e.type = LP_INIT
  · simp only [if_pos h0, List.mem_cons, List.not_mem_nil, or_false] at ho
    rcases ho with rfl | rfl | rfl
    · exact ⟨later (k := 0), by simp [soloModel], by simp [LP_INIT]⟩
    · exact ⟨later (k := 0), by simp [soloModel], by simp [LP_INIT]⟩
    · exact ⟨later (k := 0), by simp [soloModel], by simp [LP_INIT]⟩
  rw [if_neg h0] at ho
  by_cases h2 : e.type = 2 ∧ s < 9
  · simp only [if_pos h2, List.mem_cons, List.not_mem_nil, or_false] at ho
    rcases ho with rfl | rfl
    · exact ⟨Event.before_eq_false_of_type_lt rfl (h2.1 ▸ Nat.lt_succ_self 1), by simp [soloModel], by simp [LP_INIT]⟩
    · exact ⟨later (k := 1), by simp [soloModel], by simp [LP_INIT]⟩
  · rw [if_neg h2] at ho; cases ho

example : UniqueMin soloModel := uniqueMin_of_single_lp soloModel_valid rfl
example : (serialRun soloModel 1000 noTimer 100).outcome = .finished ∧
    (refRun soloModel 1000 noTimer 100).outcome = .finished ∧
    (serialRun soloModel 1000 noTimer 100).trace.length = 13 := by decide +kernel

end Examples

end RootSim.C10
