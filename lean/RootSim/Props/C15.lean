import RootSim.Proofs.MQueue
/-!
# C15 (buffer half) — the inter-thread message buffer loses nothing, duplicates nothing, and the
minimum-time query is a true lower bound

"Every event inserted for a thread by any thread is extracted by that thread exactly once; … the
queue's minimum-time query is never larger than the timestamp of any event that was inserted for that
thread before the query began and has not yet been extracted."

For EVERY number of concurrent producers and EVERY interleaving of the individual shared-memory accesses
of `msg_queue_insert` (load, CAS incl. failed and spuriously failed attempts) with the consumer's
`atomic_exchange` and its walk over the detached list (sequentially consistent; release/acquire not
modelled). The private heap is abstracted to a multiset from which `extract` removes an element of
minimal time stamp (that the C heap does so is the heap work package + the correspondence run).
-/
namespace RootSim.C15
open RootSim.MQueue

/-- the invariant of `Proofs/MQueue.lean` is inductive, hence holds in every reachable state -/
theorem invariant {s : St} (hr : Reachable s) : QInv s := by
  induction hr with
  | init n => exact init_inv n
  | step a _ hs ih => exact step_inv ih hs

/-- **no loss, no duplication**: at every moment the multiset of completed inserts equals
(shared list) + (detached, being walked) + (private heap) + (extracted), these four are pairwise disjoint
and duplicate-free, the shared list is a finite `NULL`-terminated chain of distinct nodes starting at the
head pointer, and the node of a producer that is still inside `msg_queue_insert` is in none of them. -/
theorem no_loss_no_dup {s : St} (hr : Reachable s) :
    s.comp.Perm (s.lst ++ s.det ++ s.priv ++ s.out) ∧
    (s.lst ++ s.det ++ s.priv ++ s.out).Nodup ∧
    IsChain s.next s.head s.lst ∧
    (∀ (p m : Nat), s.prod[p]? = some (PPc.loaded m) →
        m ∉ s.comp ∧ m ∉ s.lst ∧ m ∉ s.det ∧ m ∉ s.priv ∧ m ∉ s.out) := by
  have hi := invariant hr
  refine ⟨hi.perm, hi.nodup, hi.chainL, ?_⟩
  intro p m hp
  have h := (hi.pendFresh p m hp).2
  have hc : m ∉ s.comp := fun hin => h (hi.perm.mem_iff.mp hin)
  rw [mem_all4] at h
  exact ⟨hc, fun x => h (Or.inl x), fun x => h (Or.inr (Or.inl x)), fun x => h (Or.inr (Or.inr (Or.inl x))),
    fun x => h (Or.inr (Or.inr (Or.inr x)))⟩

/-- **at most once, and only what was inserted**: the sequence of extracted messages has no repetition
and consists of completed inserts -/
theorem extracted_at_most_once {s : St} (hr : Reachable s) : s.out.Nodup ∧ ∀ m ∈ s.out, m ∈ s.comp := by
  have hi := invariant hr
  constructor
  · have := hi.nodup
    unfold all4 at this
    exact (List.nodup_append.mp this).2.1
  · intro m hm
    exact hi.perm.mem_iff.mpr (mem_all4.mpr (Or.inr (Or.inr (Or.inr hm))))

/-- **the swap takes the whole list**: the pointer returned by `atomic_exchange` leads, through `next`,
over exactly the current content of the buffer, which becomes empty -/
theorem swap_takes_all {s s' : St} (hr : Reachable s) (h : swap s = some s') :
    s'.det = s.lst ∧ s'.lst = [] ∧ s'.head = none ∧ s'.cons = .walk s.head ∧ IsChain s'.next s.head s.lst ∧
    (∀ m ∈ s.comp, m ∉ s.out → m ∈ s'.snap) := by
  have hi := invariant hr
  obtain ⟨hc, rfl⟩ := swap_spec h
  refine ⟨rfl, rfl, rfl, rfl, hi.chainL, ?_⟩
  intro m hm hout
  have := mem_all4.mp (hi.perm.mem_iff.mp hm)
  simp only [hi.det_nil (.inl hc), List.not_mem_nil, false_or] at this
  rcases this with h1 | h1 | h1
  · exact List.mem_append_left _ h1
  · exact List.mem_append_right _ h1
  · exact absurd h1 hout

/-- **every completed insert is taken by the next swap**: start a consumer operation (`swap`) in any
reachable state `s0`; let producers and the consumer's walk interleave arbitrarily (`acts`) until the
walk is over (`ready`). Then every message whose insert had completed before the swap and that had not
been extracted is in the private heap. -/
theorem taken_after_swap {s0 s1 s2 : St} (hr : Reachable s0) (hsw : swap s0 = some s1) (acts : List Act)
    (he : exec s1 acts = some s2) (hf : ∀ a ∈ acts, finishes a = false) (hready : s2.cons = .ready) :
    ∀ m ∈ s0.comp, m ∉ s0.out → m ∈ s2.priv := by
  intro m hm hout
  have hsnap := (swap_takes_all hr hsw).2.2.2.2.2 m hm hout
  have hr1 : Reachable s1 := Reachable.step .swap hr hsw
  have hc1 : s1.cons ≠ .idle := by rw [(swap_takes_all hr hsw).2.2.2.1]; simp
  have hk := exec_keeps acts he hf hc1
  have hi2 := invariant (exec_reachable acts hr1 he)
  have := hi2.snapW (hready ▸ nofun) m (hk.1 ▸ hsnap)
  rw [hi2.det_nil (.inr hready)] at this
  exact this.resolve_left (List.not_mem_nil)

/-- **peek is a lower bound**: `msg_queue_time_peek` = swap, walk, minimum of the private heap. The
value it returns is ≤ the time stamp of every message whose insert completed before the peek's swap and
which has not been extracted — whatever the producers do in the meantime. -/
theorem peek_lower_bound {s0 s1 s2 s3 : St} {v : Nat} (hr : Reachable s0) (hsw : swap s0 = some s1)
    (acts : List Act) (he : exec s1 acts = some s2) (hf : ∀ a ∈ acts, finishes a = false)
    (hp : peek s2 = some (s3, v)) :
    ∀ m ∈ s0.comp, m ∉ s0.out → v ≤ s0.t m := by
  intro m hm hout
  obtain ⟨hready, _, rfl⟩ := peek_spec hp
  have hin := taken_after_swap hr hsw acts he hf hready m hm hout
  have hlt : m < s0.nmsgs := by
    have hi := invariant hr
    exact hi.bound m (hi.perm.mem_iff.mp hm)
  have ht1 : s1.t m = s0.t m := by obtain ⟨_, rfl⟩ := swap_spec hsw; rfl
  have hn1 : s1.nmsgs = s0.nmsgs := by obtain ⟨_, rfl⟩ := swap_spec hsw; rfl
  have ht2 := (exec_t_stable acts he).2 m (by omega)
  rw [← ht1, ← ht2]
  exact minT_le hin

/-- `msg_queue_extract` returns an element of minimal time stamp of the private heap (the guard of the
model's `extract`; for the real heap this is the heap work package) and `NULL` only if it is empty -/
theorem extract_returns_min {s s' : St} {c : Option Nat} (h : extract s c = some s') :
    (∀ m, c = some m → m ∈ s.priv ∧ ∀ j ∈ s.priv, s.t m ≤ s.t j) ∧ (c = none → s.priv = []) := by
  obtain ⟨_, hcase⟩ := extract_spec h
  rcases hcase with ⟨m, rfl, hm, _⟩ | ⟨rfl, he, _⟩
  · refine ⟨fun m' hm' => ?_, fun hn => by cases hn⟩
    cases hm'; exact isMin_mem hm
  · exact ⟨fun m' hm' => (by cases hm'), fun _ => he⟩

/-! ### Non-vacuity: two producers, a failed CAS with retry, a spurious failure, swap, walk, peek, extract -/
def exRun : Option St :=
  exec (MQueue.init 2)
    [.insLoad 0 50, .insLoad 1 30, .insCas 1 false, .insCas 0 false, .insCas 0 true, .insCas 0 false,
     .swap, .insLoad 1 10, .walk, .insCas 1 false, .walk, .walk]
/-- after the run: both early inserts are private, the late one (t=10) is in the shared list, the
consumer is `ready` -/
example : exRun.map (fun s => (s.priv, s.lst, s.comp, s.snap)) = some ([1, 0], [2], [2, 0, 1], [0, 1]) := by decide
example : exRun.map (fun s => (s.head, s.next 2, s.next 0, s.next 1)) = some (some 2, none, some 1, none) := by
  decide
example : (exRun.bind peek).map (·.2) = some 30 := by decide
example : (exRun.bind (fun s => extract s (some 1))).map (fun s => (s.priv, s.out)) = some ([0], [1]) := by decide
example : (exRun.bind (fun s => extract s (some 0))).isNone = true := by decide

end RootSim.C15
