import RootSim.Proofs.LP
/-!
# C05 (LP level) and C13 (LP level): rollback restores the exact LP state; fossil collection never
discards what a legal rollback can need.

The model is `Model/LP.lean` (`process.c` + `fossil.c` + the checkpoint log), over an arbitrary LP
state type `σ`, an arbitrary deterministic handler `h`, arbitrary message contents `ev`.
A checkpoint is the state itself; that the allocator's checkpoint/restore reproduces every byte is
the allocator-level half of C05 (`Props/C05.lean`).
All statements are for every history of operations, every checkpoint placement, every rollback target.
-/
namespace RootSim.C05LP
open RootSim RootSim.LP

variable {σ : Type}

/-- an operation of the LP-local machine; the environment chooses them freely -/
inductive Op where
  | fwd (m : Nat) (outs : List Nat)    -- forward execution of message `m`, outputs get ordinals `outs`
  | ckpt                                -- a checkpoint is taken (any placement)
  | rb (i : Nat)                        -- rollback to history index `i`
  | fossil (gvt ep : Nat)               -- fossil collection at GVT `gvt`

/-- one step; `none` = the C code would run off the beginning of the checkpoint log -/
def step (h : σ → Event → σ × List Event) (ev : Nat → Event) (lp : LPState σ) : Op → Option (LPState σ)
  | .fwd m outs => some (forward h lp m (ev m) outs).1
  | .ckpt => some (checkpoint lp)
  | .rb i => (rollback h ev lp i).map (·.lp)
  | .fossil gvt ep => match fossil (fun m => (ev m).t) lp gvt ep with
    | some o => some o.lp
    | none => some lp

def run (h : σ → Event → σ × List Event) (ev : Nat → Event) (lp : LPState σ) : List Op → Option (LPState σ)
  | [] => some lp
  | op :: ops => match step h ev lp op with
    | some lp' => run h ev lp' ops
    | none => none

/-- the state of an LP is exact: it is the re-execution, from `init`, of the committed messages
`base` followed by the past messages still in the history -/
def Exact (h : σ → Event → σ × List Event) (ev : Nat → Event) (init : σ) (lp : LPState σ) : Prop :=
  ∃ base, LInv h ev init base lp

/-- **C05, one rollback**: rollback to any index `i` not before some checkpoint succeeds and hands
the next handler exactly the state after the messages that remain valid. -/
theorem rollback_exact {h : σ → Event → σ × List Event} {ev : Nat → Event} {init : σ} {base : List Nat}
    {lp : LPState σ} (hI : LInv h ev init base lp) (i : Nat) (hck : ∃ x ∈ lp.logs, x.1 ≤ i) :
    ∃ o, rollback h ev lp i = some o ∧ o.lp.hist = lp.hist.take i ∧
      o.lp.st = replay h ev init (base ++ pastMsgs (lp.hist.take i)) :=
  let ⟨o, h1, h2, _, h4, _⟩ := LP.rollback_exact hI i hck
  ⟨o, h1, h2, h4⟩

/-- coasting forward emits nothing: the state after a rollback is computed by `silentExec`, which by
definition discards every output of the re-executed handlers -/
theorem silent_no_sends (h : σ → Event → σ × List Event) (ev : Nat → Event) (s : σ) (ms : List Nat) :
    silentExec h ev s ms = ms.foldl (fun s m => (h s (ev m)).1) s := rfl

/-- **C05/C13, every history**: starting from an exact state, after ANY sequence of forward steps,
checkpoints (any placement), rollbacks (to any target for which the step is defined) and fossil
collections (any GVT values), the state is still exact. -/
theorem run_exact {h : σ → Event → σ × List Event} {ev : Nat → Event} {init : σ} :
    ∀ (ops : List Op) (lp lp' : LPState σ), Exact h ev init lp → run h ev lp ops = some lp' →
      Exact h ev init lp'
  | [], lp, lp', hE, hr => by cases hr; exact hE
  | op :: ops, lp, lp', ⟨base, hI⟩, hr => by
    simp only [run] at hr
    split at hr
    · rename_i lp1 hs
      refine run_exact ops lp1 lp' ?_ hr
      cases op with
      | fwd m outs => cases hs; exact ⟨base, forward_inv hI m outs⟩
      | ckpt => cases hs; exact ⟨base, checkpoint_inv hI⟩
      | rb i =>
        obtain ⟨o, ho, rfl⟩ := Option.map_eq_some_iff.mp hs
        exact ⟨base, (rollback_spec hI ho).2.2.2⟩
      | fossil gvt ep =>
        simp only [step] at hs
        split at hs
        · rename_i o ho
          cases hs
          exact ⟨_, (fossil_inv hI _ gvt ep ho).2.2.2.2⟩
        · cases hs; exact ⟨base, hI⟩
    · cases hr

/-- **C13**: after a fossil collection the first kept checkpoint has reference 0, so EVERY later
rollback target has a checkpoint not after it, the kept history starts exactly at that checkpoint,
and (by `rollback_exact`) every such rollback is exact. -/
theorem rollback_after_fossil_exact {h : σ → Event → σ × List Event} {ev : Nat → Event} {init : σ}
    {base : List Nat} {lp : LPState σ} (hI : LInv h ev init base lp) (gvt ep : Nat)
    {o : FossilOut σ} (ho : fossil (fun m => (ev m).t) lp gvt ep = some o) (i : Nat) :
    lp.hist = o.dropped ++ o.lp.hist ∧
    ∃ o', rollback h ev o.lp i = some o' ∧ o'.lp.hist = o.lp.hist.take i ∧
      o'.lp.st = replay h ev init (base ++ pastMsgs (o.dropped ++ o.lp.hist.take i)) := by
  obtain ⟨hh, _, _, ⟨x, hx, hx0⟩, hI'⟩ := fossil_inv hI _ gvt ep ho
  obtain ⟨o', h1, h2, h3⟩ := rollback_exact hI' i ⟨x, List.mem_of_mem_head? hx, hx0 ▸ Nat.zero_le i⟩
  refine ⟨hh, o', h1, h2, ?_⟩
  rw [h3, List.append_assoc, ← pastMsgs_append]

/-! ### Non-vacuity: a concrete LP (state = list of processed time stamps) with two checkpoints,
rolled back between them, after a fossil collection. -/
def exH : List Nat → Event → List Nat × List Event := fun s e => (s ++ [e.t], [])
def exEv : Nat → Event := fun m => { dest := 0, t := 10 * m, type := 1, payload := [] }
def exLp0 : LPState (List Nat) := { hist := [.past 0], logs := [(1, [0])], st := [0], bound := some 0 }

example : LInv exH exEv [] [] exLp0 :=
  ⟨fun x hx => by cases List.mem_singleton.mp hx; exact ⟨Nat.le_refl _, rfl⟩, List.pairwise_singleton _ _, rfl⟩

example : (run exH exEv exLp0 [.fwd 1 [7], .fwd 2 [], .ckpt, .fwd 3 [8, 9], .fossil 15 1, .rb 2]).map
    (fun lp => (lp.st, lp.hist, lp.logs)) =
    some ([0, 10], [.sent 7, .past 1], [(0, [0])]) := by decide

end RootSim.C05LP
