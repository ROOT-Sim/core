import RootSim.Proofs.Barrier
/-!
# C17 — the thread barrier (`sync_thread_barrier`, `src/core/sync.c`)

"In every use of the thread barrier no thread returns before all participating threads have entered
that use, exactly one thread is told it is the leader, and the barrier can be reused immediately and
indefinitely by the same set of threads."

All theorems hold for EVERY number of threads `0 < N < 2^32` (`n_threads` is a C `unsigned`), EVERY
interleaving of the individual atomic operations (sequentially consistent; the `memory_order`
annotations are not modelled) and ANY number of consecutive uses, including a fast thread re-entering
use `k+1` while slow threads are still spinning in use `k`.
-/
namespace RootSim.C17
open RootSim.Barrier

/-- **The invariant is inductive** for `enter` AND `exit` (hence for every scheduled step). -/
theorem invariant_inductive {s s' : St} {i : Nat} (h : ∃ m, BInv s m) (hs : Barrier.step s i = some s') :
    ∃ m, BInv s' m := by
  obtain ⟨m, h⟩ := h
  rcases step_cases hs with he | he | he
  · exact ⟨m, enter_inv h he⟩
  · rcases exit_inv h he with h' | h'
    · exact ⟨m, h'⟩
    · exact ⟨m + 1, h'⟩
  · subst he; exact ⟨m, h⟩

/-- **reusable**: the invariant holds in every reachable state — after arbitrarily many uses, with
threads spread over two consecutive uses (fast re-entry). -/
theorem reusable {s : St} (hr : Reachable s) : ∃ m, BInv s m := by
  induction hr with
  | init N hpos hW => exact ⟨0, init_inv N hpos hW⟩
  | step i _ hs ih => exact invariant_inductive ih hs

/-- `reusable`, stated on schedules: for all `N`, for every schedule of any length -/
theorem reusable_exec (N : Nat) (hpos : 0 < N) (hW : N < W) (sched : List Nat) (s : St)
    (he : exec (Barrier.init N) sched = some s) : ∃ m, BInv s m :=
  reusable (exec_reachable sched (Reachable.init N hpos hW) he)

/-- **no early pass**: a thread leaves use `k` only in a state in which all `N` threads have executed
the `fetch_add` of use `k`. -/
theorem no_early_pass {s s' : St} {i : Nat} (hr : Reachable s) (he : Barrier.exit s i = some s') :
    ∃ t, s.ths[i]? = some t ∧ cnt s t.uses = s.ths.length := by
  obtain ⟨m, h⟩ := reusable hr
  obtain ⟨t, ht, _, hok, _⟩ := exit_spec he
  exact ⟨t, ht, by rw [← h.nlen]; exact (exitOk_iff h (List.mem_of_getElem? ht)).mp hok⟩

/-- the same as a state property: whenever some thread has returned from use `k`, every thread has
entered use `k` -/
theorem passed_imp_all_entered {s : St} (hr : Reachable s) {t : Th} (ht : t ∈ s.ths) {k : Nat}
    (hk : passed k t = true) : cnt s k = s.ths.length := by
  obtain ⟨m, h⟩ := reusable hr
  have hk' : k < t.uses := of_decide_eq_true hk
  have hu := h.range t ht
  by_cases hkm : k = m
  · rw [hkm, ← h.nlen]; exact h.full ⟨t, ht, by omega⟩
  · -- an older use: every thread is past it
    refine List.countP_eq_length.mpr fun t' ht' => entered_of_gt ?_
    rcases h.range t' ht' with h1 | h1 <;> omega

/-- the unsigned counters never wrap: the `fetch_add` of an up-use finds a value `< N ≤ UINT_MAX`, the
`fetch_add(-1)` of a down-use finds a value `≥ 1` -/
theorem no_wrap {s s' : St} {i : Nat} (hr : Reachable s) (he : enter s i = some s') :
    ∃ t, s.ths[i]? = some t ∧
      (up t.uses = true → ctr s t.uses < s.n ∧ ctr s' t.uses = ctr s t.uses + 1) ∧
      (up t.uses = false → 1 ≤ ctr s t.uses ∧ ctr s' t.uses + 1 = ctr s t.uses) := by
  obtain ⟨m, h⟩ := reusable hr
  obtain ⟨t, ht, hsp, rfl⟩ := enter_spec he
  refine ⟨t, ht, ?_⟩
  have hmem : t ∈ s.ths := List.mem_of_getElem? ht
  have hlt := h.cnt_lt hmem hsp
  -- before: the value for `cnt` entered threads; after: the value for `cnt + 1`
  rw [enterSt_ctr, if_pos rfl, h.ctr_uses hmem, newCtr_expect hlt h.nW]
  unfold expect
  constructor
  · intro hup; rw [if_pos hup, if_pos hup]; exact ⟨hlt, rfl⟩
  · intro hup; rw [hup]; simp only [Bool.false_eq_true, if_false]; omega

/-- at most one thread is ever told "leader" in a use -/
theorem at_most_one_leader {s : St} (hr : Reachable s) (k : Nat) : leadCnt s k ≤ 1 := by
  obtain ⟨m, h⟩ := reusable hr
  rw [h.lead k]; unfold leadExp
  split <;> split <;> decide

/-- **exactly one leader**: once all `N` threads have entered use `k` (in particular once anybody has
returned from it), exactly one of them has been handed `true` in use `k`. -/
theorem exactly_one_leader {s : St} (hr : Reachable s) (k : Nat) (hall : cnt s k = s.ths.length) :
    leadCnt s k = 1 := by
  obtain ⟨m, h⟩ := reusable hr
  rw [h.lead k, hall, ← h.nlen]; unfold leadExp
  split
  · exact if_pos h.npos
  · exact if_pos rfl

/-- the value a thread returns from use `k` is the flag recorded for it in use `k` -/
theorem returned_flag_recorded {s s' : St} {i : Nat} (hr : Reachable s) (he : Barrier.exit s i = some s') :
    ∃ t, s.ths[i]? = some t ∧ t.flags[t.uses]? = some t.l := by
  obtain ⟨m, h⟩ := reusable hr
  obtain ⟨t, ht, hsp, _, _⟩ := exit_spec he
  exact ⟨t, ht, (h.loc t (List.mem_of_getElem? ht)).2 hsp⟩

/-- the spin-loop guard of a thread is true exactly when all `N` threads have entered its use (the loop lets
nobody through earlier) -/
theorem guard_iff_all_entered {s : St} (hr : Reachable s) (t : Th) (ht : t ∈ s.ths) :
    exitOk s t = true ↔ cnt s t.uses = s.ths.length := by
  obtain ⟨m, h⟩ := reusable hr
  rw [exitOk_iff h ht, h.nlen]

/-- **progress** (no deadlock inside the barrier): once all `N` threads have entered use `k`, the
spin-loop guard of every thread still in use `k` is true, and it stays true under every further
schedule until that thread leaves. -/
theorem progress {s s' : St} (hr : Reachable s) (k : Nat) (hall : cnt s k = s.ths.length)
    (sched : List Nat) (he : exec s sched = some s') (t' : Th) (ht' : t' ∈ s'.ths) (hk : t'.uses = k) :
    exitOk s' t' = true := by
  obtain ⟨m, h⟩ := reusable hr
  obtain ⟨m', h'⟩ := reusable (exec_reachable sched hr he)
  rw [exitOk_iff h' ht', hk]
  -- `cnt` only grows, and `n_threads` bounds it
  have hm := exec_cnt_mono sched he k
  have hle := cnt_le s' k
  have := h.nlen
  have := h'.nlen
  omega

/-- **deadlock freedom**: in every reachable state some thread can make a real move (execute its
`fetch_add`, or pass the spin loop) — the barrier never gets stuck with everybody spinning. -/
theorem deadlock_free {s : St} (hr : Reachable s) :
    ∃ i s', enter s i = some s' ∨ Barrier.exit s i = some s' := by
  obtain ⟨m, h⟩ := reusable hr
  by_cases hout : ∃ t ∈ s.ths, t.spin = false
  · obtain ⟨t, ht, hsp⟩ := hout
    obtain ⟨i, hget?⟩ := List.getElem?_of_mem ht
    exact ⟨i, _, Or.inl (enter_eq hget? hsp)⟩
  · -- everybody spins: a thread of the oldest use occupied has all `N` threads with it or ahead of it,
    -- so its guard is true
    have hspin : ∀ t ∈ s.ths, t.spin = true := fun t ht =>
      Decidable.by_contra fun hs => hout ⟨t, ht, Bool.not_eq_true _ ▸ hs⟩
    have hne : s.ths ≠ [] := fun hnil => by
      have := h.npos
      rw [h.nlen, hnil] at this
      cases this
    obtain ⟨t0, ht0⟩ := List.exists_mem_of_ne_nil _ hne
    -- that use is `m` if somebody is there; otherwise everybody is in `m + 1`
    obtain ⟨t, ht, hall⟩ : ∃ t ∈ s.ths, cnt s t.uses = s.ths.length := by
      by_cases hm : ∃ t ∈ s.ths, t.uses = m
      · obtain ⟨t, ht, hu⟩ := hm
        refine ⟨t, ht, List.countP_eq_length.mpr fun t' ht' => entered_iff.mpr ?_⟩
        exact (h.range t' ht').imp (fun h1 => ⟨h1.trans hu.symm, hspin t' ht'⟩) (fun h1 => by omega)
      · have hu : ∀ t ∈ s.ths, t.uses = m + 1 := fun t ht =>
          (h.range t ht).resolve_left fun e => hm ⟨t, ht, e⟩
        exact ⟨t0, ht0, List.countP_eq_length.mpr fun t' ht' =>
          entered_iff.mpr (.inl ⟨(hu t' ht').trans (hu t0 ht0).symm, hspin t' ht'⟩)⟩
    obtain ⟨i, hget?⟩ := List.getElem?_of_mem ht
    have hok := (exitOk_iff h ht).mpr (h.nlen ▸ hall)
    exact ⟨i, _, Or.inr (exit_eq hget? (hspin t ht) hok)⟩

/-! ### Non-vacuity: concrete executions, including fast re-entry -/

/-- 3 threads, everybody enters use 0, thread 0 leaves and immediately enters use 1 while threads 1 and
2 are still spinning in use 0: threads are spread over two uses, the state is reachable. -/
def exFast : Option St := exec (Barrier.init 3) [0, 1, 2, 0, 0]
example : exFast.map (fun s => (s.ths.map (fun t => (t.uses, t.spin)), s.c0, s.c1))
    = some ([(1, true), (0, true), (0, true)], 3, 1) := by decide +kernel
/-- thread 0 was the (only) leader of use 0 (first to arrive, going up) -/
example : exFast.map (fun s => (leadCnt s 0, s.ths.map (fun t => t.flags))) =
    some (1, [[true, true], [false], [false]]) := by decide +kernel
/-- thread 0 cannot run through use 1: its guard is false until 1 and 2 arrive (stutter step) -/
example : (exFast.bind (fun s => Barrier.step s 0)) = exFast := by decide +kernel
/-- a down-use: the LAST thread to arrive is the leader; 12 full uses later counters are back at 0 -/
def exRounds : Option St :=
  exec (Barrier.init 2) ((List.replicate 12 [0, 1, 1, 0]).flatten)
example : exRounds.map (fun s => (s.ths.map (fun t => (t.uses, t.spin)), s.c0, s.c1)) =
    some ([(12, false), (12, false)], 0, 0) := by decide +kernel
example : exRounds.map (fun s => s.ths.map (fun t => t.flags.take 4)) =
    some [[true, true, false, false], [false, false, true, true]] := by decide +kernel
example : Reachable (Barrier.init 3) := Reachable.init 3 (by decide) (by decide)

end RootSim.C17
