import RootSim.Proofs.AllocInv
/-!
# C12 — the allocator returns valid, disjoint, stable blocks

Model: `RootSim/Model/Alloc.lean` (`rs_malloc`, `rs_calloc`, `rs_realloc`, `rs_free` over several
buddy systems).  All theorems hold for every configuration `c` with `0 < B ≤ T` (`Cfg.ok`), every
reachable state (`Inv`, shown to be an invariant of *every* API call including checkpoint take /
restore / fossil collection, (1)), every size, every placement `ins` of new arenas and every
initial content `c.junk` of fresh arenas.

`s.live c` is the list of live blocks `(arena, offset, order)`; `s.bytes b` the content of a block.
-/
namespace RootSim.C12
open RootSim.Alloc

/-! ## (1) the invariant -/

theorem inv_init (c : Cfg) : Inv c (MM.init c) := Inv.init c

theorem inv_step {c : Cfg} (hc : c.ok) {s s' : MM} {op : Op} {r : Ret} (hI : Inv c s)
    (h : step c s op = some (s', r)) : Inv c s' := hI.step hc h

theorem inv_run {c : Cfg} (hc : c.ok) {s s' : MM} {ops : List Op} (hI : Inv c s)
    (h : run c s ops = some s') : Inv c s' := hI.run hc h

/-- what the invariant says about the arenas: trees well-formed, memory of size `2^T`, identities
unique, and `full_ckpt_size = base + Σ_arenas (perArena + Σ live block sizes)` -/
theorem inv_arenas {c : Cfg} {s : MM} (hI : Inv c s) :
    (∀ a ∈ s.arenas, a.tree.WF c.B c.T ∧ a.mem.length = 2 ^ c.T) ∧ (s.arenas.map (·.id)).Nodup ∧
    s.full = c.base + (s.arenas.map fun a => c.perArena + a.tree.liveBytes c.T).sum :=
  ⟨hI.inv0.ok, hI.inv0.nodup, hI.inv0.full⟩

/-- every live block: order between `B` and `T`, inside the arena, aligned to its size -/
theorem live_block_valid {c : Cfg} {s : MM} (hI : Inv c s) {id o k : Nat} (h : (id, o, k) ∈ s.live c) :
    c.B ≤ k ∧ k ≤ c.T ∧ o + 2 ^ k ≤ 2 ^ c.T ∧ 2 ^ k ∣ o := live_bounds hI.inv0 h

/-- live blocks never overlap -/
theorem live_blocks_disjoint {c : Cfg} {s : MM} (hI : Inv c s) {id o1 k1 o2 k2 : Nat}
    (h1 : (id, o1, k1) ∈ s.live c) (h2 : (id, o2, k2) ∈ s.live c) (hne : (o1, k1) ≠ (o2, k2)) :
    o1 + 2 ^ k1 ≤ o2 ∨ o2 + 2 ^ k2 ≤ o1 := live_disjoint hI.inv0 h1 h2 hne

/-! ## (2) size, bounds, alignment of a successful allocation -/

/-- `buddy_allocation_block_compute(n)` is the least `k ≥ B` with `n ≤ 2^k`, i.e. `max B ⌈log2 n⌉` -/
theorem blockExp_is_max_B_clog2 (B n k : Nat) : blockExp B n ≤ k ↔ B ≤ k ∧ n ≤ 2 ^ k := blockExp_le_iff B n k

theorem malloc_block {c : Cfg} (hc : c.ok) {s s' : MM} {n ins : Nat} {p : Ptr} (hI : Inv c s)
    (h : rsMalloc c s n ins = (s', .ptr p)) :
    c.B ≤ blockExp c.B n ∧ n ≤ 2 ^ blockExp c.B n ∧ (c.B < blockExp c.B n → 2 ^ (blockExp c.B n - 1) < n) ∧
    (p.aid, p.off, blockExp c.B n) ∈ s'.live c ∧
    p.off + 2 ^ blockExp c.B n ≤ 2 ^ c.T ∧ 2 ^ blockExp c.B n ∣ p.off := by
  have hA := rsMalloc_ptr hc hI.inv0 h
  have hb := blockExp_spec c.B n
  exact ⟨hb.1, hb.2.1, hb.2.2, (hA.live _).2 (Or.inl rfl), hA.inside, hA.aligned⟩

/-- every request `0 < n ≤ 2^T` succeeds -/
theorem malloc_succeeds {c : Cfg} (hc : c.ok) {s : MM} (hI : Inv c s) {n : Nat} (ins : Nat) (h0 : 0 < n)
    (hT : n ≤ 2 ^ c.T) : ∃ s' p, rsMalloc c s n ins = (s', .ptr p) := by
  rcases rsMalloc_spec hc hI.inv0 n ins with ⟨h, _⟩ | ⟨h, _⟩ | ⟨_, _, s', p, h, _⟩
  · exact absurd h (Nat.ne_of_gt h0)
  · exact absurd h (Nat.not_lt.2 hT)
  · exact ⟨s', p, h⟩

/-! ## (3) the new block is fresh and disjoint; live set = before ∪ {new} -/

theorem malloc_live {c : Cfg} (hc : c.ok) {s s' : MM} {n ins : Nat} {p : Ptr} (hI : Inv c s)
    (h : rsMalloc c s n ins = (s', .ptr p)) :
    (p.aid, p.off, blockExp c.B n) ∉ s.live c ∧
    ∀ b, b ∈ s'.live c ↔ b = (p.aid, p.off, blockExp c.B n) ∨ b ∈ s.live c :=
  ⟨(rsMalloc_ptr hc hI.inv0 h).fresh, (rsMalloc_ptr hc hI.inv0 h).live⟩

theorem malloc_disjoint {c : Cfg} (hc : c.ok) {s s' : MM} {n ins : Nat} {p : Ptr} (hI : Inv c s)
    (h : rsMalloc c s n ins = (s', .ptr p)) {o j : Nat} (hb : (p.aid, o, j) ∈ s.live c) :
    o + 2 ^ j ≤ p.off ∨ p.off + 2 ^ blockExp c.B n ≤ o := by
  have hA := rsMalloc_ptr hc hI.inv0 h
  have h1 : (p.aid, o, j) ∈ s'.live c := (hA.live _).2 (Or.inr hb)
  have h2 : (p.aid, p.off, blockExp c.B n) ∈ s'.live c := (hA.live _).2 (Or.inl rfl)
  apply live_disjoint hA.inv h1 h2
  intro he
  simp at he
  apply hA.fresh
  rw [← he.1, ← he.2]; exact hb

/-! ## (4) free -/

theorem free_live {c : Cfg} (hc : c.ok) {s : MM} {p : Ptr} {j : Nat} (hI : Inv c s)
    (hp : (p.aid, p.off, j) ∈ s.live c) :
    ∃ s', rsFree c s (some p) = some s' ∧
      (∀ b, b ∈ s'.live c ↔ b ∈ s.live c ∧ b ≠ (p.aid, p.off, j)) ∧ s'.full + 2 ^ j = s.full ∧
      (∀ b ∈ s'.live c, s'.bytes b = s.bytes b) := by
  obtain ⟨s', h1, h2⟩ := rsFree_spec hc hI.inv0 hp
  refine ⟨s', h1, h2.live, h2.full, ?_⟩
  intro b hb
  exact bytes_of_mem hI.inv0 h2.inv h2.mem ((h2.live b).1 hb).1

/-- reusable: right after `free` of a block of order `j`, its arena can serve a request of that order
(`buddy_malloc` does not return `NULL`), so `rs_malloc` of any size of that order does not create a
new arena -/
theorem free_reusable {c : Cfg} (hc : c.ok) {s s' : MM} {p : Ptr} {j : Nat} (hI : Inv c s)
    (hp : (p.aid, p.off, j) ∈ s.live c) (hf : rsFree c s (some p) = some s') :
    (∃ a ∈ s'.arenas, a.id = p.aid ∧ (a.tree.bmalloc c.T j).isSome) ∧
    ∀ n ins s'' r, 0 < n → blockExp c.B n = j → rsMalloc c s' n ins = (s'', r) →
      (∃ q, r = .ptr q) ∧ s''.arenas.length = s'.arenas.length := by
  obtain ⟨s1, h1, h2⟩ := rsFree_spec hc hI.inv0 hp
  rw [hf] at h1; simp at h1; subst h1
  obtain ⟨a, ha, he, hl⟩ := h2.reusable
  have hb := live_bounds hI.inv0 hp
  constructor
  · refine ⟨a, ha, he, ?_⟩
    obtain ⟨t', off, q, _⟩ := BT.bmalloc_spec hc.1 hb.1 hb.2.1 (h2.inv.ok a ha).1 hl
    simp [q]
  · intro n ins s'' r hpos hn hm
    refine ⟨?_, rsMalloc_no_grow hc h2.inv ha (by rw [hn]; exact hl) hm⟩
    rcases rsMalloc_spec hc h2.inv n ins with ⟨h0, _⟩ | ⟨hT, _⟩ | ⟨_, _, s3, q, h3, _⟩
    · exact absurd h0 (Nat.ne_of_gt hpos)
    · exact absurd (hn ▸ (two_pow_T_lt_iff hc n).2 hT) (Nat.not_lt.2 hb.2.1)
    · rw [h3] at hm; cases hm; exact ⟨q, rfl⟩


/-- full coalescing: an arena without live blocks is back in its initial state (`buddy_init`), whatever
the order in which its blocks were freed -/
theorem free_all_coalesces {c : Cfg} {s : MM} (hI : Inv c s) {a : Arena} (ha : a ∈ s.arenas)
    (hnone : ∀ b ∈ s.live c, b.1 ≠ a.id) : a.tree = .free := by
  apply BT.eq_free_of_blocks_nil (hI.inv0.ok a ha).1 0
  apply List.eq_nil_iff_forall_not_mem.2
  intro b hb
  exact hnone (a.id, b.1, b.2) (mem_live.2 ⟨a, ha, rfl, hb⟩) rfl

/-! ## (5) frame / stability -/

def target : Op → Option (Nat × Nat)
  | .realloc (some p) _ _ => some (p.aid, p.off)
  | .free (some p) => some (p.aid, p.off)
  | .write p _ _ => some (p.aid, p.off)
  | _ => none

/-- **stability**: any malloc / calloc / realloc / free / store leaves every live block other than its
target live and with unchanged content -/
theorem frame {c : Cfg} (hc : c.ok) {s s' : MM} {op : Op} {r : Ret} (hI : Inv c s) (hu : op.isUser = true)
    (h : step c s op = some (s', r)) {b : Nat × Nat × Nat} (hb : b ∈ s.live c)
    (hne : target op ≠ some (b.1, b.2.1)) : b ∈ s'.live c ∧ s'.bytes b = s.bytes b :=
  -- `target` has the equations of `Op.target`, which `step_user_frame` is stated with
  (step_user_frame hc hI.inv0 hu h).keep b hb hne

/-! ## (6) realloc, clean failures -/

theorem realloc_in_place {c : Cfg} (hc : c.ok) {s : MM} {p : Ptr} {j n : Nat} (ins : Nat) (hI : Inv c s)
    (hp : (p.aid, p.off, j) ∈ s.live c) (hn : 0 < n) (hj : blockExp c.B n = j) :
    rsRealloc c s (some p) n ins = some (s, .ptr p) := by
  rcases rsRealloc_spec hc hI.inv0 hp n ins hn with ⟨_, h1⟩ | ⟨h0, _⟩ | ⟨h0, _⟩
  · exact h1
  · exact absurd hj.symm h0
  · exact absurd hj.symm h0

/-- a realloc that changes the order: new block valid and fresh, old block gone, every other block
kept, the first `min n (old size)` bytes carried over -/
theorem realloc_moves {c : Cfg} (hc : c.ok) {s : MM} {p : Ptr} {j n : Nat} (ins : Nat) (hI : Inv c s)
    (hp : (p.aid, p.off, j) ∈ s.live c) (hn : 0 < n) (hT : n ≤ 2 ^ c.T) (hj : blockExp c.B n ≠ j) :
    ∃ s' q, rsRealloc c s (some p) n ins = some (s', .ptr q) ∧
      (q.aid, q.off, blockExp c.B n) ∉ s.live c ∧
      (∀ b, b ∈ s'.live c ↔ b = (q.aid, q.off, blockExp c.B n) ∨ (b ∈ s.live c ∧ b ≠ (p.aid, p.off, j))) ∧
      q.off + 2 ^ blockExp c.B n ≤ 2 ^ c.T ∧ 2 ^ blockExp c.B n ∣ q.off ∧ n ≤ 2 ^ blockExp c.B n ∧
      (s'.bytes (q.aid, q.off, blockExp c.B n)).take (min n (2 ^ j)) =
        (s.bytes (p.aid, p.off, j)).take (min n (2 ^ j)) := by
  have hI0 := hI.inv0
  rcases rsRealloc_spec hc hI0 hp n ins hn with ⟨h0, _⟩ | ⟨_, h0, _⟩ |
    ⟨_, _, s1, s2, s3, q, h1, hA, hP, hlen, hF⟩
  · exact absurd h0.symm hj
  · exact absurd h0 (Nat.not_lt.2 hT)
  · have hble := (blockExp_spec c.B n).2.1
    have hq1 : (q.aid, q.off, blockExp c.B n) ∈ s1.live c := (hA.live _).2 (Or.inl rfl)
    have hqp : (q.aid, q.off, blockExp c.B n) ≠ (p.aid, p.off, j) := fun he => hA.fresh (he ▸ hp)
    refine ⟨s3, q, h1, hA.fresh, ?_, hA.inside, hA.aligned, hble, ?_⟩
    · intro b
      rw [hF.live, hP.live, hA.live]
      constructor
      · rintro ⟨hb | hb, hne⟩
        · exact Or.inl hb
        · exact Or.inr ⟨hb, hne⟩
      · rintro (rfl | ⟨hb, hne⟩)
        · exact ⟨Or.inl rfl, hqp⟩
        · exact ⟨Or.inr hb, hne⟩
    · -- the free and the allocation leave bytes alone; the store put the old block's first bytes there
      have hcopy := hP.bytes_take (e := blockExp c.B n) (by rw [hlen]; exact Nat.le_trans (Nat.min_le_left _ _) hble)
      rw [hlen] at hcopy
      rw [bytes_of_mem hP.inv hF.inv hF.mem (hP.live ▸ hq1), hcopy, ← bytes_of_mem hI0 hA.inv hA.mem hp]
      unfold MM.bytes
      rw [peek_take, Nat.min_eq_left (Nat.min_le_right _ _)]

theorem malloc_zero (c : Cfg) (s : MM) (ins : Nat) : rsMalloc c s 0 ins = (s, .null) := by simp [rsMalloc]

theorem malloc_too_big {c : Cfg} (hc : c.ok) (s : MM) {n : Nat} (ins : Nat) (h : 2 ^ c.T < n) :
    rsMalloc c s n ins = (s, .enomem) := by
  have h0 : n ≠ 0 := Nat.ne_of_gt (Nat.lt_trans (Nat.two_pow_pos c.T) h)
  simp [rsMalloc, h0, (two_pow_T_lt_iff hc n).2 h]

theorem calloc_zero_product (c : Cfg) (s : MM) {nm sz : Nat} (ins : Nat) (h : nm * sz = 0) :
    rsCalloc c s nm sz ins = (s, .null) := by simp [rsCalloc, h, rsMalloc]

theorem realloc_zero (c : Cfg) (s : MM) (p : Ptr) (ins : Nat) : rsRealloc c s (some p) 0 ins = some (s, .null) := by
  simp [rsRealloc]

theorem realloc_null_zero (c : Cfg) (s : MM) (ins : Nat) : rsRealloc c s none 0 ins = some (s, .einval) := by
  simp [rsRealloc]

theorem realloc_null (c : Cfg) (s : MM) {n : Nat} (ins : Nat) (h : 0 < n) :
    rsRealloc c s none n ins = some (rsMalloc c s n ins) := by
  simp [rsRealloc, Nat.ne_of_gt h]

theorem realloc_too_big {c : Cfg} (hc : c.ok) {s : MM} {p : Ptr} {j n : Nat} (ins : Nat) (hI : Inv c s)
    (hp : (p.aid, p.off, j) ∈ s.live c) (h : 2 ^ c.T < n) :
    rsRealloc c s (some p) n ins = some (s, .enomem) := by
  have h0 : 0 < n := Nat.lt_trans (Nat.two_pow_pos c.T) h
  rcases rsRealloc_spec hc hI.inv0 hp n ins h0 with ⟨hj, _⟩ | ⟨_, _, h1⟩ | ⟨_, hT, _⟩
  · exact absurd (hj ▸ (two_pow_T_lt_iff hc n).2 h) (Nat.not_lt.2 (live_bounds hI.inv0 hp).2.1)
  · exact h1
  · exact absurd h (Nat.not_lt.2 hT)

/-! ## (7) calloc -/

theorem calloc_zeroed {c : Cfg} (hc : c.ok) {s s' : MM} {nm sz ins : Nat} {p : Ptr} (hI : Inv c s)
    (hov : nm * sz < 2 ^ 64) (h : rsCalloc c s nm sz ins = (s', .ptr p)) :
    (p.aid, p.off, blockExp c.B (nm * sz)) ∉ s.live c ∧
    (∀ b, b ∈ s'.live c ↔ b = (p.aid, p.off, blockExp c.B (nm * sz)) ∨ b ∈ s.live c) ∧
    nm * sz ≤ 2 ^ blockExp c.B (nm * sz) ∧ p.off + 2 ^ blockExp c.B (nm * sz) ≤ 2 ^ c.T ∧
    2 ^ blockExp c.B (nm * sz) ∣ p.off ∧
    (s'.bytes (p.aid, p.off, blockExp c.B (nm * sz))).take (nm * sz) = List.replicate (nm * sz) 0 := by
  rcases rsCalloc_spec hc hI.inv0 nm sz ins (Nat.mod_eq_of_lt hov) with
    ⟨_, _, h2⟩ | ⟨_, h2⟩ | ⟨_, h2⟩ | ⟨s1, s2, q, h2, hA, hP⟩ <;> rw [h2] at h <;> cases h
  have hble := (blockExp_spec c.B (nm * sz)).2.1
  have hz := hP.bytes_take (e := blockExp c.B (nm * sz)) (by rwa [List.length_replicate])
  rw [List.length_replicate] at hz
  exact ⟨hA.fresh, fun b => by rw [hP.live]; exact hA.live b, hble, hA.inside, hA.aligned, hz⟩

/-- the unchecked `rs_calloc` only ever sees the product modulo `2^64`: it succeeds whenever the wrapped
product is a valid request, with a block sized for the wrapped product -/
theorem calloc_unchecked_wraps {c : Cfg} (hc : c.ok) (hpin : c.callocChecked = false) {s : MM} (hI : Inv c s)
    (nm sz ins : Nat) {tot : Nat} (htot : nm * sz % 2 ^ 64 = tot) (h0 : 0 < tot) (hT : tot ≤ 2 ^ c.T) :
    ∃ s' p, rsCalloc c s nm sz ins = (s', .ptr p) ∧ (p.aid, p.off, blockExp c.B tot) ∈ s'.live c := by
  rcases rsCalloc_spec hc hI.inv0 nm sz ins htot with ⟨h1, _⟩ | ⟨h1, _⟩ | ⟨h1, _⟩ | ⟨s1, s2, p, h1, hA, hP⟩
  · rw [hpin] at h1; cases h1
  · exact absurd h1 (Nat.ne_of_gt h0)
  · exact absurd h1 (Nat.not_lt.2 hT)
  · exact ⟨s2, p, h1, hP.live ▸ (hA.live _).2 (Or.inl rfl)⟩

/-- **Defect of the pinned code (`callocChecked = false`; outside `calloc_zeroed`'s hypothesis
`nmemb*size < 2^64`)**: `rs_calloc` multiplies in `size_t` without an overflow check, so a request for
`(2^63+8)·2 = 2^64+16` bytes *succeeds* and returns a block sized for 16 bytes.  Fixed by
`repo_patches/rs_calloc_overflow.diff` (`callocChecked = true`, see `calloc_overflow_fails`). -/
theorem calloc_wraparound_counterexample {c : Cfg} (hc : c.ok) (hpin : c.callocChecked = false) {s : MM}
    (hI : Inv c s) (ins : Nat) (hT : 4 ≤ c.T) (hT' : c.T < 64) :
    ∃ s' p, rsCalloc c s (2 ^ 63 + 8) 2 ins = (s', .ptr p) ∧
      (p.aid, p.off, blockExp c.B 16) ∈ s'.live c ∧ 2 ^ c.T < (2 ^ 63 + 8) * 2 := by
  obtain ⟨s', p, h, hl⟩ := calloc_unchecked_wraps hc hpin hI (2 ^ 63 + 8) 2 ins (tot := 16) (by decide) (by decide)
    (Nat.pow_le_pow_right (n := 2) (i := 4) (by decide) hT)
  exact ⟨s', p, h, hl, Nat.lt_trans (Nat.pow_lt_pow_right (by decide) hT') (by decide)⟩

/-- patched `rs_calloc`: a product that does not fit in `size_t` fails cleanly — `NULL`, `ENOMEM`,
nothing changes -/
theorem calloc_overflow_fails {c : Cfg} (hck : c.callocChecked = true) (s : MM) {nm sz : Nat} (ins : Nat)
    (h : 2 ^ 64 ≤ nm * sz) : rsCalloc c s nm sz ins = (s, .enomem) := by
  simp [rsCalloc, hck, h]

/-- patched `rs_calloc`: `calloc_zeroed` without any hypothesis on the product -/
theorem calloc_zeroed_checked {c : Cfg} (hc : c.ok) (hck : c.callocChecked = true) {s s' : MM}
    {nm sz ins : Nat} {p : Ptr} (hI : Inv c s) (h : rsCalloc c s nm sz ins = (s', .ptr p)) :
    (p.aid, p.off, blockExp c.B (nm * sz)) ∉ s.live c ∧
    (∀ b, b ∈ s'.live c ↔ b = (p.aid, p.off, blockExp c.B (nm * sz)) ∨ b ∈ s.live c) ∧
    nm * sz ≤ 2 ^ blockExp c.B (nm * sz) ∧ p.off + 2 ^ blockExp c.B (nm * sz) ≤ 2 ^ c.T ∧
    2 ^ blockExp c.B (nm * sz) ∣ p.off ∧
    (s'.bytes (p.aid, p.off, blockExp c.B (nm * sz))).take (nm * sz) = List.replicate (nm * sz) 0 := by
  apply calloc_zeroed hc hI _ h
  apply Nat.lt_of_not_le
  intro hov
  rw [calloc_overflow_fails hck s ins hov] at h
  simp at h

/-- every outcome of `rs_calloc` that is not a pointer leaves the state unchanged and is either a
zero-size or an over-size request -/
theorem calloc_fails_cleanly {c : Cfg} (hc : c.ok) {s s' : MM} {nm sz ins : Nat} {r : Ret} (hI : Inv c s)
    (h : rsCalloc c s nm sz ins = (s', r)) (hr : ∀ p, r ≠ .ptr p) :
    s' = s ∧ ((nm * sz % 2 ^ 64 = 0 ∧ r = .null) ∨ (2 ^ c.T < nm * sz % 2 ^ 64 ∧ r = .enomem) ∨
      (c.callocChecked = true ∧ 2 ^ 64 ≤ nm * sz ∧ r = .enomem)) := by
  rcases rsCalloc_spec hc hI.inv0 nm sz ins rfl with ⟨h0, h1, h2⟩ | ⟨h1, h2⟩ | ⟨h1, h2⟩ | ⟨s1, s2, q, h2, _⟩ <;>
    rw [h2] at h <;> cases h
  · exact ⟨rfl, Or.inr (Or.inr ⟨h0, h1, rfl⟩)⟩
  · exact ⟨rfl, Or.inl ⟨h1, rfl⟩⟩
  · exact ⟨rfl, Or.inr (Or.inl ⟨h1, rfl⟩)⟩
  · exact absurd rfl (hr q)

/-- **The full calloc clause of C12** for the variant `checked` of `rs_calloc`: for every
configuration of that variant, every reachable state and all `size_t` arguments, a successful call
returns a fresh live block of some order `k` with `nmemb*size ≤ 2^k` (at least the requested size)
whose first `nmemb*size` bytes are zero, the live set being the old one plus that block; and an
unsuccessful call changes nothing and happens only for a zero-size or an over-size
(`> 2^T`, or not representable) request. -/
def CallocStatement (checked : Bool) : Prop :=
  ∀ (c : Cfg), c.ok → c.callocChecked = checked → ∀ (s : MM), Inv c s →
  ∀ (nm sz ins : Nat) (s' : MM) (r : Ret), nm < 2 ^ 64 → sz < 2 ^ 64 → rsCalloc c s nm sz ins = (s', r) →
    (∀ p, r = .ptr p → ∃ k, (p.aid, p.off, k) ∉ s.live c ∧
      (∀ b, b ∈ s'.live c ↔ b = (p.aid, p.off, k) ∨ b ∈ s.live c) ∧ nm * sz ≤ 2 ^ k ∧
      (s'.bytes (p.aid, p.off, k)).take (nm * sz) = List.replicate (nm * sz) 0) ∧
    ((∀ p, r ≠ .ptr p) → s' = s ∧ (nm * sz = 0 ∨ 2 ^ c.T < nm * sz ∨ 2 ^ 64 ≤ nm * sz))

/-- the patched code satisfies the full clause -/
theorem callocStatement_patched : CallocStatement true := by
  intro c hc hck s hI nm sz ins s' r _ _ h
  constructor
  · rintro p rfl
    obtain ⟨h1, h2, h3, _, _, h6⟩ := calloc_zeroed_checked hc hck hI h
    exact ⟨_, h1, h2, h3, h6⟩
  · intro hr
    obtain ⟨h1, h2⟩ := calloc_fails_cleanly hc hI h hr
    refine ⟨h1, ?_⟩
    by_cases hov : 2 ^ 64 ≤ nm * sz
    · exact Or.inr (Or.inr hov)
    · have e : nm * sz % 2 ^ 64 = nm * sz := Nat.mod_eq_of_lt (Nat.lt_of_not_le hov)
      rw [e] at h2
      rcases h2 with h2 | h2 | h2
      · exact Or.inl h2.1
      · exact Or.inr (Or.inl h2.1)
      · exact absurd h2.2.1 hov

/-- the real configuration with the pinned `rs_calloc` -/
def cRealPinned : Cfg := ⟨16, 6, 2192, 16, fun _ _ => 0, false⟩

/-- the pinned code violates it: `rs_calloc(2^63+8, 2)` succeeds with a block far smaller than
`nmemb*size` -/
theorem callocStatement_pinned_false : ¬ CallocStatement false := by
  intro hS
  have hc : cRealPinned.ok := ⟨by decide, by decide⟩
  have hI : Inv cRealPinned (MM.init cRealPinned) := inv_init _
  obtain ⟨s', p, h, _, _⟩ :=
    calloc_wraparound_counterexample hc rfl hI 0 (by decide) (by decide)
  obtain ⟨k, _, hlive, hle, _⟩ :=
    (hS cRealPinned hc rfl _ hI (2 ^ 63 + 8) 2 0 s' (.ptr p) (by decide) (by decide) h).1 p rfl
  have hI' : Inv cRealPinned s' :=
    inv_step (op := .calloc (2 ^ 63 + 8) 2 0) (r := .ptr p) hc hI (by simp [step, h])
  have hb := live_block_valid hI' ((hlive _).2 (Or.inl rfl))
  have h1 : 2 ^ k ≤ 2 ^ cRealPinned.T := Nat.pow_le_pow_right (by decide) hb.2.1
  have h2 : (2 : Nat) ^ cRealPinned.T < (2 ^ 63 + 8) * 2 := by decide
  exact absurd (Nat.lt_of_lt_of_le h2 (Nat.le_trans hle h1)) (Nat.lt_irrefl _)

/-! ## (8) the unchecked assumption of `buddy_malloc` -/

/-- When `longest[0] ≥ req`, the descent of `buddy_malloc` (which never re-checks) ends on a
completely free node of exactly the requested order and never passes through an allocated node. -/
theorem descent_safe {B e n : Nat} {t : BT} (hB : 0 < B) (hBe : B ≤ e) (h : t.WF B (e + n))
    (hl : e ≤ t.longest (e + n)) : (t.descendN e n).isSome := by
  obtain ⟨t', off, h1, _⟩ := BT.descendN_spec hB hBe h hl
  simp [h1]

/-- `buddy_malloc` returns `NULL` exactly when `longest[0] < req` -/
theorem buddy_malloc_null_iff {B T e : Nat} {t : BT} (hB : 0 < B) (hBe : B ≤ e) (heT : e ≤ T)
    (h : t.WF B T) : t.bmalloc T e = none ↔ t.longest T < e := BT.bmalloc_eq_none hB hBe heT h

/-- every tree the allocator ever holds is well-formed, hence (8) applies to every `buddy_malloc` call
made by `rs_malloc` in a reachable state -/
theorem reachable_trees_wf {c : Cfg} (hc : c.ok) {s : MM} {ops : List Op}
    (h : run c (MM.init c) ops = some s) : ∀ a ∈ s.arenas, a.tree.WF c.B c.T :=
  fun a ha => ((inv_run hc (inv_init c) h).inv0.ok a ha).1

/-! ## non-vacuity -/

/-- the real configuration (patched `rs_calloc`) -/
def cReal : Cfg := ⟨16, 6, 2192, 16, fun _ _ => 0, true⟩
/-- a tiny configuration for kernel evaluation: 8-byte arenas, 2-byte leaves -/
def cTiny : Cfg := ⟨3, 1, 5, 16, fun i o => i + o, false⟩

theorem cReal_ok : cReal.ok := ⟨by decide, by decide⟩
theorem cTiny_ok : cTiny.ok := ⟨by decide, by decide⟩

/-- a reachable state with two arenas (the second inserted *before* the first), live blocks of
different orders, a checkpoint, a free and a realloc -/
def tinyOps : List Op :=
  [.malloc 3 0, .malloc 8 0, .take 0, .malloc 2 0, .write ⟨0, 0⟩ 1 [7, 9], .free (some ⟨1, 0⟩),
   .realloc (some ⟨0, 0⟩) 5 0, .calloc 1 2 0]

example : (run cTiny (MM.init cTiny) tinyOps).isSome = true := by decide +kernel

example : ((run cTiny (MM.init cTiny) tinyOps).map fun s => s.live cTiny) =
    some [(1, 0, 3), (0, 0, 1), (0, 4, 1)] := by decide +kernel

example : ∃ s, run cTiny (MM.init cTiny) tinyOps = some s ∧ Inv cTiny s := by
  cases h : run cTiny (MM.init cTiny) tinyOps with
  | none => exact absurd h (by decide +kernel)
  | some s => exact ⟨s, rfl, inv_run cTiny_ok (inv_init _) h⟩

example : ∃ s p, rsMalloc cReal (MM.init cReal) 65 0 = (s, .ptr p) :=
  malloc_succeeds cReal_ok (inv_init _) 0 (by decide) (by decide)

end RootSim.C12
