import RootSim.Proofs.Heap
import RootSim.Props.C16
/-!
# C15 (private-heap half) and the heap part of C10 — the binary heap of `heap.h`

All theorems are about the verbatim array algorithms `heapInsertI` / `heapExtractI` of `Model/Heap.lean`
with a *call-site indexed* comparator (`heapInsert lt = heapInsertI (fun _ => lt)` is the ordinary case):

* multiset preservation holds for **every** comparator (no order axiom at all);
* for a comparator that is a strict weak order (`StrictWeak`, e.g. the event order of C16) the heap
  invariant is preserved and `heap_extract` returns a minimum;
* for a family of comparators that merely respects the time stamps (`TimeConsistent`), whose
  tie-break answers may change arbitrarily from call to call (the anti flag read by
  `msg_is_before_extended` is set concurrently by other threads), the *time-heap* invariant
  (`parent.t ≤ child.t`) is preserved, the extracted element has the least time stamp and `heap_min`
  is a lower bound of all time stamps.  No property of the tie-break is used.
-/
namespace RootSim.C15.Heap
open RootSim RootSim.Heap
variable {α : Type}

/-! ## 1. Multiset preservation — any comparator -/

/-- `heap_insert` adds exactly the inserted element. -/
theorem insert_perm (cmp : Cmp α) (a : Array α) (x : α) :
    (heapInsertI cmp a x).1.toList.Perm (x :: a.toList) := by
  refine (heapInsertI_perm cmp a x).toList.trans ?_
  rw [Array.toList_push]
  exact List.perm_append_singleton _ _

/-- `heap_extract` removes exactly the returned element; it fails only on the empty heap. -/
theorem extract_perm (cmp : Cmp α) (a : Array α) (m : α) (a' : Array α)
    (h : heapExtractI cmp a = some (m, a')) : a.toList.Perm (m :: a'.toList) :=
  heapExtractI_perm cmp a m a' h

theorem extract_isSome_iff (cmp : Cmp α) (a : Array α) : (heapExtractI cmp a).isSome ↔ 0 < a.size := by
  unfold heapExtractI; split <;> simp [*]

/-- the returned element is the root `items[0]` -/
theorem extract_eq_root (cmp : Cmp α) (a : Array α) (m : α) (a' : Array α)
    (h : heapExtractI cmp a = some (m, a')) : heapMin a = some m := by
  obtain ⟨hs, rfl, _⟩ := heapExtractI_eq_some.1 h
  exact heapMin_eq_some.2 ⟨hs, rfl⟩

/-- `heap_insert_n` adds exactly the given elements. -/
theorem insertN_perm (cmp : Cmp α) (a : Array α) (ins : List α) :
    (heapInsertNI cmp a ins).toList.Perm (ins ++ a.toList) := by
  unfold heapInsertNI
  induction ins with
  | nil => simp
  | cons x xs ih =>
    simp only [List.foldr_cons, List.cons_append]
    exact (insert_perm cmp _ x).trans (List.Perm.cons _ ih)

/-! ## 2. Strict weak orders: heap invariant and minimality -/

/-- `lt` is a strict weak order on the elements satisfying `P` -/
structure StrictWeak (lt : α → α → Bool) (P : α → Prop) : Prop where
  asymm : ∀ a b, P a → P b → lt a b = true → lt b a = false
  /-- negative transitivity (equivalently: incomparability is transitive and `lt` is transitive) -/
  ntrans : ∀ a b c, P a → P b → P c → lt a b = false → lt b c = false → lt a c = false

/-- the heap invariant w.r.t. `lt`: no child is before its parent -/
def IsHeap (lt : α → α → Bool) (a : Array α) : Prop := HeapLe (fun x y => lt y x = false) a

theorem StrictWeak.consistent {lt : α → α → Bool} {P : α → Prop} (S : StrictWeak lt P) :
    Consistent (constCmp lt) (fun x y => lt y x = false) P where
  refl a ha := by
    cases h : lt a a
    · rfl
    · have := S.asymm a a ha ha h; rw [h] at this; exact absurd this (by simp)
  trans a b c ha hb hc h1 h2 := S.ntrans c b a hc hb ha h2 h1
  of_lt _ a b ha hb h := S.asymm a b ha hb h
  of_not_lt _ a b _ _ h := h

theorem insert_isHeap {lt : α → α → Bool} {P : α → Prop} (S : StrictWeak lt P)
    (a : Array α) (x : α) (hP : AllP P a) (hx : P x) (hh : IsHeap lt a) :
    IsHeap lt (heapInsert lt a x).1 ∧ AllP P (heapInsert lt a x).1 :=
  ⟨heapInsertI_heap S.consistent a x hP hx hh, heapInsertI_allP a x hP hx⟩

theorem extract_isHeap {lt : α → α → Bool} {P : α → Prop} (S : StrictWeak lt P)
    (a : Array α) (m : α) (a' : Array α) (h : heapExtract lt a = some (m, a'))
    (hP : AllP P a) (hh : IsHeap lt a) : IsHeap lt a' ∧ AllP P a' ∧ P m :=
  ⟨heapExtractI_heap S.consistent a m a' h hP hh, (heapExtractI_allP a m a' h hP).2,
   (heapExtractI_allP a m a' h hP).1⟩

/-- In a heap no element is before the root. -/
theorem root_minimal {lt : α → α → Bool} {P : α → Prop} (S : StrictWeak lt P)
    (a : Array α) (hP : AllP P a) (hh : IsHeap lt a) (m : α) (hm : heapMin a = some m) :
    ∀ y ∈ a.toList, lt y m = false := by
  obtain ⟨h0, rfl⟩ := heapMin_eq_some.1 hm
  exact heapLe_root_mem S.consistent.refl S.consistent.trans a hP hh h0

/-- **`heap_extract` returns a minimum**: no remaining element (and no element at all) is before it. -/
theorem extract_minimal {lt : α → α → Bool} {P : α → Prop} (S : StrictWeak lt P)
    (a : Array α) (m : α) (a' : Array α) (h : heapExtract lt a = some (m, a'))
    (hP : AllP P a) (hh : IsHeap lt a) : ∀ y ∈ a'.toList, lt y m = false := by
  intro y hy
  exact root_minimal S a hP hh m (extract_eq_root _ a m a' h) y
    ((extract_perm _ a m a' h).mem_iff.2 (List.mem_cons_of_mem _ hy))

/-- the event order of C16 is a strict weak order on well-formed messages -/
theorem isBefore_strictWeak : StrictWeak isBefore Msg.WF where
  asymm a b _ _ h := C16.asymm a b h
  ntrans := C16.ntrans

/-! ## 3. Time-consistent comparators: robust minimum-timestamp guarantee -/

/-- every answer of the comparator respects the keys (time stamps): `cmp a b → a.t ≤ b.t` and
`¬ cmp a b → b.t ≤ a.t`.  Nothing is assumed about ties, nor that two calls agree. -/
def TimeConsistent (key : α → Nat) (cmp : Cmp α) : Prop :=
  ∀ n a b, (cmp n a b = true → key a ≤ key b) ∧ (cmp n a b = false → key b ≤ key a)

/-- the time-heap invariant `parent.t ≤ child.t` -/
def TimeHeap (key : α → Nat) (a : Array α) : Prop := HeapLe (fun x y => key x ≤ key y) a

theorem TimeConsistent.consistent {key : α → Nat} {cmp : Cmp α} (T : TimeConsistent key cmp) :
    Consistent cmp (fun x y => key x ≤ key y) (fun _ => True) where
  refl _ _ := Nat.le_refl _
  trans _ _ _ _ _ _ h1 h2 := Nat.le_trans h1 h2
  of_lt n a b _ _ h := (T n a b).1 h
  of_not_lt n a b _ _ h := (T n a b).2 h

theorem allTrue (a : Array α) : AllP (fun _ => True) a := fun _ _ => trivial

theorem insert_timeHeap {key : α → Nat} {cmp : Cmp α} (T : TimeConsistent key cmp)
    (a : Array α) (x : α) (hh : TimeHeap key a) : TimeHeap key (heapInsertI cmp a x).1 :=
  heapInsertI_heap T.consistent a x (allTrue a) trivial hh

theorem extract_timeHeap {key : α → Nat} {cmp : Cmp α} (T : TimeConsistent key cmp)
    (a : Array α) (m : α) (a' : Array α) (h : heapExtractI cmp a = some (m, a'))
    (hh : TimeHeap key a) : TimeHeap key a' :=
  heapExtractI_heap T.consistent a m a' h (allTrue a) hh

/-- `heap_min(self).t` is a lower bound of every stored time stamp (`msg_queue_time_peek`). -/
theorem min_time_le {key : α → Nat} (a : Array α) (hh : TimeHeap key a) (m : α)
    (hm : heapMin a = some m) : ∀ y ∈ a.toList, key m ≤ key y := by
  obtain ⟨h0, rfl⟩ := heapMin_eq_some.1 hm
  exact heapLe_root_mem (le := fun x y => key x ≤ key y) (P := fun _ => True) (fun _ _ => Nat.le_refl _)
    (fun _ _ _ _ _ _ h1 h2 => Nat.le_trans h1 h2) a (allTrue a) hh h0

/-- **The extracted element has the least time stamp** among all stored elements
(`msg_queue_extract`), whatever the tie-break answered. -/
theorem extract_min_time {key : α → Nat} (cmp : Cmp α) (a : Array α) (m : α) (a' : Array α)
    (h : heapExtractI cmp a = some (m, a')) (hh : TimeHeap key a) :
    ∀ y ∈ a'.toList, key m ≤ key y := by
  intro y hy
  exact min_time_le a hh m (extract_eq_root _ a m a' h) y
    ((extract_perm _ a m a' h).mem_iff.2 (List.mem_cons_of_mem _ hy))

/-- every heap obtained from the empty heap by inserts and extracts, each with its OWN arbitrary
time-consistent comparator family (so also: answers varying between and within operations) -/
inductive Reach (key : α → Nat) : Array α → Prop
  | empty : Reach key #[]
  | insert {a : Array α} (cmp : Cmp α) (x : α) : TimeConsistent key cmp → Reach key a →
      Reach key (heapInsertI cmp a x).1
  | extract {a a' : Array α} {m : α} (cmp : Cmp α) : TimeConsistent key cmp → Reach key a →
      heapExtractI cmp a = some (m, a') → Reach key a'

/-- **all histories**: the time-heap invariant holds in every reachable heap, hence `min_time_le`
and `extract_min_time` apply at every point of every history. -/
theorem reach_timeHeap {key : α → Nat} {a : Array α} (h : Reach key a) : TimeHeap key a := by
  induction h with
  | empty => intro c hc; simp at hc
  | insert cmp x T _ ih => exact insert_timeHeap T _ x ih
  | extract cmp T _ he ih => exact extract_timeHeap T _ _ _ he ih

/-- "earlier time stamp, or the same time stamp and the tie-break says yes" respects the time stamps whatever
the tie-break `b` answers: the shape of both `msg_is_before` and `q_elem_is_before` -/
theorem time_first (s t : Nat) (b : Bool) :
    ((decide (s < t) || (decide (s = t) && b)) = true → s ≤ t) ∧
    ((decide (s < t) || (decide (s = t) && b)) = false → t ≤ s) := by
  cases b
  · simp only [Bool.and_false, Bool.or_false, decide_eq_true_eq, decide_eq_false_iff_not]
    exact ⟨Nat.le_of_lt, Nat.le_of_not_lt⟩
  · simp only [Bool.and_true, Bool.or_eq_true, Bool.or_eq_false_iff, decide_eq_true_eq, decide_eq_false_iff_not]
    exact ⟨fun h => h.elim Nat.le_of_lt Nat.le_of_eq, fun h => Nat.le_of_not_lt h.1⟩

/-- `q_elem_is_before` when the *messages* are observed through an arbitrary, call-dependent view
(their flags, types, payloads may be anything at each call; only the cached `t` of the queue element
is stable): still time-consistent. -/
def qElemCmpView (view : Nat → Msg → Msg) : Cmp QElem :=
  fun n x y => qElemBefore ⟨x.t, view n x.m⟩ ⟨y.t, view n y.m⟩

theorem qElem_timeConsistent (view : Nat → Msg → Msg) : TimeConsistent QElem.t (qElemCmpView view) :=
  fun _ _ _ => time_first _ _ _

/-- the comparator as written (`q_elem_is_before`, flags not changing) is the identity view -/
theorem qElemBefore_eq_view : constCmp qElemBefore = qElemCmpView (fun _ m => m) := rfl

/-- the serial runtime's comparator is time-consistent as well -/
theorem isBefore_timeConsistent : TimeConsistent Msg.destT (constCmp isBefore) :=
  fun _ _ _ => time_first _ _ _

/-! ## Non-vacuity -/
section Examples
def m (t ty : Nat) (fl : Nat := 0) (seq : Nat := 0) : Msg :=
  { destT := t, rawFlags := fl, mType := ty, plSize := 0, pl := [], mSeq := seq }

/-- a heap built by the model, with ties and equal-content messages -/
def exHeap : Array Msg :=
  [m 5 1, m 3 1, m 3 2 0 7, m 3 2 0 8, m 0 9, m 3 1 1, m 4 0].foldl (fun a x => (heapInsert isBefore a x).1) #[]

/-- a heap built by inserts from the empty heap satisfies the hypotheses of the theorems above -/
theorem build_isHeap {α : Type} {lt : α → α → Bool} {P : α → Prop} (S : StrictWeak lt P) (l : List α)
    (hl : ∀ x ∈ l, P x) (a : Array α) (ha : IsHeap lt a ∧ AllP P a) :
    IsHeap lt (l.foldl (fun a x => (heapInsert lt a x).1) a) ∧
    AllP P (l.foldl (fun a x => (heapInsert lt a x).1) a) := by
  induction l generalizing a with
  | nil => exact ha
  | cons x xs ih =>
    simp only [List.foldl_cons]
    exact ih (fun y hy => hl y (List.mem_cons_of_mem _ hy)) _
      (insert_isHeap S a x ha.2 (hl x (List.mem_cons_self)) ha.1)

example : IsHeap isBefore exHeap ∧ AllP Msg.WF exHeap := by
  apply build_isHeap isBefore_strictWeak
  · intro x hx; simp only [List.mem_cons, List.not_mem_nil, or_false] at hx
    rcases hx with rfl | rfl | rfl | rfl | rfl | rfl | rfl <;> decide
  · exact ⟨fun c hc => by simp at hc, fun k hk => by simp at hk⟩
example : exHeap.size = 7 := by decide +kernel
example : (heapExtract isBefore exHeap).map (fun r => (r.1.destT, r.1.mType)) = some (0, 9) := by decide +kernel
/-- a flipped anti flag breaks the tie-break heap order but the time order still comes out right -/
example : ((heapExtractI (qElemCmpView fun n x => if n % 3 = 0 then { x with rawFlags := 1 } else x)
    (exHeap.map fun x => (⟨x.destT, x⟩ : QElem))).map fun r => r.1.t) = some 0 := by decide +kernel
end Examples

end RootSim.C15.Heap
