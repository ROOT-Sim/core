import RootSim.Proofs.RandGamma
import RootSim.Props.C18
/-!
# C18 — `Gamma(ia)`, the rejection branch (`ia ≥ 6`), both code versions (finding F14)

Property: "`Gamma` is finite and non-negative for every generator state".

* Pinned code (`fixed = false`, inner loop `while(v1 * v1 + v2 * v2 > 1.0)`): FALSE.
  `v1 = Random()` can be exactly `0.0`; then `y = v2 / v1` is a division by zero and the function
  returns `+inf` (`v2 > 0`) or NaN (`v2 == 0`): two kernel-checked counter-examples.
* Repaired code (`fixed = true`, `while(v1 == 0.0 || …)`): TRUE, for every order
  `6 ≤ ia < 2^32`, every generator state, every fuel of the two loops, every libm with
  `LibmLaws2`: whenever the function returns, the value is finite and in `[0, 2^100]`, no division
  by zero was evaluated, and the generator advanced by exactly the calls of `Random()` made.

`*`, `+`, `-`, `/` and the comparisons are the concrete binary64 operations of `Model/Float.lean`
(no laws of floating-point arithmetic are assumed); `sqrt`/`exp`/`log` are constrained by `LibmLaws2` only (`log` not at all).
**Termination of the two rejection loops is NOT claimed**: the theorems are about the runs that
return ("for every fuel").
-/
namespace RootSim.C18
open RootSim RootSim.Rand RootSim.Float

/-! ## F14 on the pinned code -/

/-- the generator state of finding F14 (first raw output 0, reproduced on the real code:
`Gamma(7) = inf`) -/
def f14State : Rng := ⟨0x3c6ef372fe94f82a, 0, 0x7eb08eda39c9cb72, 0x94d049bb133111e9⟩

/-- a state whose first two raw outputs are `0` and `2^63`: `v1 = 0.0`, `v2 = 2 * 0.5 - 1 = 0.0` -/
def f14NanState : Rng := ⟨0, 0, craftS1 (2 ^ 63), 5⟩

/-- `+inf * exp(..)` is `+inf` or NaN when `exp(..)` is not negative; `Random() > ` that is false -/
theorem gt_inf_mul_false (r : FVal) (E : FVal) (hr : ∃ m s, r = .fin m s) (hE : E.isNegF = false) :
    FVal.gt r (FVal.mul (.inf false) E) = false := by
  obtain ⟨m, s, rfl⟩ := hr
  cases E with
  | fin b t =>
    simp only [FVal.isNegF, decide_eq_false_iff_not] at hE
    by_cases hb : b = 0
    · simp [FVal.mul, hb, FVal.gt]
    · simp [FVal.mul, hb, hE, FVal.gt]
  | inf n =>
    simp only [FVal.isNegF] at hE
    subst hE
    simp [FVal.mul, FVal.gt]
  | nan => simp [FVal.mul, FVal.gt]

/-- an inner loop whose first pass is accepted: two calls of `Random()` -/
theorem gammaInner_first {f : BitsFn} {fixed : Bool} {g g1 g2 : Rng} {v1 r : FVal} (fi : Nat)
    (h1 : random f g = .ok (v1, g1)) (h2 : random f g1 = .ok (r, g2))
    (hc : gammaInnerCond fixed v1 (gammaV2 r) = false) :
    gammaInner f fixed (fi + 1) g = .ok ((some (v1, gammaV2 r), 1), g2) := by
  simp [gammaInner, bind, Except.bind, h1, h2, hc, pure, Except.pure]

/-- an outer loop whose first pass returns -/
theorem gammaBig_first {f : BitsFn} {L : Libm} {fixed : Bool} {ia fi : Nat} {g g' : Rng} {x : FVal}
    {d : Nat} {z : Bool} (fo : Nat)
    (hit : gammaBigIter f L fixed (gammaAm ia) fi g = .ok (⟨.ret x, d, z⟩, g')) :
    gammaBig f L fixed ia fi (fo + 1) g = .ok (⟨some x, d, z⟩, g') := by
  simp [gammaBig, gammaBigLoop, bind, Except.bind, hit, pure, Except.pure]

/-- the pass of the outer loop that follows an inner loop ending with `v1 = 0.0`, `v2 > 0`,
order 7: `y = +inf`, `s = +inf`, `x = +inf`, `x < 0.0` is false, the acceptance test compares with
`+inf` or NaN and is false: `return x` -/
theorem pinned_inf_of_draws (f : BitsFn) (L : Libm) (hL : LibmLaws2 L) (g : Rng) (fi fo : Nat)
    (v2 r3 : FVal) (g1 g2 g3 : Rng)
    (h1 : random f g = .ok (.fin 0 0, g1)) (h2 : random f g1 = .ok (v2, g2))
    (h3 : random f g2 = .ok (r3, g3)) (hr3 : ∃ m s, r3 = .fin m s)
    (hc : gammaInnerCond false (.fin 0 0) (gammaV2 v2) = false)
    (hy : gammaY (.fin 0 0) (gammaV2 v2) = .inf false) :
    gammaBig f L false 7 (fi + 1) (fo + 1) g = .ok (⟨some (.inf false), 3, true⟩, g3) := by
  have hin := gammaInner_first fi h1 h2 hc
  obtain ⟨a, t, hsq, ha, _⟩ := hL.sqrt_ge_one 13 0 (by decide)
  have harg : gammaSqArg (gammaAm 7) = .fin ((13 : Nat) : Int) 0 := gammaSqArg_eq 7 (by decide)
  have ha0 : ¬ (a = 0) := Nat.ne_of_gt (Nat.lt_of_lt_of_le (Nat.two_pow_pos t) ha)
  have haneg : ¬ ((a : Int) < 0) := Int.not_lt.2 (Int.natCast_nonneg a)
  have hs : FVal.mul (L.sqrt (gammaSqArg (gammaAm 7))) (.inf false) = .inf false := by
    rw [harg, hsq]
    simp [FVal.mul, ha0, haneg]
  have hx : FVal.add (.inf false) (gammaAm 7) = .inf false := rfl
  have hlt : FVal.lt (.inf false) FVal.zero = false := rfl
  have hrhs : ∀ s x, FVal.gt r3 (gammaRhs L (gammaAm 7) (.inf false) s x) = false := by
    intro s x
    have : FVal.add FVal.one (FVal.mul (.inf false) (.inf false)) = .inf false := rfl
    simp only [gammaRhs, this]
    exact gt_inf_mul_false r3 _ hr3 (hL.exp_not_neg _)
  refine gammaBig_first fo ?_
  simp [gammaBigIter, bind, Except.bind, hin, hy, hs, hx, hlt, h3, hrhs, pure, Except.pure, FVal.isZero]

/-- the F14 run for any `Random()` whose first three values on `f14State` are `0.0` and the two given ones -/
theorem f14_inf (f : BitsFn) (L : Libm) (hL : LibmLaws2 L) (fi fo : Nat)
    (h1 : random f f14State = .ok (.fin 0 0, advance 1 f14State))
    (h2 : random f (advance 1 f14State) = .ok (.fin 4997738579501159 53, advance 2 f14State))
    (h3 : random f (advance 2 f14State) = .ok (.fin 6875623836524916 53, advance 3 f14State)) :
    gammaBig f L false 7 (fi + 1) (fo + 1) f14State = .ok (⟨some (.inf false), 3, true⟩, advance 3 f14State) :=
  pinned_inf_of_draws f L hL f14State fi fo _ _ _ _ _ h1 h2 h3 ⟨_, _, rfl⟩ (by decide +kernel) (by decide +kernel)

/-- **F14, kernel-checked: on the pinned code `Gamma(7)` returns `+inf`** on the generator state
`f14State` (3 calls of `Random()`, one division by zero), whatever the libm is as long as
`sqrt(13)` is finite `≥ 1` and `exp` is never negative (`LibmLaws2`), for every non-zero fuel. -/
theorem gamma_big_pinned_counterexample (L : Libm) (hL : LibmLaws2 L) (fi fo : Nat) :
    f14State.WF ∧
    gammaBig randomBits L false 7 (fi + 1) (fo + 1) f14State =
      .ok (⟨some (.inf false), 3, true⟩, advance 3 f14State) :=
  ⟨by decide, f14_inf randomBits L hL fi fo (by decide +kernel) (by decide +kernel) (by decide +kernel)⟩

/-- the same with the `Random()` of `repo_patches/random_shift_ub.diff` (F3 repaired, F14 not) -/
theorem gamma_big_pinned_counterexample_fs (L : Libm) (hL : LibmLaws2 L) (fi fo : Nat) :
    gammaBig randomBitsFixed L false 7 (fi + 1) (fo + 1) f14State =
      .ok (⟨some (.inf false), 3, true⟩, advance 3 f14State) :=
  f14_inf randomBitsFixed L hL fi fo (by decide +kernel) (by decide +kernel) (by decide +kernel)

/-- **F14, second form: `0.0 / 0.0`. On the pinned code `Gamma(ia)` returns NaN** on
`f14NanState`, for EVERY order and EVERY libm (no law needed: NaN propagates through `*`, `+`
and every comparison with NaN is false). -/
theorem gamma_big_pinned_nan_counterexample (L : Libm) (ia fi fo : Nat) :
    f14NanState.WF ∧
    gammaBig randomBits L false ia (fi + 1) (fo + 1) f14NanState =
      .ok (⟨some .nan, 3, true⟩, advance 3 f14NanState) := by
  refine ⟨by decide, ?_⟩
  have h1 : random randomBits f14NanState = .ok (.fin 0 0, advance 1 f14NanState) := by decide +kernel
  have h2 : random randomBits (advance 1 f14NanState) = .ok (.fin 4503599627370496 53, advance 2 f14NanState) := by
    decide +kernel
  have h3 : random randomBits (advance 2 f14NanState) = .ok (.fin 7916483719987200 102, advance 3 f14NanState) := by
    decide +kernel
  have hc : gammaInnerCond false (.fin 0 0) (gammaV2 (.fin 4503599627370496 53)) = false := by decide +kernel
  have hy : gammaY (.fin 0 0) (gammaV2 (.fin 4503599627370496 53)) = .nan := by decide +kernel
  have hin := gammaInner_first fi h1 h2 hc
  have hmul : ∀ v, FVal.mul v .nan = .nan := by
    intro v; cases v <;> rfl
  have hadd : ∀ v, FVal.add .nan v = .nan := by
    intro v; cases v <;> rfl
  have hadd' : ∀ v, FVal.add v .nan = .nan := by
    intro v; cases v <;> rfl
  have hgt : ∀ v, FVal.gt v .nan = false := by
    intro v; cases v <;> rfl
  have hrhs : ∀ am s x, gammaRhs L am .nan s x = .nan := by
    intro am s x
    simp only [gammaRhs, hmul, hadd']
    rfl
  have hlt : FVal.lt .nan FVal.zero = false := rfl
  refine gammaBig_first fo ?_
  simp [gammaBigIter, bind, Except.bind, hin, hy, hmul, hadd, hlt, h3, hrhs, hgt, pure, Except.pure,
    FVal.isZero]

/-! ## the repaired code -/

/-- **`Gamma(ia)`, `6 ≤ ia < 2^32`, repaired code: whenever it returns, the value is finite and in
`[0, 2^100]`; no division by zero; the generator advanced by exactly the `draws` calls of
`Random()` made** (at most `2 fi + 1` per pass of the outer loop). For every generator state,
every fuel `fi` (inner loop) and `fo` (outer loop), every bits function with `GoodBits` (either
that, or `Random()` itself was undefined: possible with the pinned `Random()` only, finding F3). -/
theorem gamma_big_finite_nonneg (f : BitsFn) (hf : GoodBits f) (L : Libm) (hL : LibmLaws2 L) (ia : Nat)
    (_h6 : 6 ≤ ia) (h32 : ia < 2 ^ 32) (fi fo : Nat) (g : Rng) :
    (∃ r, gammaBig f L true ia fi fo g = .ok (r, advance r.draws g) ∧ r.draws ≤ (2 * fi + 1) * fo ∧
        r.divZero = false ∧ ∀ v, r.value = some v → FVal.FinNonneg v ∧ FinNonnegLe 100 v) ∨
    (∃ e, gammaBig f L true ia fi fo g = .error e) := by
  rcases (gammaBigLoop_ret hf hL true h32 fi fo g).cases with ⟨r, d, h, rfl, hd, hz, hv⟩ | h
  · refine .inl ⟨r, h, hd, hz rfl, ?_⟩
    intro v hval
    have := hv (hz rfl) v hval
    exact ⟨finNonneg_of_le this, this⟩
  · exact .inr h

/-- with the repaired `Random()` as well: never undefined -/
theorem gamma_big_fixed_total (L : Libm) (hL : LibmLaws2 L) (ia : Nat) (h6 : 6 ≤ ia) (h32 : ia < 2 ^ 32)
    (fi fo : Nat) (g : Rng) :
    ∃ r, gammaBig randomBitsFixed L true ia fi fo g = .ok (r, advance r.draws g) ∧
      r.draws ≤ (2 * fi + 1) * fo ∧ r.divZero = false ∧ ∀ v, r.value = some v → FVal.FinNonneg v := by
  rcases gamma_big_finite_nonneg _ goodBits_fixed L hL ia h6 h32 fi fo g with ⟨r, h, hd, hz, hv⟩ | ⟨e, h⟩
  · exact ⟨r, h, hd, hz, fun v hval => (hv v hval).1⟩
  · -- the patched `Random()` is total, so no call fails
    obtain ⟨r, d, h', _⟩ := (gammaBigLoop_ret goodBits_fixed hL true h32 fi fo g).total total_fixed
    cases h'.symm.trans h

/-- what is true of the PINNED code: the same conclusion for the runs in which no division by
zero was evaluated (`…_partial`: the missing part is false, see the counter-examples) -/
theorem gamma_big_pinned_partial (f : BitsFn) (hf : GoodBits f) (L : Libm) (hL : LibmLaws2 L) (ia : Nat)
    (_h6 : 6 ≤ ia) (h32 : ia < 2 ^ 32) (fi fo : Nat) (g : Rng) :
    (∃ r, gammaBig f L false ia fi fo g = .ok (r, advance r.draws g) ∧ r.draws ≤ (2 * fi + 1) * fo ∧
        (r.divZero = false → ∀ v, r.value = some v → FVal.FinNonneg v)) ∨
    (∃ e, gammaBig f L false ia fi fo g = .error e) := by
  rcases (gammaBigLoop_ret hf hL false h32 fi fo g).cases with ⟨r, d, h, rfl, hd, _, hv⟩ | h
  · exact .inl ⟨r, h, hd, fun hz v hval => finNonneg_of_le (hv hz v hval)⟩
  · exact .inr h

/-- The C18 clause for the rejection branch, for a code version: "IF the function returns a value
THEN it is finite and `≥ 0`, no division by zero happened, and the generator advanced by exactly
the draws made". -/
def GammaBigStatement (fixed : Bool) : Prop :=
  ∀ (f : BitsFn) (L : Libm) (ia fi fo : Nat) (g : Rng) (r : GammaRes) (g' : Rng),
    GoodBits f → LibmLaws2 L → 6 ≤ ia → ia < 2 ^ 32 →
    gammaBig f L fixed ia fi fo g = .ok (r, g') →
    g' = advance r.draws g ∧ r.divZero = false ∧ ∀ v, r.value = some v → FVal.FinNonneg v

/-- `toyLibm` (`sqrt x = 2^⌊⌊log2 x⌋/2⌋`, `exp x = 1`) satisfies the assumed laws: they are
satisfiable -/
theorem toyLibm_laws2 : LibmLaws2 toyLibm where
  sqrt_ge_one := by
    intro m s h
    have hm0 : m ≠ 0 := ne_zero_of_pow_le_mul (s := s) (j := 0) (by rwa [Nat.pow_zero, Nat.mul_one])
    have hs : s < bitlen m :=
      (Nat.pow_lt_pow_iff_right (by decide)).1 (Nat.lt_of_le_of_lt h (bitlen_lt m))
    refine ⟨2 ^ ((bitlen m - 1 - s) / 2), 0, ?_, Nat.one_le_two_pow, ?_⟩
    · show (if (m : Int) ≤ 0 then FVal.fin 0 0
        else FVal.fin ((2 : Int) ^ ((bitlen (m : Int).toNat - 1 - s) / 2)) 0) = _
      rw [if_neg (Int.not_le.2 (Int.natCast_pos.2 (Nat.pos_of_ne_zero hm0))), Int.toNat_natCast,
        Int.natCast_pow]
      rfl
    · calc 2 ^ ((bitlen m - 1 - s) / 2) * 2 ^ s ≤ 2 ^ (bitlen m - 1 - s) * 2 ^ s :=
            Nat.mul_le_mul_right _ (Nat.pow_le_pow_right (by decide) (Nat.div_le_self _ _))
        _ = 2 ^ (bitlen m - 1) := Nat.pow_sub_mul_pow 2 (Nat.le_sub_one_of_lt hs)
        _ ≤ m := pow_bitlen_le hm0
        _ = m * 2 ^ 0 := (Nat.mul_one m).symm
  exp_not_neg := by
    intro v
    cases v <;> rfl

/-- the clause is FALSE for the pinned code … -/
theorem gammaBigStatement_pinned_refuted : ¬ GammaBigStatement false := by
  intro h
  have hc := (gamma_big_pinned_counterexample toyLibm toyLibm_laws2 0 0).2
  obtain ⟨_, hz, _⟩ := h randomBits toyLibm 7 1 1 f14State _ _ goodBits_pinned toyLibm_laws2 (by decide) (by decide) hc
  cases hz

/-- … and TRUE for the repaired code -/
theorem gammaBigStatement_fixed : GammaBigStatement true := by
  intro f L ia fi fo g r g' hf hL h6 h32 h
  rcases gamma_big_finite_nonneg f hf L hL ia h6 h32 fi fo g with ⟨r', h', _, hz, hv⟩ | ⟨e, h'⟩
  · cases h'.symm.trans h
    exact ⟨rfl, hz, fun v hval => (hv v hval).1⟩
  · cases h'.symm.trans h

/-! ## the whole function -/

/-- **The C18 clause for `Gamma`, every order `ia < 2^32` (both branches)**, for a code version. -/
def GammaStatementFull (fixed : Bool) : Prop :=
  ∀ (f : BitsFn) (L : Libm) (ia fi fo : Nat) (g : Rng) (r : GammaRes) (g' : Rng),
    GoodBits f → LibmLaws L → LibmLaws2 L → ia < 2 ^ 32 →
    gamma f L fixed ia fi fo g = .ok (r, g') →
    g' = advance r.draws g ∧ r.divZero = false ∧ ∀ v, r.value = some v → FVal.FinNonneg v

/-- **repaired code: `Gamma(ia)` is finite and non-negative whenever it returns, for every order**
(`ia < 6`: `gamma_small_nonneg_finite`, always returns; `ia ≥ 6`: `gamma_big_finite_nonneg`) -/
theorem gamma_statement_fixed : GammaStatementFull true := by
  intro f L ia fi fo g r g' hf hL hL2 h32 h
  by_cases hia : ia < 6
  · rcases gamma_small_nonneg_finite f hf L hL ia hia g with ⟨v, hs, _, hv⟩ | ⟨e, hs⟩
    · simp only [gamma, hs] at h
      cases h
      exact ⟨rfl, rfl, fun v' hv' => by cases hv'; exact hv⟩
    · simp only [gamma, hs] at h
      cases h
  · have hnone : gammaSmall f L ia g = none := by simp [gammaSmall, hia]
    simp only [gamma, hnone] at h
    exact gammaBigStatement_fixed f L ia fi fo g r g' hf hL2 (Nat.le_of_not_lt hia) h32 h

/-- pinned code: the clause for the whole function is false (order 7) -/
theorem gammaStatementFull_pinned_refuted : ¬ GammaStatementFull false := by
  intro h
  have hc := (gamma_big_pinned_counterexample toyLibm toyLibm_laws2 0 0).2
  have hg : gamma randomBits toyLibm false 7 1 1 f14State =
      .ok (⟨some (.inf false), 3, true⟩, advance 3 f14State) := by
    have hnone : gammaSmall randomBits toyLibm 7 f14State = none := by simp [gammaSmall]
    simp only [gamma, hnone]
    exact hc
  obtain ⟨_, hz, _⟩ := h randomBits toyLibm 7 1 1 f14State _ _ goodBits_pinned toyLibm_laws toyLibm_laws2 (by decide) hg
  cases hz

/-! ## Non-vacuity -/

/-- the repaired model returns a finite positive value (`≈ 3.5`) on the F14 state, after 7 calls
of `Random()` (the pass with `v1 = 0.0` is rejected by the inner loop), with the lawful `toyLibm` -/
example : gammaBig randomBitsFixed toyLibm true 7 8 8 f14State =
    .ok (⟨some (.fin 126416266235248400 55), 7, false⟩, advance 7 f14State) := by decide +kernel

/-- a large order on an ordinary state; both `Random()` versions -/
example : gammaBig randomBits toyLibm true 100000 8 8 ⟨1, 2, 3, 4⟩ =
    .ok (⟨some (.fin 868041657304401313792 53), 7, false⟩, advance 7 ⟨1, 2, 3, 4⟩) := by decide +kernel

/-- the whole function dispatches on `ia` -/
example : (gamma randomBitsFixed toyLibm true 3 8 8 f14State).map (fun p => p.1.draws) = .ok 3 ∧
    (gamma randomBitsFixed toyLibm true 7 8 8 f14State).map (fun p => p.1.draws) = .ok 7 := by decide +kernel

example : LibmLaws toyLibm ∧ LibmLaws2 toyLibm ∧ GoodBits randomBitsFixed ∧ (6 : Nat) ≤ 7 ∧ (7 : Nat) < 2 ^ 32 :=
  ⟨toyLibm_laws, toyLibm_laws2, goodBits_fixed, by decide, by decide⟩

end RootSim.C18
