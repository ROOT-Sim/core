import RootSim.Props.C18
import RootSim.Proofs.FloatRat
/-!
# C18, the range of `Random()` read as rational numbers

Same facts as `RootSim.C18.random_value` / `randomStatement_fixed`, with the dyadic pair
`fin m s` read as the rational `m / 2^s` (`dyQ`).  Only this file and `Proofs/FloatRat.lean`
import Mathlib.
-/
namespace RootSim.C18
open RootSim RootSim.Rand RootSim.Float

/-- pinned tree, every raw output `u ≥ 2`: `2^-63 ≤ Random() ≤ 1 - 2^-53` -/
theorem random_value_rat (u : Nat) (h2 : 2 ≤ u) (h64 : u < 2 ^ 64) :
    ∃ b m s, randomBits u = .ok b ∧ decodeDouble b = .fin m s ∧
      (1 : ℚ) / 2 ^ 63 ≤ dyQ m s ∧ dyQ m s ≤ (2 ^ 53 - 1) / 2 ^ 53 := by
  obtain ⟨b, hb, hd, l1, l2, _⟩ := random_value u h2 h64
  have e1 : dyQ 1 63 = (1 : ℚ) / 2 ^ 63 := by rw [dyQ, Int.cast_one]
  have e2 : dyQ (2 ^ 53 - 1) 53 = (2 ^ 53 - 1) / 2 ^ 53 := by
    rw [dyQ, Int.cast_sub, Int.cast_pow, Int.cast_one, Int.cast_ofNat]
  have r1 := (leFin_iff_rat _ _ _ _).1 l1
  have r2 := (leFin_iff_rat _ _ _ _).1 l2
  rw [e1] at r1
  rw [e2] at r2
  exact ⟨b, _, _, hb, hd, r1, r2⟩

/-- patched tree, EVERY raw output: `Random()` is defined and `0 ≤ Random() < 1` -/
theorem randomFixed_unit_interval_rat (u : Nat) (h64 : u < 2 ^ 64) :
    ∃ b m s, randomBitsFixed u = .ok b ∧ decodeDouble b = .fin m s ∧ 0 ≤ dyQ m s ∧ dyQ m s < 1 := by
  obtain ⟨b, hb, m, s, hd, h0, h1⟩ := randomStatement_fixed u h64
  have hpos : (0 : ℚ) < 2 ^ s := by positivity
  refine ⟨b, m, s, hb, hd, div_nonneg (Int.cast_nonneg h0) (le_of_lt hpos), ?_⟩
  unfold dyQ
  rw [div_lt_one hpos]
  exact_mod_cast h1

end RootSim.C18
