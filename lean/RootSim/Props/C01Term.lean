import RootSim.Props.C01Glue
/-!
# C01 / C07 at protocol level: the state at the point the predicate first became true

The literal sentence of C01 — "each LP's state at the point the predicate first became true is bit-identical to the
state produced by executing the same model one event at a time" — and the protocol-level half of C07 — "the predicate
held on a committed state" — as corollaries of the glue theorems: below a lower bound `g` of everything pending, the
optimistic history of an LP and the dispatch sequence of ANY sequential run that has passed `g` are the same list, so
every function of a prefix of that list (the LP state after `n` events, whether the predicate holds there, the first
`n` at which it holds) has the same value on both sides.
-/
namespace RootSim.C01Term
open RootSim RootSim.Spec RootSim.TW RootSim.C01Glue

variable {σ : Type} {M : SimModel σ} {s : TWState} {g : Nat}

/-- the number of events after which the termination predicate of LP `ℓ` first holds along the sequence `l`
(`none`: it never holds on a prefix of `l`) -/
def firstTrue (M : SimModel σ) (ℓ : Nat) (l : List Event) : Option Nat :=
  (List.range (l.length + 1)).find? (fun n => M.canEnd ℓ (lpState M ℓ (l.take n)))

/-- the state of LP `ℓ` after every prefix of its committed history equals the state of every sequential run after the
same number of events -/
theorem tw_prefix_states_exact (V : V2s M) (hr : TW.Reachable M s)
    (hp : ∀ x ∈ s.pending, g ≤ x.t) (ha : ∀ x ∈ s.antis, g ≤ x.t)
    {q : SeqState σ} (hq : Spec.Reachable M q) (hl : ∀ x ∈ q.pending, g ≤ x.t)
    {ℓ : Nat} (hℓ : ℓ < M.nLps) (n : Nat) :
    lpState M ℓ (((s.past ℓ).filter (below g)).take n) = lpState M ℓ (((q.disp ℓ).filter (below g)).take n) := by
  rw [(tw_equals_sequential V hr hp ha hq hl hℓ).1]

/-- **C01, literally.** Below `g` the point at which the predicate of LP `ℓ` first becomes true is the same in the
optimistic history and in every sequential run that has passed `g`, and the LP state at that point is the same. -/
theorem tw_first_true_point_exact (V : V2s M) (hr : TW.Reachable M s)
    (hp : ∀ x ∈ s.pending, g ≤ x.t) (ha : ∀ x ∈ s.antis, g ≤ x.t)
    {q : SeqState σ} (hq : Spec.Reachable M q) (hl : ∀ x ∈ q.pending, g ≤ x.t)
    {ℓ : Nat} (hℓ : ℓ < M.nLps) :
    firstTrue M ℓ ((s.past ℓ).filter (below g)) = firstTrue M ℓ ((q.disp ℓ).filter (below g)) ∧
    ∀ n, firstTrue M ℓ ((s.past ℓ).filter (below g)) = some n →
      lpState M ℓ (((s.past ℓ).filter (below g)).take n) = lpState M ℓ (((q.disp ℓ).filter (below g)).take n) ∧
      M.canEnd ℓ (lpState M ℓ (((q.disp ℓ).filter (below g)).take n)) = true := by
  have e := (tw_equals_sequential V hr hp ha hq hl hℓ).1
  refine ⟨by rw [e], fun n hn => ⟨by rw [e], ?_⟩⟩
  rw [e]
  have := List.find?_some hn
  simpa using this

/-- **C07 at protocol level.** If the predicate of LP `ℓ` holds on the state after some prefix of its committed history
(what a termination vote at `g` certifies, `C07.no_premature`), it holds on the state every sequential run has after the
same number of events: a vote never rests on a state the sequential execution does not reach. -/
theorem tw_committed_predicate_is_sequential (V : V2s M) (hr : TW.Reachable M s)
    (hp : ∀ x ∈ s.pending, g ≤ x.t) (ha : ∀ x ∈ s.antis, g ≤ x.t)
    {q : SeqState σ} (hq : Spec.Reachable M q) (hl : ∀ x ∈ q.pending, g ≤ x.t)
    {ℓ : Nat} (hℓ : ℓ < M.nLps) (n : Nat)
    (hc : M.canEnd ℓ (lpState M ℓ (((s.past ℓ).filter (below g)).take n)) = true) :
    M.canEnd ℓ (lpState M ℓ (((q.disp ℓ).filter (below g)).take n)) = true := by
  rw [← tw_prefix_states_exact V hr hp ha hq hl hℓ n]; exact hc

/-- at quiescence the statement holds for the whole histories and the final state of the sequential executor -/
theorem tw_quiescent_first_true_exact (V : V2s M) (hr : TW.Reachable M s) (hp : s.pending = []) (ha : s.antis = [])
    {q : SeqState σ} (hq : Spec.Reachable M q) (hqp : q.pending = []) {ℓ : Nat} (hℓ : ℓ < M.nLps) :
    firstTrue M ℓ (s.past ℓ) = firstTrue M ℓ (q.disp ℓ) := by
  rw [(tw_quiescent_final V hr hp ha hq hqp hℓ).1]

/-! ## non-vacuity: ping-pong with the predicate "at least 3 events processed" -/

/-- ping-pong whose LPs are done after three events -/
def ppDone : SimModel Nat := { pingPong with canEnd := fun _ st => decide (3 ≤ st) }

example : firstTrue ppDone 0 ((seqRunN ppDone 12).disp 0) = some 3 := by decide +kernel

end RootSim.C01Term
