import RootSim.Proofs.Gvt
import RootSim.Model.Shutdown
/-!
# C04 — GVT is a monotone, safe lower bound (thread level of `gvt.c`)

"The GVT values reported to a worker thread never decrease, are the same for all threads […] in a
given round, and are safe: after a thread has been told GVT = g it never again extracts an event or
anti-message with timestamp below g, never rolls an LP back to a point below g, and no message
with timestamp below g is still in any queue, buffer or in flight."

Model: `Model/Gvt.lean` — `N` threads (any `N`), `gvt_thread_phase_run` with the counters `c_a`,
`c_b`, message extraction / insertion / completion at any time on any thread. All theorems hold
for every state reachable from an initial state (`Init`: everybody idle, queues arbitrary), i.e.
for all interleavings. The `log` ghost records every `(round, value)` a thread reads when it leaves
phase D.

Everything a thread inserts anywhere while it processes (or rolls back for) a message with time
stamp `c` has a time stamp `≥ c` (`emit`'s precondition — contract V2 plus the rollback rules:
re-queued events and anti-messages are not before the straggler); rollback targets are time stamps of
extracted messages. So `Safe g` ("`g` is below everything queued or being processed, and stays so")
is the model-level content of "never extracts / rolls back below `g`, nothing below `g` in any queue".

Node level (two rounds with colour flip, MPI collectives, in-flight remote messages) is NOT covered
here: see `Props/C04Node.lean` and `Props/C04Global.lean`.
-/
namespace RootSim.C04
open RootSim.Gvt

/-- **Counters**: `c_b` counts the threads in phase B or C, `c_a` those in C or D. -/
theorem counters (s0 s : St) (h0 : Init s0) (h : Reach s0 s) :
    s.cb = s.ths.countP (fun t => t.phase == .B || t.phase == .C) ∧
    s.ca = s.ths.countP (fun t => t.phase == .C || t.phase == .D) := by
  obtain ⟨K, hK⟩ := reach_inv h0 h
  exact ⟨hK.cb_eq, hK.ca_eq⟩

/-- guard of phase B (`c_b = N`): every thread has done its phase-A peek -/
theorem guardB_all_left_A (s0 s : St) (h0 : Init s0) (h : Reach s0 s) (hg : s.cb = s.ths.length) :
    ∀ u ∈ s.ths, u.phase = .B ∨ u.phase = .C := by
  obtain ⟨K, hK⟩ := reach_inv h0 h
  exact fun u hu => inBC_phase (hK.all_inBC hg u hu)

/-- guard of phase C (`c_a = N`): every thread has seen `c_b = N` -/
theorem guardC_all_left_B (s0 s : St) (h0 : Init s0) (h : Reach s0 s) (hg : s.ca = s.ths.length) :
    ∀ u ∈ s.ths, u.phase = .C ∨ u.phase = .D := by
  obtain ⟨K, hK⟩ := reach_inv h0 h
  exact fun u hu => inCD_phase (hK.all_inCD hg u hu)

/-- guard of phase D (`c_b = 0`): **a thread reads only after all `N` threads wrote their slot in
this round** (every thread has performed exactly as many phase-C writes as the reader) -/
theorem guardD_all_wrote (s0 s : St) (h0 : Init s0) (h : Reach s0 s) (t : Th) (ht : t ∈ s.ths)
    (hp : t.phase = .D) (hg : s.cb = 0) : ∀ u ∈ s.ths, u.wr = t.wr := by
  obtain ⟨K, hK⟩ := reach_inv h0 h
  -- every thread has written exactly `K + 1` times
  have hwr : ∀ u ∈ s.ths, u.wr = K + 1 := by
    intro u hu
    have huw := (hK.th u hu).wrEq
    rcases hK.read_window ht hp hg u hu with ⟨hd, hr⟩ | ⟨hia, hr⟩
    · rw [huw, hr, if_pos hd]
    · rw [huw, hr, if_neg (by rcases hia with h | h <;> rw [h] <;> exact fun h => by cases h)]
  exact fun u hu => (hwr u hu).trans (hwr t ht).symm

/-- guard of phase A (`c_a = 0`): the previous round is over for everybody -/
theorem guardA_prev_round_over (s0 s : St) (h0 : Init s0) (h : Reach s0 s) (t : Th) (ht : t ∈ s.ths)
    (hp : t.phase = .A) (hg : s.ca = 0) :
    ∀ u ∈ s.ths, (u.phase = .idle ∨ u.phase = .A ∨ u.phase = .B) ∧ u.rd = t.rd := by
  obtain ⟨K, hK⟩ := reach_inv h0 h
  obtain ⟨K', _, hst⟩ := phaseA_stage hK ht hp hg
  intro u hu
  exact ⟨(hst u hu).1, by rw [(hst u hu).2, (hst t ht).2]⟩

/-- **Rounds are reusable**: when every thread is idle again both counters are 0 and all threads have
completed the same number of rounds. -/
theorem rounds_reusable (s0 s : St) (h0 : Init s0) (h : Reach s0 s) (hid : ∀ t ∈ s.ths, t.phase = .idle) :
    s.ca = 0 ∧ s.cb = 0 ∧ ∀ t ∈ s.ths, ∀ u ∈ s.ths, t.rd = u.rd := by
  obtain ⟨K, hK⟩ := reach_inv h0 h
  refine ⟨?_, ?_, ?_⟩
  · rw [hK.ca_eq, List.countP_eq_zero]; intro t ht; rw [inCD_of_phase (hid t ht)]; decide
  · rw [hK.cb_eq, List.countP_eq_zero]; intro t ht; rw [inBC_of_phase (hid t ht)]; decide
  · -- in each stage all idle threads have completed the same number of rounds
    have hrd : ∃ K', ∀ t ∈ s.ths, t.rd = K' := by
      rcases hK.stage with hst | hst | hst | hst
      · exact ⟨K, fun t ht => (hst t ht).2⟩
      · exact ⟨K, fun t ht => (hst t ht).2⟩
      · exact ⟨K, fun t ht => (hst t ht).2⟩
      · refine ⟨K + 1, fun t ht => ?_⟩
        rcases hst t ht with ⟨h1, _⟩ | ⟨_, h1⟩
        · rw [hid t ht] at h1; cases h1
        · exact h1
    obtain ⟨K', hK'⟩ := hrd
    exact fun t ht u hu => (hK' t ht).trans (hK' u hu).symm

/-- **Cut lemma, part 1**: once every thread has left phase A (`Active`: `c_b = N` or `c_a > 0`) the
cut value `G = min_t (if t has written its slot then r_t else min(acc_t, min pending_t, cur_t))`
does not change, whatever step is taken (in particular it never decreases), until the round ends. -/
theorem cut_constant (s0 s s' : St) (a : Act) (h0 : Init s0) (h : Reach s0 s) (ha : Active s)
    (hs : step s a = some s') : G s' = G s := by
  obtain ⟨K, hK⟩ := reach_inv h0 h
  obtain ⟨_, _, hG⟩ := inv_step hK hs
  exact hG ha

/-- **Cut lemma, part 2**: while the cut is in force, `G` is a lower bound of every queued message
and of every message being processed, on every thread. -/
theorem cut_safe (s0 s : St) (h0 : Init s0) (h : Reach s0 s) (ha : Active s) : Safe (G s) s := by
  obtain ⟨K, hK⟩ := reach_inv h0 h
  exact hK.cutSafe ha

/-- **The value a thread reads when it leaves phase D** is `min_t r_t`, equals the cut value, every
slot it is the minimum of was written in this round (`guardD_all_wrote`), and it is safe. -/
theorem read_value (s0 s s' : St) (i : Nat) (h0 : Init s0) (h : Reach s0 s)
    (hs : step s (.phaseD i) = some s') :
    s'.last = gmin s ∧ gmin s = G s ∧ Safe (gmin s) s ∧ ∃ k, s'.log = (k, gmin s) :: s.log := by
  obtain ⟨K, hK⟩ := reach_inv h0 h
  obtain ⟨t, ht, ⟨hph, hcb0⟩, rfl⟩ := step_phaseD hs
  have hGg : G s = gmin s := G_eq_gmin s (hK.none_inBC hcb0)
  have hpos : 0 < s.ths.countP inCD :=
    List.countP_pos_iff.mpr ⟨t, List.mem_of_getElem? ht, inCD_of_phase hph⟩
  exact ⟨rfl, hGg.symm, hGg ▸ hK.cutSafe (Or.inr (hK.ca_eq ▸ hpos)), t.rd, rfl⟩

/-- **Safe, for ever**: every value ever read is, in every later state, a lower bound of everything
queued or being processed. -/
theorem reported_safe (s0 s : St) (h0 : Init s0) (h : Reach s0 s) (k v : Nat) (hv : (k, v) ∈ s.log) :
    Safe v s := by
  obtain ⟨K, hK⟩ := reach_inv h0 h
  have hle : v ≤ s.last := (hK.logK _ hv).2.1
  intro t ht
  obtain ⟨h1, h2⟩ := hK.safeLast t ht
  exact ⟨fun x hx => Nat.le_trans hle (h1 x hx), fun c hc => Nat.le_trans hle (h2 c hc)⟩

/-- … hence after a thread has been told `v` no thread ever again **extracts** a message below `v` … -/
theorem no_extract_below (s0 s s' : St) (h0 : Init s0) (h : Reach s0 s) (k v i j : Nat) (hv : (k, v) ∈ s.log)
    (hs : step s (.extract i j) = some s') :
    ∃ t e, s.ths[i]? = some t ∧ t.pending[j]? = some e ∧ v ≤ e := by
  obtain ⟨t, e, ht, _, he, _⟩ := step_extract hs
  exact ⟨t, e, ht, he,
    (reported_safe s0 s h0 h k v hv t (List.mem_of_getElem? ht)).1 e (List.mem_of_getElem? he)⟩

/-- … and nothing below `v` is ever **inserted** into a queue again (new events, events re-queued by
a rollback, anti-messages). -/
theorem no_emit_below (s0 s s' : St) (h0 : Init s0) (h : Reach s0 s) (k v i u x : Nat) (hv : (k, v) ∈ s.log)
    (hs : step s (.emit i u x) = some s') : v ≤ x := by
  obtain ⟨t, _, c, ht, _, hc, hcx, _⟩ := step_emit hs
  exact Nat.le_trans ((reported_safe s0 s h0 h k v hv t (List.mem_of_getElem? ht)).2 c hc) hcx

/-- **Monotone across rounds.** -/
theorem monotone (s0 s : St) (h0 : Init s0) (h : Reach s0 s) (k k' v v' : Nat)
    (hv : (k, v) ∈ s.log) (hv' : (k', v') ∈ s.log) (hk : k ≤ k') : v ≤ v' := by
  obtain ⟨K, hK⟩ := reach_inv h0 h
  exact hK.logMono _ hv _ hv' hk

/-- **Same value for all threads of a round.** -/
theorem same_value (s0 s : St) (h0 : Init s0) (h : Reach s0 s) (k v v' : Nat)
    (hv : (k, v) ∈ s.log) (hv' : (k, v') ∈ s.log) : v = v' :=
  Nat.le_antisymm (monotone s0 s h0 h k k v v' hv hv' (Nat.le_refl k))
    (monotone s0 s h0 h k k v' v hv' hv (Nat.le_refl k))

/-! ### Non-vacuity: a concrete 2-thread round with the subtle interleaving

Thread 1 has done its phase-C peek (slot written) when thread 0 — still processing the message
with time stamp 3 it extracted before — sends it a message with time stamp 4. The message is not
seen by thread 1's peeks, but it is covered by thread 0's accumulator (3 ≤ 4). -/

def ex0 : St := { ths := [{ pending := [3, 9] }, { pending := [7] }] }

def exSched : List Act :=
  [.start 0, .phaseA 0, .start 1, .extract 0 0, .phaseA 1, .phaseB 0, .phaseB 1, .phaseC 1,
   .emit 0 1 4,            -- after thread 1's phase-C peek
   .phaseC 0, .phaseD 1, .finish 0, .phaseD 0]

example : Init ex0 := ⟨by decide, by decide, rfl, rfl, rfl, rfl⟩

/-- the schedule is executable; both threads read 3; the late message (4) is still queued -/
example : ∃ s, run ex0 exSched = some s ∧ s.log = [(0, 3), (0, 3)] ∧ s.ca = 0 ∧ s.cb = 0 ∧
    (s.ths.map (·.pending)) = [[9], [4, 7]] := ⟨_, rfl, by decide, by decide, by decide, by decide⟩

/-- a state in which the cut is in force (`Active`) is reachable -/
example : ∃ s, run ex0 (exSched.take 8) = some s ∧ Active s ∧ G s = 3 :=
  ⟨_, rfl, by unfold Active; decide, by decide⟩

theorem reach_run (s0 : St) (as : List Act) : ∀ s s', Reach s0 s → run s as = some s' → Reach s0 s' := by
  induction as with
  | nil => intro s s' h hr; simp only [run, Option.some.injEq] at hr; subst hr; exact h
  | cons a as ih =>
    intro s s' h hr
    simp only [run] at hr
    split at hr
    · cases hr
    · rename_i s1 hs; exact ih s1 s' (Reach.step h hs) hr

/-- **The coupling `start` needs `cur = none` is essential** (and is what the code has:
`gvt_phase_run` is never called from inside `process_msg`). If a thread could start a round
(`gvt_accumulator = SIMTIME_MAX`) while still processing a message, that message's time stamp would be
covered by nothing: with the same queues as above, thread 0 extracts 3, *then* starts; the round
computes 7 while thread 0 can still emit a message with time stamp 3. This state is not reachable
in the model (`start` is refused): -/
example : step { ths := [{ pending := [9], cur := some 3, acc := 3 }, { pending := [7] }] } (.start 0) = none := by
  decide

/-! ### The phase machine of this model is the one that is replayed against the real code

`Model/Shutdown.lean` (`threadPhase`, the thread level of the complete `gvt_phase_run` model) is compared in
lock-step with the real `gvt.c` under the deterministic scheduler (harness `hc08.c`, driver mode `shutdown`).
The four phase steps of the model used in this file perform exactly the same guard tests and the same
updates of `thread_phase`, `c_a`, `c_b`. -/

def tphOf : Phase → RootSim.Shutdown.TPh
  | .idle => .idle | .A => .A | .B => .B | .C => .C | .D => .D

def actOf : Phase → Nat → Option Act
  | .A, i => some (.phaseA i) | .B, i => some (.phaseB i) | .C, i => some (.phaseC i) | .D, i => some (.phaseD i)
  | .idle, _ => none

theorem inc32_eq (x : Nat) : RootSim.Shutdown.inc32 x = (x + 1) % W32 := rfl

theorem dec32_one (x : Nat) : RootSim.Shutdown.dec32 x 1 = (x + W32 - 1) % W32 := by
  have h : 1 % RootSim.Shutdown.W32 = 1 := Nat.mod_eq_of_lt (by unfold RootSim.Shutdown.W32; omega)
  unfold RootSim.Shutdown.dec32; rw [h]; rfl

set_option linter.unusedSimpArgs false in
theorem phase_machine_agrees (s : St) (i : Nat) (t : Th) (a : Act) (ss : RootSim.Shutdown.St)
    (u : RootSim.Shutdown.Th) (ht : s.ths[i]? = some t) (ha : actOf t.phase i = some a)
    (hn : ss.n = s.ths.length) (hca : ss.ca = s.ca) (hcb : ss.cb = s.cb) (hu : u.tph = tphOf t.phase) :
    match step s a with
    | none => RootSim.Shutdown.threadPhase ss u = (ss, u, false)
    | some s' => ∃ t', s'.ths[i]? = some t' ∧
        (RootSim.Shutdown.threadPhase ss u).1.ca = s'.ca ∧ (RootSim.Shutdown.threadPhase ss u).1.cb = s'.cb ∧
        (RootSim.Shutdown.threadPhase ss u).2.1.tph = tphOf t'.phase ∧
        (RootSim.Shutdown.threadPhase ss u).2.2 = (t.phase == .D) := by
  have hi : i < s.ths.length := (List.getElem?_eq_some_iff.mp ht).1
  have hgi : s.ths[i] = t := (List.getElem?_eq_some_iff.mp ht).2
  cases hp : t.phase <;> rw [hp] at ha hu <;> simp only [actOf, Option.some.injEq] at ha
  · cases ha
  · subst ha
    by_cases hg : s.ca = 0 <;>
      simp [step, ht, hgi, hp, RootSim.Shutdown.threadPhase, hu, tphOf, hn, hca, hcb, hg, hi,
        inc32_eq, dec32_one]
  · subst ha
    by_cases hg : s.cb = s.ths.length <;>
      simp [step, ht, hgi, hp, RootSim.Shutdown.threadPhase, hu, tphOf, hn, hca, hcb, hg, hi,
        inc32_eq, dec32_one]
  · subst ha
    by_cases hg : s.ca = s.ths.length <;>
      simp [step, ht, hgi, hp, RootSim.Shutdown.threadPhase, hu, tphOf, hn, hca, hcb, hg, hi,
        inc32_eq, dec32_one]
  · subst ha
    by_cases hg : s.cb = 0 <;>
      simp [step, ht, hgi, hp, RootSim.Shutdown.threadPhase, hu, tphOf, hn, hca, hcb, hg, hi,
        inc32_eq, dec32_one]

end RootSim.C04
