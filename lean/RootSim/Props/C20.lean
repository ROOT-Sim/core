import RootSim.Proofs.Stats
import RootSim.Proofs.StatsLoop
import RootSim.Proofs.StatsLoopInv
/-!
# C20 — the statistics file

"When a statistics file is requested, the produced binary file parses according to its documented
layout, holds the same number of per-GVT records for the node and for each of its threads, and lists
non-decreasing GVT values. Each per-thread record reports exactly the forward executions, rollbacks,
undone events, silent re-executions, checkpoints and anti-messages that occurred on that thread since
its previous record, so cumulatively undone events never exceed forward executions."

Proved here for all data and all runs of the accounting machine (no bound on sizes or lengths).

**"The same number of records for each thread"** depends on the variant of the flush loop of
`gvt_msg_drain` (`StatsLoop.Cfg.fix6`). The statement is `SameRecordCountStatement fix6`, over the model of the
worker loop / GVT round / termination test / flush loop (`Model/StatsLoop.lean`: any number of threads, any
schedule of the atomic blocks):
* `fix6 = false` (the pinned tree, finding F6): *refuted* (`same_record_count_counterexample_stop`,
  `same_record_count_counterexample_vote`, `not_same_record_count`); what does hold is `node_count_eq_thread0`
  and `records_plus_dropped` (a thread lacks exactly the values its flush loop dropped);
* `fix6 = true` (the flush loop hands the value to `stats_on_gvt`): *proved*, `same_record_count_fixed` (every
  thread has recorded exactly the rounds that completed) for every execution that returns (`StatsLoop.Returns`:
  not one that ends in the shutdown deadlock F1).
-/
namespace RootSim.C20
open RootSim.Stats

/-! ## Layout -/

/-- **The layout is self-consistent**: every well-formed content is recovered from its bytes. -/
theorem roundtrip (d : StatsData) (h : d.WF) : decode (encode d) = .ok d := by
  rw [encode_eq, decode_magic, Dec.whole_eq_ok]
  simpa only [List.append_nil] using (reads_body d.be).enc d [] ⟨rfl, h⟩

theorem roundtrip_option (d : StatsData) (h : d.WF) : decode? (encode d) = some d := by
  rw [decode?, roundtrip d h]; rfl

/-- **The layout is unambiguous**: whatever the decoder accepts is *exactly* the encoding of a
well-formed content (no slack, no alternative encodings, nothing ignored). -/
theorem decode_sound (bs : Bytes) (hb : IsBytes bs) (d : StatsData) (h : decode bs = .ok d) :
    encode d = bs ∧ d.WF := by
  obtain ⟨be, r, rfl, hd⟩ := decode_ok h
  obtain ⟨e, rfl, wf⟩ := (reads_body be).sound r d [] hb.of_append_right hd
  exact ⟨by rw [encode_eq, e, List.append_nil], wf⟩

/-- consequently decoding is injective on byte strings -/
theorem decode_injective (a b : Bytes) (ha : IsBytes a) (hb : IsBytes b) (d : StatsData)
    (h1 : decode a = .ok d) (h2 : decode b = .ok d) : a = b := by
  rw [← (decode_sound a ha d h1).1, ← (decode_sound b hb d h2).1]

/-- **Length formula** (bytes): magic, `s_cnt`, the Pascal strings, `n_cnt`, then per node the
72-byte global block, the 8-byte size and 16 bytes per node entry, and per thread an 8-byte size
and `8 * s_cnt` bytes per record. -/
theorem encode_length (d : StatsData) (h : d.WF) :
    (encode d).length =
      2 + 8 + (d.names.map (fun n => 1 + n.length)).sum + 8 +
      (d.nodes.map (fun n => globSize + 8 + n.recs.length * nodeRecSize +
          (n.threads.map (fun th => 8 + th.length * (8 * d.names.length))).sum)).sum := by
  obtain ⟨_, _, h2, _, h4⟩ := h
  simp only [encode, List.length_append, encInt_length,
    length_flatMap_eq fun n hn => encName_length n (h2 n hn),
    length_flatMap_eq fun n hn => encNode_length d.be _ n (h4 n hn)]

/-! ## Accounting -/

/-- **Each record reports exactly what happened since the previous one.** For every run of the
accounting machine from the initial state (`stats_cur` zeroed, empty temporary file), the k-th
record written is the tally of the steps of the k-th period (each slot modulo 2^64, the real-time
slot being the timer value at the flush), and the accumulator holds the tally of the steps after
the last flush. -/
theorem records_exact (rid0 : Bool) (l : List Step) (s : TState) (h : run rid0 {} l = some s) :
    s.out = (periods l).1.map Period.record ∧ s.cur = (tally (periods l).2).wrap := by
  obtain ⟨h1, h2, _⟩ := run_spec rid0 l {} s fits_zero h
  rw [expectOut_zero] at h1
  rw [expectCur_zero] at h2
  exact ⟨h1, h2⟩

/-- what `tally` counts, slot by slot (the six counters of the property) -/
theorem record_counts (l : List Step) :
    (tally l).processed = l.countP (fun a => match a with | .forward _ => true | _ => false) ∧
    (tally l).rollbacks = l.countP (fun a => match a with | .rollback _ _ => true | _ => false) ∧
    (tally l).undone = (l.map (fun a => match a with | .rollback k _ => k | _ => 0)).sum ∧
    (tally l).silent = (l.map (fun a => match a with | .silent j _ => j | _ => 0)).sum ∧
    (tally l).ckpts = l.countP (fun a => match a with | .ckpt _ _ => true | _ => false) ∧
    (tally l).antis = l.countP (fun a => match a with | .anti => true | _ => false) := by
  induction l with
  | nil => exact ⟨rfl, rfl, rfl, rfl, rfl, rfl⟩
  | cons a as ih =>
    obtain ⟨i1, i2, i3, i4, i5, i6⟩ := ih
    simp only [tally_cons, Counters.add, List.countP_cons, List.map_cons, List.sum_cons, i1, i2, i3, i4, i5, i6]
    -- the slot of `a.delta` is what the right-hand side adds for `a`: behind a count, in front of a sum
    cases a <;> exact ⟨Nat.add_comm .., Nat.add_comm .., rfl, rfl, Nat.add_comm .., Nat.add_comm ..⟩

/-- no wrap-around ⇒ the record *is* the tally (fewer than 2^64 of anything between two GVTs) -/
theorem record_exact_of_fits (p : Period) (h : (tally p.steps).Fits) :
    p.record = { tally p.steps with realTime := p.now % 2^64 } := by
  rw [Period.record, Counters.wrap_of_fits _ h]

/-- **Undone never exceeds forward**, for every prefix of every run: each undone entry had been
pushed by a forward step and not fossil-collected. -/
theorem undone_le_forward (rid0 : Bool) (l : List Step) (s : TState) (h : run rid0 {} l = some s)
    (p : List Step) (hp : p <+: l) : undTotal p ≤ fwdTotal p := by
  obtain ⟨q, rfl⟩ := hp
  obtain ⟨s1, h1, _⟩ := run_append rid0 p q {} s h
  have := hist_invariant rid0 p {} s1 h1
  simp only [Nat.zero_add] at this
  omega

/-- the same, read off the file: cumulative sums over the first `j` records of a thread -/
theorem file_undone_le_forward (rid0 : Bool) (l : List Step) (s : TState) (h : run rid0 {} l = some s)
    (hfit : ∀ p ∈ (periods l).1, (tally p.steps).processed < 2^64) (j : Nat) :
    ((s.out.take j).map (·.undone)).sum ≤ ((s.out.take j).map (·.processed)).sum := by
  have hpre : ((periods l).1.take j).flatMap Period.flat <+: l :=
    ⟨((periods l).1.drop j).flatMap Period.flat ++ (periods l).2, by
      rw [← List.append_assoc, ← List.flatMap_append, List.take_append_drop]; exact (periods_flat l).symm⟩
  rw [(records_exact rid0 l s h).1, ← List.map_take,
    sum_processed_eq _ fun p hp => hfit p (List.mem_of_mem_take hp)]
  exact Nat.le_trans (sum_undone_le _) (undone_le_forward rid0 l s h _ hpre)

/-! ## The GVT column and the node records -/

/-- the node file lists exactly the values handed to `stats_on_gvt` on thread 0, in order -/
theorem gvt_column (l : List Step) (s : TState) (h : run true {} l = some s) :
    s.nodeOut.map (·.gvt) = gvtInputs l := by
  rw [(run_spec true l {} s fits_zero h).2.2, gvtInputs_eq, if_pos rfl, List.nil_append, List.map_map]
  rfl

/-- **GVT values are non-decreasing in the file** if the values produced by the GVT algorithm are
(that is property C04; keys of non-negative doubles order like the doubles). -/
theorem gvt_column_nondecreasing (l : List Step) (s : TState) (h : run true {} l = some s)
    (hmono : (gvtInputs l).Pairwise (· ≤ ·)) : (s.nodeOut.map (·.gvt)).Pairwise (· ≤ ·) := by
  rw [gvt_column l s h]; exact hmono

/-- **The node holds as many records as thread 0** (both are written by the same `stats_on_gvt` call);
other threads never touch the node file. -/
theorem node_count_eq_thread0 (l : List Step) (s : TState) (h : run true {} l = some s) :
    s.nodeOut.length = s.out.length ∧ s.out.length = (gvtInputs l).length := by
  obtain ⟨h1, _, h3⟩ := run_spec true l {} s fits_zero h
  rw [h1, h3, expectOut_zero, gvtInputs_eq]
  simp only [if_true, List.nil_append, List.length_map, and_self]

theorem node_untouched_by_others (l : List Step) (s : TState) (h : run false {} l = some s) :
    s.nodeOut = [] := (run_spec false l {} s fits_zero h).2.2

/-! ## From the runs to the file -/

/-- every record written fits the 12 × 8-byte `struct stats_thread` -/
theorem records_fit (rid0 : Bool) (l : List Step) (s : TState) (h : run rid0 {} l = some s) :
    ∀ c ∈ s.out, c.toList.length = statsCount ∧ ∀ v ∈ c.toList, v < 2^64 :=
  fun c hc => ⟨rfl, (Counters.fits_iff_toList c).mp (out_fits h c hc)⟩

/-- **The file of a (single-node) run is well-formed**, hence parses back: thread 0 ran `l0` and ended
in `s0`, the other threads ran `p.1` and ended in `p.2` for `p ∈ others`; sizes are bounded by what an
`int64` byte count can express. -/
theorem file_wf (be : Bool) (lps maxRss : Nat) (ts : List Nat) (l0 : List Step) (s0 : TState)
    (others : List (List Step × TState))
    (h0 : run true {} l0 = some s0) (hs : ∀ p ∈ others, run false {} p.1 = some p.2)
    (hlps : lps < 2^64) (hrss : maxRss < 2^64) (hts : ts.length = globalCount ∧ ∀ t ∈ ts, t < 2^64)
    (hn : others.length + 1 < 2^64)
    (hg : ∀ r ∈ s0.nodeOut, r.gvt < 2^64 ∧ r.rss < 2^64)
    (hlen0 : s0.out.length * 96 < 2^63) (hlen : ∀ p ∈ others, p.2.out.length * 96 < 2^63) :
    (StatsData.mk be statsNameBytes [assemble lps maxRss ts (s0 :: others.map (·.2))]).WF := by
  refine ⟨(by decide : 0 < statsNameBytes.length), (by decide : statsNameBytes.length < 2^63),
    (by decide : ∀ n ∈ statsNameBytes, n.length ≤ 255), (by decide : 1 < 2^63), fun n hn' => ?_⟩
  obtain rfl := List.mem_singleton.mp hn'
  have hnode : s0.nodeOut.length * nodeRecSize < 2^63 := by
    rw [(node_count_eq_thread0 l0 s0 h0).1, nodeRecSize]; omega
  refine assemble_wf lps maxRss ts s0 _ hlps hrss hts (by rwa [List.length_map]) hnode hg fun s hs' => ?_
  rcases List.mem_cons.mp hs' with rfl | hm
  · exact ⟨hlen0, out_fits h0⟩
  · obtain ⟨p, hp, rfl⟩ := List.mem_map.mp hm
    exact ⟨hlen p hp, out_fits (hs p hp)⟩

theorem file_roundtrip (be : Bool) (lps maxRss : Nat) (ts : List Nat) (l0 : List Step) (s0 : TState)
    (others : List (List Step × TState))
    (h0 : run true {} l0 = some s0) (hs : ∀ p ∈ others, run false {} p.1 = some p.2)
    (hlps : lps < 2^64) (hrss : maxRss < 2^64) (hts : ts.length = globalCount ∧ ∀ t ∈ ts, t < 2^64)
    (hn : others.length + 1 < 2^64)
    (hg : ∀ r ∈ s0.nodeOut, r.gvt < 2^64 ∧ r.rss < 2^64)
    (hlen0 : s0.out.length * 96 < 2^63) (hlen : ∀ p ∈ others, p.2.out.length * 96 < 2^63) :
    let d := StatsData.mk be statsNameBytes [assemble lps maxRss ts (s0 :: others.map (·.2))]
    decode (encode d) = .ok d :=
  roundtrip _ (file_wf be lps maxRss ts l0 s0 others h0 hs hlps hrss hts hn hg hlen0 hlen)

/-! ## Same number of records for every thread: false on the pinned tree (finding F6), true with the repair -/

open RootSim.StatsLoop in
/-- The part of C20 about the record counts, for the variant `fix6` of the flush loop: in every execution that
returns (all threads have left the worker loop and the flush loop of `gvt_msg_drain` and stand at its barrier)
all threads have called `stats_on_gvt` equally often. -/
def SameRecordCountStatement (fix6 : Bool) : Prop :=
  ∀ (cfg : Cfg) (sched : List Nat), cfg.fix6 = fix6 →
    Returns cfg sched → sameCount (runFine cfg (init cfg) sched) = true

open RootSim.StatsLoop in
/-- **Counter-example 1** (pinned tree; replayed on the real code by the harness, at `VERIF_YIELD` granularity):
a model calls `RootsimStop()` while the reducer thread of the current GVT round is inside its batch
of 64 `process_msg()`: thread 0 ends with one record, thread 1 with none. -/
theorem same_record_count_counterexample_stop :
    allDone (runHook (stopCfg false) (initHook (stopCfg false)) stopSched) = true ∧
    recordCounts (runHook (stopCfg false) (initHook (stopCfg false)) stopSched) = [1, 0] := by decide +kernel

open RootSim.StatsLoop in
/-- **Counter-example 2** (pinned tree; plain predicate termination, no `RootsimStop`): the last vote of
`termination_on_gvt` lands between another thread's `gvt_phase_run()` and its loop test:
thread 0 ends with one record, thread 1 with two. -/
theorem same_record_count_counterexample_vote :
    allDone (runFine (voteCfg false) (init (voteCfg false)) voteSched) = true ∧
    recordCounts (runFine (voteCfg false) (init (voteCfg false)) voteSched) = [1, 2] := by decide +kernel

open RootSim.StatsLoop in
theorem not_same_record_count : ¬ SameRecordCountStatement false := by
  intro h
  have h1 := h (voteCfg false) voteSched rfl same_record_count_counterexample_vote.1
  have h2 : sameCount (runFine (voteCfg false) (init (voteCfg false)) voteSched) = false := by decide +kernel
  rw [h1] at h2
  exact Bool.noConfusion h2

open RootSim.StatsLoop in
/-- the two executions are not artefacts of a degenerate configuration: with the same configurations
a fair alternation of the threads terminates with equal counts -/
example : allDone (runHook (stopCfg false) (initHook (stopCfg false)) (rep [0, 1] 40)) = true ∧
    recordCounts (runHook (stopCfg false) (initHook (stopCfg false)) (rep [0, 1] 40)) = [1, 1] := by decide +kernel

open RootSim.StatsLoop in
/-- **Both variants: a thread lacks exactly the values its flush loop dropped.** In every execution that
returns, every round that was started is over and every thread has been handed its value, in the worker loop
(recorded) or in the flush loop (recorded iff `fix6`). No bound on threads, rounds or schedule length. -/
theorem records_plus_dropped (cfg : Cfg) (sched : List Nat) (hret : Returns cfg sched) :
    (∀ th ∈ (runFine cfg (init cfg) sched).ths,
      th.records + th.discarded = (runFine cfg (init cfg) sched).sh.completed) ∧
    (runFine cfg (init cfg) sched).sh.started = (runFine cfg (init cfg) sched).sh.completed :=
  GInv_final cfg _ (reachable_fine cfg sched) hret

open RootSim.StatsLoop in
/-- **With the repair every thread holds one record per GVT round.** For every number of threads, every
configuration (period, `RootsimStop` call, termination votes) and every schedule of the atomic blocks of the
loop model with `fix6 = true`: if the execution returns, every thread has called `stats_on_gvt` exactly once for
each round that completed (and no round is left open), hence all threads - thread 0, which also writes the
node's records (`node_count_eq_thread0`), among them - hold the same number of records. -/
theorem same_record_count_fixed (cfg : Cfg) (hfix : cfg.fix6 = true) (sched : List Nat) (hret : Returns cfg sched) :
    (∀ th ∈ (runFine cfg (init cfg) sched).ths, th.records = (runFine cfg (init cfg) sched).sh.completed) ∧
    (runFine cfg (init cfg) sched).sh.started = (runFine cfg (init cfg) sched).sh.completed ∧
    sameCount (runFine cfg (init cfg) sched) = true :=
  GInv_final_fixed cfg _ (reachable_fine cfg sched) hfix hret

open RootSim.StatsLoop in
/-- the same for the executions the harness replays on the real threads (grants between `VERIF_YIELD` points) -/
theorem same_record_count_fixed_hook (cfg : Cfg) (hfix : cfg.fix6 = true) (sched : List Nat)
    (hret : ReturnsHook cfg sched) :
    (∀ th ∈ (runHook cfg (initHook cfg) sched).ths, th.records = (runHook cfg (initHook cfg) sched).sh.completed) ∧
    sameCount (runHook cfg (initHook cfg) sched) = true :=
  have h := GInv_final_fixed cfg _ (reachable_hook cfg sched) hfix hret
  ⟨h.1, h.2.2⟩

open RootSim.StatsLoop in
theorem same_record_count_fixed_statement : SameRecordCountStatement true :=
  fun cfg sched hfix hret => (same_record_count_fixed cfg hfix sched hret).2.2

/-! ### Non-vacuity of `Returns` / `ReturnsHook` for the repaired variant -/

open RootSim.StatsLoop in
/-- 2 threads, the schedule of counter-example 1: the execution returns; thread 1 adopts the round in its flush
loop (the pinned variant drops exactly that value: `discarded = [0, 1]`), the repaired variant records it -/
example : ReturnsHook (stopCfg true) stopSched ∧
    recordCounts (runHook (stopCfg true) (initHook (stopCfg true)) stopSched) = [1, 1] ∧
    (runHook (stopCfg false) (initHook (stopCfg false)) stopSched).ths.map (·.discarded) = [0, 1] := by
  decide +kernel

open RootSim.StatsLoop in
/-- 2 threads, fine-grained schedule of counter-example 2: returns, thread 0 adopts the second round -/
example : Returns (voteCfg true) voteSched ∧
    recordCounts (runFine (voteCfg true) (init (voteCfg true)) voteSched) = [2, 2] ∧
    (runFine (voteCfg false) (init (voteCfg false)) voteSched).ths.map (·.discarded) = [1, 0] ∧
    (runFine (voteCfg true) (init (voteCfg true)) voteSched).sh.completed = 2 := by
  decide +kernel

open RootSim.StatsLoop in
/-- 3 threads: returns; thread 0 records the round in its worker loop, threads 1 and 2 adopt it in their flush
loops (pinned variant: `[1, 0, 0]` records, `[0, 1, 1]` dropped; repaired variant: `[1, 1, 1]`) -/
example : ReturnsHook (stop3Cfg true) stop3Sched ∧
    recordCounts (runHook (stop3Cfg true) (initHook (stop3Cfg true)) stop3Sched) = [1, 1, 1] ∧
    recordCounts (runHook (stop3Cfg false) (initHook (stop3Cfg false)) stop3Sched) = [1, 0, 0] ∧
    (runHook (stop3Cfg false) (initHook (stop3Cfg false)) stop3Sched).ths.map (·.discarded) = [0, 1, 1] := by
  decide +kernel

open RootSim.StatsLoop in
/-- the hypothesis is not for free: the same 3 threads can end in the shutdown deadlock F1 (thread 0 has started
a round, the other threads are idle at the barrier and never join it): that execution has not returned after
200 further grants of thread 0 (it spins in thread phase B) -/
example : ¬ ReturnsHook (stop3Cfg true) (rep [1, 2] 16 ++ rep [0] 200) := by decide +kernel

/-! ## Non-vacuity -/

def exData : StatsData :=
  { be := false, names := [[112, 114], [97]],
    nodes := [{ lps := 4, maxRss := 123456, ts := [1, 2, 3, 4, 5, 6],
                recs := [⟨4607182418800017408, 1000⟩, ⟨4611686018427387904, 2000⟩],
                threads := [[[5, 600], [7, 800]], [[1, 2]]] }] }   -- thread 1 has one record fewer: still WF

example : exData.WF := by decide
example : decode (encode exData) = .ok exData := roundtrip exData (by decide)
example : (encode exData).length = 199 := by rfl
example : IsBytes (encode exData) := by decide +kernel
/-- appending a byte, or cutting one, makes a file unparsable -/
example : (match decode (encode exData ++ [0]) with | .error e => e == "garbage" | .ok _ => false) = true ∧
    (match decode ((encode exData).take 198) with | .error e => e == "truncated" | .ok _ => false) = true := by
  decide +kernel
example : (encode { exData with be := true }).take 2 = [240, 15] := by decide

/-- a run with forward executions, a rollback undoing two of them, a silent re-execution, a checkpoint,
fossil collection and two flushes -/
def exRun : List Step :=
  [.forward 3, .ckpt 64 1, .forward 2, .forward 2, .anti, .rollback 2 9, .silent 1 4, .forward 1,
   .gvt 4607182418800017408 77 1000, .fossil 1, .forward 5, .gvt 4611686018427387904 99 2000, .forward 1]

example : (run true {} exRun).isSome = true := by decide
example : ∃ s, run true {} exRun = some s ∧ s.out.length = 2 ∧ s.nodeOut.length = 2 ∧
    (s.out.map (·.processed)) = [4, 1] ∧ (s.out.map (·.undone)) = [2, 0] ∧ s.cur.processed = 1 :=
  ⟨_, rfl, by decide⟩
example : (gvtInputs exRun).Pairwise (· ≤ ·) := by decide
example : ∀ p ∈ (periods exRun).1, (tally p.steps).processed < 2^64 := by decide
/-- the structural constraint bites: undoing more than the history holds is not a run -/
example : run true {} [.forward 1, .rollback 2 0] = none := by decide

end RootSim.C20
