import RootSim.Proofs.GvtGlobalInv
/-!
# C04, global level: with several nodes, the reported GVT is a lower bound of everything queued, being processed
or IN FLIGHT between nodes — now and for the rest of the round

Model: `RootSim/Model/GvtGlobal.lean` (one round, `K` nodes, any interleaving, any number of messages, no ghost state).
The facts of the lower layers enter ONLY as step guards / step values (see the model header):
`pass` ⇐ `C04.Node.old_colour_drained`; `report` value ⇐ `C04.read_value` / `C04.cut_safe`; `join` between two events;
emitted time stamps `≥` the event being processed; exact min all-reduce.

`Reach s0 s`: `s` is reachable from `s0` by `Step`s (`step_iff`: the same transitions as the executable `step`).
`RoundStart old s0`: all nodes idle with colour `old`, all in-flight messages stamped `old` (this is what the previous
round leaves: `round_end_is_round_start`), valid destinations; `pend`, `cur`, `acc` arbitrary.
`LowerBound v s`: the value `v` (`none = SIMTIME_MAX`) is `≤` every element of every `pend k`, every `cur k` and the
time stamp of EVERY in-flight message of `s`. All theorems hold for every `K` (for `K = 0` trivially).
-/
namespace RootSim.C04.Global
open RootSim.GvtGlobal

/-- **`gvt_safe`**: in every reachable state in which all nodes have reported, `gvt s` (the min all-reduce of the
reported values) is a lower bound of every queued / buffered time stamp, every event being processed and every
message in flight, of either colour. -/
theorem gvt_safe (old : Bool) (s0 s : St) (h0 : RoundStart old s0) (hr : Reach s0 s) (hall : AllReported s) :
    LowerBound (gvt s) s :=
  lowerBound_of_allge fun g hg => allge_of_allReported (rinv_reach h0 hr) hall g hg

/-- **`gvt_stable`**: … and this remains true in every state reachable from there (by ANY steps; once all nodes have
reported only process / emit / deliver steps are enabled, and the value of the round no longer changes): nothing
below `gvt s` ever appears again in this round. -/
theorem gvt_stable (old : Bool) (s0 s s' : St) (h0 : RoundStart old s0) (hr : Reach s0 s) (hall : AllReported s)
    (hr' : Reach s s') :
    AllReported s' ∧ gvt s' = gvt s ∧ LowerBound (gvt s) s' := by
  have hst := stages_reach hall hr'
  have hall' : AllReported s' := allReported_of_stages hst hall
  exact ⟨hall', gvt_eq_of_stages hst, gvt_eq_of_stages hst ▸ gvt_safe old s0 s' h0 (reach_trans hr hr') hall'⟩

/-- `gvt_stable` for an executable schedule of process / emit / deliver actions -/
theorem gvt_stable_run (old : Bool) (s0 s s' : St) (h0 : RoundStart old s0) (hr : Reach s0 s)
    (hall : AllReported s) (as : List Action) (_hw : ∀ a ∈ as, a.isWork = true) (hrun : run s as = some s') :
    LowerBound (gvt s) s' :=
  (gvt_stable old s0 s s' h0 hr hall (reach_run as s s' .refl hrun)).2.2

/-- … in particular no event below the GVT is ever extracted again -/
theorem no_extract_below (old : Bool) (s0 s s' s'' : St) (h0 : RoundStart old s0) (hr : Reach s0 s)
    (hall : AllReported s) (hr' : Reach s s') (k e : Nat) (hb : beginProcess s' k e = some s'') :
    OLe (gvt s) e := by
  -- after the extraction `e` is the event being processed, and `gvt_stable` speaks of that state
  have h := (gvt_stable old s0 s s'' h0 hr hall (.step hr' (Step_of_step (a := .beginProcess k e) hb))).2.2
  obtain ⟨nd, hk, _, rfl⟩ := beginProcess_eq_some hb
  exact (h.1 _ (List.mem_set (List.getElem?_eq_some_iff.mp hk).1 _)).2 e rfl

/-- **`gvt_monotone`**: if every `pend` / `cur` / in-flight time stamp of the round's initial state is `≥ g0` (what
the previous round established for its GVT `g0`), then every value reported in this round, hence `gvt s`, is `≥ g0`. -/
theorem gvt_monotone (old : Bool) (s0 s : St) (h0 : RoundStart old s0) (hr : Reach s0 s) (g0 : Nat)
    (hg0 : LowerBound (some g0) s0) : Le g0 (gvt s) := by
  have hm := mono_reach (mono_init h0 hg0) hr
  apply (le_ominL g0 _).2
  intro v hv
  obtain ⟨nd, hnd, rfl⟩ := List.mem_map.1 hv
  obtain ⟨k, hk⟩ := List.mem_iff_getElem?.1 hnd
  exact (hm.2 k nd hk).2

/-- the end of a round is the start of the next one: when all nodes have reported, every node and every message in
flight carries the new colour (so `RoundStart (!old)` holds once the stages are reset), and the hypothesis of
`gvt_monotone` holds for the next round with `g0 = gvt s` (if finite). -/
theorem round_end_is_round_start (old : Bool) (s0 s : St) (h0 : RoundStart old s0) (hr : Reach s0 s)
    (hall : AllReported s) :
    RoundStart (!old) (nextRound s) ∧ LowerBound (gvt s) (nextRound s) := by
  have h := rinv_reach h0 hr
  have hs := gvt_safe old s0 s h0 hr hall
  -- the nodes of `nextRound s` are those of `s` with the stage reset
  have hnodes : ∀ nd ∈ (nextRound s).nodes, ∃ nd1 ∈ s.nodes, nd = { nd1 with stage := .idle } :=
    fun nd hnd => by obtain ⟨nd1, hnd1, rfl⟩ := List.mem_map.1 hnd; exact ⟨nd1, hnd1, rfl⟩
  refine ⟨⟨fun nd hnd => ?_, fun m hm => ⟨?_, ?_⟩⟩, fun nd hnd => ?_, hs.2⟩
  · obtain ⟨nd1, hnd1, rfl⟩ := hnodes nd hnd
    obtain ⟨k, hk⟩ := List.mem_iff_getElem?.1 hnd1
    obtain ⟨m, hm⟩ := Stage.eq_reported (allReported_get hall hk)
    exact ⟨rfl, (h.hasFlipped_iff hk).1 (hm ▸ rfl)⟩
  · exact Bool.eq_not_of_ne (h.no_old_flight hall m hm)
  · rw [show (nextRound s).nodes.length = s.nodes.length from List.length_map ..]; exact h.destOk m hm
  · obtain ⟨nd1, hnd1, rfl⟩ := hnodes nd hnd
    exact hs.1 nd1 hnd1

/-- when all nodes have reported, `G = min_k floor k` IS the GVT -/
theorem gvt_eq_G (s : St) (hall : AllReported s) : gvt s = G s := by
  refine congrArg ominL (List.map_congr_left fun nd hnd => ?_)
  obtain ⟨m, hm⟩ := Stage.eq_reported (hall nd hnd)
  unfold floor; rw [hm]; rfl

/-! ## the guards are exactly what is needed (kernel-checked counter-examples on the executable step functions) -/

/-- two nodes, old colour `false`; node 0 has the event 5 queued, node 1 the event 10 -/
def cex0 : St := { nodes := [{ pend := [5] }, { pend := [10] }] }

/-- node 0 processes 5 and sends 7 to node 1 (old colour) before joining; both join and flip; node 1 leaves
`node_sent_wait` although the old-colour message addressed to it is still in flight -/
def cexCounting : List Action :=
  [.beginProcess 0 5, .emitRemote 0 1 7, .endProcess 0, .join 0, .join 1, .flip 0, .flip 1, .pass 0, .pass 1,
   .report 0, .report 1]

/-- **`needs_counting`**: WITHOUT the guard of `pass` (variant `noCounting`) a state with all nodes reported is
reachable in which a message in flight (7) is below the GVT (10): `gvt_safe` fails. With the guard, `pass 1` is not
enabled at that point (`run` of the prefix up to it yields `none`). -/
theorem needs_counting :
    RoundStart false cex0 ∧
    ∃ s, runV .noCounting cex0 cexCounting = some s ∧ AllReported s ∧ gvt s = some 10 ∧
      (∃ m ∈ s.flight, m.ts = 7 ∧ ¬ OLe (gvt s) m.ts) ∧ ¬ LowerBound (gvt s) s ∧
      (run cex0 (cexCounting.take 8)).isSome = true ∧ run cex0 (cexCounting.take 9) = none := by
  refine ⟨by decide, _, rfl, ?_⟩
  decide

/-- both join; node 0 extracts 5 (`acc = 5`), flips WITH a reset of the accumulator while 5 is being processed,
sends 7 to node 1 stamped with the new colour (not counted in this round), finishes 5; everybody passes and reports -/
def cexReset : List Action :=
  [.join 0, .join 1, .beginProcess 0 5, .flip 0, .emitRemote 0 1 7, .endProcess 0, .flip 1, .pass 0, .pass 1,
   .report 0, .report 1]

/-- **`needs_accumulator_across_flip`**: if `acc` were reset at the flip (variant `resetAtFlip`), a new-colour message
sent between the flip and the pass of its sender (7) ends below the GVT (10). In the real model the same schedule
yields the GVT 5. -/
theorem needs_accumulator_across_flip :
    RoundStart false cex0 ∧
    (∃ s, runV .resetAtFlip cex0 cexReset = some s ∧ AllReported s ∧ gvt s = some 10 ∧
      (∃ m ∈ s.flight, m.ts = 7 ∧ m.colour = true ∧ ¬ OLe (gvt s) m.ts) ∧ ¬ LowerBound (gvt s) s) ∧
    ∃ s, run cex0 cexReset = some s ∧ AllReported s ∧ gvt s = some 5 ∧ LowerBound (gvt s) s := by
  refine ⟨by decide, ⟨_, rfl, ?_⟩, ⟨_, rfl, ?_⟩⟩ <;> decide

/-- node 0 joins (accumulator reset) in the middle of the event 5, flips, sends 7 (new colour), finishes 5 -/
def cexJoin : List Action :=
  [.beginProcess 0 5, .join 0, .join 1, .flip 0, .emitRemote 0 1 7, .endProcess 0, .flip 1, .pass 0, .pass 1,
   .report 0, .report 1]

/-- **`needs_join_between_events`**: if a node could join the round while an event is being processed (variant
`joinBusy`: `gvt_start_processing` without `cur = none`), the same failure appears; with the guard `join 0` is not
enabled at that point. -/
theorem needs_join_between_events :
    RoundStart false cex0 ∧
    (∃ s, runV .joinBusy cex0 cexJoin = some s ∧ AllReported s ∧ gvt s = some 10 ∧
      (∃ m ∈ s.flight, m.ts = 7 ∧ ¬ OLe (gvt s) m.ts) ∧ ¬ LowerBound (gvt s) s) ∧
    run cex0 (cexJoin.take 2) = none := by
  refine ⟨by decide, ⟨_, rfl, ?_⟩, ?_⟩ <;> decide

/-! ## Non-vacuity -/

/-- a run of the executable model gives `Reach` -/
theorem reach_of_run {s0 s : St} {as : List Action} (h : run s0 as = some s) : Reach s0 s :=
  reach_run as s0 s .refl h

/-- 2 nodes: node 0 has 3 and 9 queued, node 1 has 7 and 20 -/
def ex2 : St := { nodes := [{ pend := [3, 9] }, { pend := [7, 20] }] }

/-- node 0 processes 3 and sends 6 (old colour) before the round; joins, flips, processes 9 and sends 12 (new colour);
node 1 flips; node 0 passes; the old-colour 6 is delivered, only then node 1 may pass; reports -/
def sched2 : List Action :=
  [.beginProcess 0 3, .emitRemote 0 1 6, .endProcess 0, .join 0, .join 1, .flip 0, .beginProcess 0 9,
   .emitRemote 0 1 12, .flip 1, .pass 0, .deliver 0, .pass 1, .endProcess 0, .report 0, .report 1]

/-- after 8 actions messages of both colours are in flight; `pass 1` is refused while the old-colour one is
(`run` of `… pass 0, pass 1` is `none`) -/
example : (run ex2 (sched2.take 8)).map (·.flight) = some [⟨false, 1, 6⟩, ⟨true, 1, 12⟩] ∧
    run ex2 (sched2.take 10 ++ [.pass 1]) = none := by decide

/-- the round completes: reports 9 and 6, GVT 6: strictly between the smallest (3) and largest (20) time stamps
pending at the start; the new-colour message 12 is still in flight and is `≥ 6` -/
example : RoundStart false ex2 ∧ ∃ s, run ex2 sched2 = some s ∧ AllReported s ∧
    s.nodes.map (·.stage) = [.reported (some 9), .reported (some 6)] ∧ gvt s = some 6 ∧
    s.flight = [⟨true, 1, 12⟩] ∧ s.nodes.map (·.pend) = [[], [6, 7, 20]] ∧ LowerBound (gvt s) s := by
  refine ⟨by decide, _, rfl, ?_⟩
  decide

/-- the hypotheses of `gvt_safe` / `gvt_stable` / `gvt_monotone` (with `g0 = 3`) are satisfiable, and the
continuation `deliver 12; process 6` of `gvt_stable` is non-trivial -/
example : ∃ s0 s s', RoundStart false s0 ∧ Reach s0 s ∧ AllReported s ∧ LowerBound (some 3) s0 ∧
    run s [.deliver 0, .beginProcess 1 6, .emitRemote 1 0 6, .endProcess 1] = some s' ∧ s'.flight ≠ [] := by
  have h : ((run ex2 sched2).bind fun s =>
      (run s [.deliver 0, .beginProcess 1 6, .emitRemote 1 0 6, .endProcess 1]).map fun s' =>
        (decide (AllReported s), decide (s'.flight ≠ []))) = some (true, true) := by decide
  simp only [Option.map_eq_some_iff, Option.bind_eq_some_iff] at h
  obtain ⟨s, hs, s', hs', hd⟩ := h
  simp only [Prod.mk.injEq, decide_eq_true_eq] at hd
  exact ⟨ex2, s, s', by decide, reach_of_run hs, hd.1, by decide, hs', hd.2⟩

/-- 3 nodes -/
def ex3 : St := { nodes := [{ pend := [4, 30] }, { pend := [8] }, { pend := [15, 40], cur := some 11 }] }

/-- node 2 (in the middle of event 11 when the round starts) sends 13 to node 0 (old colour); node 0 processes 4 and
sends 5 to node 1 (old colour); node 0 joins and flips, processes 30 and sends 33 to node 2 (new colour); the others
join and flip; the two old-colour messages gate `pass 0` and `pass 1`; node 1 extracts 5 after its report -/
def sched3 : List Action :=
  [.emitRemote 2 0 13, .beginProcess 0 4, .emitRemote 0 1 5, .endProcess 0, .join 0, .flip 0, .beginProcess 0 30,
   .emitRemote 0 2 33, .endProcess 2, .join 1, .join 2, .flip 1, .flip 2, .pass 2, .deliver 1, .pass 1, .report 1,
   .beginProcess 1 5, .deliver 0, .pass 0, .report 2, .report 0]

example : (run ex3 (sched3.take 8)).map (·.flight) = some [⟨false, 0, 13⟩, ⟨false, 1, 5⟩, ⟨true, 2, 33⟩] ∧
    run ex3 (sched3.take 13 ++ [.pass 0]) = none ∧ run ex3 (sched3.take 13 ++ [.pass 1]) = none := by decide

/-- reports 5 (node 1), 15 (node 2), 13 (node 0); GVT 5, strictly between 4 and 40; the new-colour 33 still in flight -/
example : RoundStart false ex3 ∧ ∃ s, run ex3 sched3 = some s ∧ AllReported s ∧
    s.nodes.map (·.stage) = [.reported (some 13), .reported (some 5), .reported (some 15)] ∧ gvt s = some 5 ∧
    s.flight = [⟨true, 2, 33⟩] ∧ s.nodes.map (·.cur) = [some 30, some 5, none] ∧ LowerBound (gvt s) s ∧
    RoundStart true (nextRound s) := by
  refine ⟨by decide, _, rfl, ?_⟩
  decide

end RootSim.C04.Global
