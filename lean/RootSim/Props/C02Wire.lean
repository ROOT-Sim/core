import RootSim.Model.Wire
/-!
# C02 (wire level): size-based demultiplexing of MPI messages is unambiguous

For every layout satisfying `Layout.ok` (checked against the real headers on every run) and every payload size, a control
message, an anti-message and an event are each classified as what they are.
-/
namespace RootSim.C02.Wire
open RootSim.Wire

/-- an event is longer than an anti-message, whatever its payload -/
theorem antiSize_lt_eventSize (L : Layout) (h : L.ok) (pl : Nat) : L.antiSize < L.eventSize pl := by
  have h1 := Nat.le_of_lt h.1
  show L.offMSeq - L.offDest + 4 < L.offPl - L.offDest + pl
  rw [← Nat.sub_add_comm h1]
  exact Nat.lt_of_lt_of_le (Nat.sub_lt_sub_right (Nat.le_trans h1 (Nat.le_add_right _ _)) h.2.1)
    (Nat.le_add_right _ _)

theorem control_classified (L : Layout) (h : L.ok) : classify L L.ctrlSz = .control := by
  rw [classify, if_pos (Nat.le_of_lt h.2.2), if_pos rfl]

theorem anti_classified (L : Layout) (h : L.ok) : classify L L.antiSize = .anti := by
  rw [classify, if_pos (Nat.le_refl _), if_neg (Nat.ne_of_gt h.2.2)]

theorem event_classified (L : Layout) (h : L.ok) (pl : Nat) : classify L (L.eventSize pl) = .event := by
  rw [classify, if_neg (Nat.not_le_of_gt (antiSize_lt_eventSize L h pl))]

/-- the three kinds have pairwise different sizes, whatever the payload -/
theorem sizes_distinct (L : Layout) (h : L.ok) (pl : Nat) :
    L.ctrlSz ≠ L.antiSize ∧ L.antiSize ≠ L.eventSize pl ∧ L.ctrlSz ≠ L.eventSize pl :=
  have hae := antiSize_lt_eventSize L h pl
  ⟨Nat.ne_of_lt h.2.2, Nat.ne_of_lt hae, Nat.ne_of_lt (Nat.lt_trans h.2.2 hae)⟩

/-- non-vacuity: the layout of the NDEBUG build on x86-64 -/
example : (⟨8, 28, 40, 4⟩ : Layout).ok := by decide

end RootSim.C02.Wire
