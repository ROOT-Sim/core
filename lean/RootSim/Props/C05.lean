import RootSim.Proofs.AllocInv
/-!
# C05 (allocator level) — `model_allocator_checkpoint_restore` restores the exact state

Model: `ckptTake`, `ckptRestore` of `RootSim/Model/Alloc.lean`.  The LP-level part of C05 (process.c)
is in `Props/C05LP.lean`.

`SameAsSnapshot c σ s'` is "the state `s'` equals the state `σ` at the checkpoint": same live blocks,
same bytes in every live block, same tree (hence same `longest[]`) for every arena that existed in
`σ`, arenas created later are in the `buddy_init` state, and `full_ckpt_size` is that of `σ` plus the
per-arena header of each later arena (which a checkpoint of `s'` has to record).
-/
namespace RootSim.C05.Alloc
open RootSim.Alloc

structure SameAsSnapshot (c : Cfg) (σ s' : MM) : Prop where
  live : ∀ b, b ∈ s'.live c ↔ b ∈ σ.live c
  bytes : ∀ b ∈ σ.live c, s'.bytes b = σ.bytes b
  trees : ∀ a ∈ σ.arenas, ∃ a' ∈ s'.arenas, a'.id = a.id ∧ a'.tree = a.tree ∧
    a'.tree.flatten c.T c.B = a.tree.flatten c.T c.B
  later : ∀ a' ∈ s'.arenas, a'.id ∉ σ.arenas.map (·.id) → a'.tree = .free
  order : (σ.arenas.map (·.id)).Sublist (s'.arenas.map (·.id))
  full : s'.full = σ.full + (s'.arenas.length - σ.arenas.length) * c.perArena

theorem sameAsSnapshot_of_restored {c : Cfg} {σ s' : MM} (hσ : Inv0 c σ) (hs : Inv0 c s')
    (h : Restored c σ s') (hsub : (ids σ.arenas).Sublist (ids s'.arenas)) : SameAsSnapshot c σ s' :=
  ⟨h.live hs, fun _ hb => h.bytes hσ hs hb,
   fun a ha => by
     obtain ⟨a', h1, h2, h3, _⟩ := h.same a ha
     exact ⟨a', h1, h2, h3, by rw [h3]⟩,
   h.later, hsub, h.full⟩

/-! ## `ckpt_size_exact` -/

/-- In every reachable state, `model_allocator_checkpoint_take` writes exactly `full_ckpt_size` bytes
into the buffer it allocated with `mm_alloc(full_ckpt_size)` (no heap overflow, no slack), and stores
that size in `ckpt_size`. -/
theorem ckpt_size_exact {c : Cfg} (hc : c.ok) {s : MM} (hI : Inv c s) (ref : Nat) :
    (ckptTake c s ref).logs.getLast? = some (ref, mkCkpt c s) ∧
    (mkCkpt c s).written c = s.full ∧ (mkCkpt c s).size = s.full :=
  ⟨by simp [ckptTake], written_mkCkpt hc hI.inv0, rfl⟩

/-- the invariant behind it -/
theorem full_ckpt_size_invariant {c : Cfg} (hc : c.ok) {ops : List Op} {s : MM}
    (h : run c (MM.init c) ops = some s) :
    s.full = c.base + (s.arenas.map fun a => c.perArena + a.tree.liveBytes c.T).sum :=
  ((Inv.init c).run hc h).inv0.full

/-! ## `restore_take` -/

/-- **Exactness of restore, one call** (ghost form).  In a state satisfying the invariant, where
`g.snaps[i]` is the allocator state at the moment `logs[i]` was taken: `restore x` picks the last log
`i` with `ref_i ≤ x`, returns its `ref_i`, drops the later logs, and the resulting state equals
`g.snaps[i]`. -/
theorem restore_exact {c : Cfg} (hc : c.ok) {g : GS} (hG : GInv c g) {x r : Nat} {s' : MM}
    (h : ckptRestore c g.s x = some (s', r)) :
    ∃ i k σ, g.s.logs[i]? = some (r, k) ∧ g.snaps[i]? = some σ ∧ r ≤ x ∧
      (∀ j l, i < j → g.s.logs[j]? = some l → x < l.1) ∧
      s'.logs = g.s.logs.take (i + 1) ∧ SameAsSnapshot c σ s' := by
  obtain ⟨hG', ys, k, rest, S1, σ, S2, hS, hlogs', hRes, hids, _⟩ := ckptRestore_spec hc hG h
  refine ⟨ys.length, k, σ, ?_, ?_, hS.le, fun j l hj hl => ?_, ?_, ?_⟩
  · rw [hS.logs, List.getElem?_append_right (Nat.le_refl _), Nat.sub_self]; rfl
  · rw [hS.snaps, ← hS.len, List.getElem?_append_right (Nat.le_refl _), Nat.sub_self]; rfl
  · obtain ⟨m, rfl⟩ := Nat.exists_eq_add_of_lt hj
    rw [hS.logs, List.getElem?_append_right (Nat.le_of_lt hj), Nat.add_assoc, Nat.add_sub_cancel_left,
      List.getElem?_cons_succ] at hl
    exact hS.above l (List.mem_of_getElem? hl)
  · rw [hlogs', hS.logs, show ys ++ (r, k) :: rest = (ys ++ [(r, k)]) ++ rest from (List.append_assoc ys [(r, k)] rest).symm,
      List.take_left' (by rw [List.length_append, List.length_singleton])]
  · have hσ := hG.snaps σ (by rw [hS.snaps]; exact List.mem_append_right _ List.mem_cons_self)
    exact sameAsSnapshot_of_restored hσ.1 hG'.inv0 hRes (by rw [hids]; exact hσ.2)

/-- **Exactness of restore, all histories**: after ANY sequence of malloc / calloc / realloc / free /
stores / checkpoint takes / restores / fossil collections from the initial state (new arenas inserted
at any position), every restore yields exactly the state at the moment the chosen checkpoint was
taken. -/
theorem restore_exact_all_histories {c : Cfg} (hc : c.ok) {ops : List Op} {g : GS}
    (hrun : grun c (GS.init c) ops = some g) {x r : Nat} {s' : MM}
    (h : ckptRestore c g.s x = some (s', r)) :
    ∃ i k σ, g.s.logs[i]? = some (r, k) ∧ g.snaps[i]? = some σ ∧ r ≤ x ∧
      (∀ j l, i < j → g.s.logs[j]? = some l → x < l.1) ∧
      s'.logs = g.s.logs.take (i + 1) ∧ SameAsSnapshot c σ s' :=
  restore_exact hc ((GInv_init c).run hc hrun) h

/-- restore followed by take: the checkpoint written right after a restore has exactly the size
`full_ckpt_size` computed by the restore (this is what breaks if the per-arena offset of
re-initialised arenas is forgotten); if no arena was created since the snapshot it has the size of
the original checkpoint. -/
theorem restore_then_take_size {c : Cfg} (hc : c.ok) {g : GS} (hG : GInv c g) {x r : Nat} {s' : MM}
    (h : ckptRestore c g.s x = some (s', r)) :
    (mkCkpt c s').written c = s'.full ∧
    ∀ (i : Nat) (σ : MM), g.snaps[i]? = some σ → (∃ k, g.s.logs[i]? = some (r, k)) →
      (mkCkpt c s').written c = (mkCkpt c σ).written c + (s'.arenas.length - σ.arenas.length) * c.perArena := by
  obtain ⟨i, k, σ, e1, e2, _, _, _, e6⟩ := restore_exact hc hG h
  have hw := written_mkCkpt hc (ckptRestore_spec hc hG h).1.inv0
  refine ⟨hw, ?_⟩
  intro i' σ'' hs hl
  obtain ⟨k'', hl⟩ := hl
  have : i' = i := sorted_index_unique hG.sorted hl e1
  subst this
  rw [e2] at hs; simp at hs; subst hs
  have hσ := hG.snaps σ (List.mem_of_getElem? e2)
  rw [hw, written_mkCkpt hc hσ.1, e6.full]

/-- operations allowed between the checkpoint and the restore in `restore_take`: everything except
fossil collection and restores to targets below the checkpoint (both remove it from the log) -/
def keeps (ref : Nat) : Op → Bool
  | .fossil _ => false
  | .restore x => decide (ref ≤ x)
  | _ => true

/-- the checkpoint with `ref_i = ref` taken in state `σ` is still logged -/
def Tracks (g : GS) (ref : Nat) (σ : MM) : Prop :=
  ∃ (i : Nat) (k : Ckpt), g.s.logs[i]? = some (ref, k) ∧ g.snaps[i]? = some σ

theorem tracks_step {c : Cfg} (hc : c.ok) {g g' : GS} (hG : GInv c g) {ref : Nat} {σ : MM}
    (ht : Tracks g ref σ) {op : Op} {r : Ret} (hk : keeps ref op = true) (h : gstep c g op = some (g', r)) :
    Tracks g' ref σ := by
  obtain ⟨i, k, t1, t2⟩ := ht
  obtain ⟨h1, hT, hR, -, hU⟩ := gstep_some h
  by_cases hu : op.isUser = true
  · exact ⟨i, k, by rw [step_user_logs hc hG.inv0 hu h1]; exact t1, by rw [hU hu]; exact t2⟩
  · rcases step_ckpt_cases (Bool.eq_false_iff.2 hu) h1 with ⟨ref', rfl, -, e⟩ | ⟨x, q, rfl, hr⟩ | ⟨x, q, rfl, -⟩
    · have hi1 := (List.getElem?_eq_some_iff.1 t1).1
      have hi2 := (List.getElem?_eq_some_iff.1 t2).1
      exact ⟨i, k, by rw [e, ckptTake]; simp only; rw [List.getElem?_append_left hi1]; exact t1,
        by rw [hT _ rfl, List.getElem?_append_left hi2]; exact t2⟩
    · -- a restore to a target `≥ ref` keeps the log entry `i` and everything before it
      obtain ⟨i', k', σ', q1, q2, q3, q4, q5, q6⟩ := restore_exact hc hG hr
      have hle : i < i' + 1 := Nat.lt_succ_of_le (Nat.le_of_not_lt fun hlt =>
        absurd (q4 i _ hlt t1) (Nat.not_lt.2 (of_decide_eq_true hk)))
      have hlen : g'.s.logs.length = i' + 1 := by
        rw [q5, List.length_take, Nat.min_eq_left (Nat.succ_le_of_lt (List.getElem?_eq_some_iff.1 q1).1)]
      exact ⟨i, k, by rw [q5, List.getElem?_take, if_pos hle]; exact t1,
        by rw [hR _ rfl, hlen, List.getElem?_take, if_pos hle]; exact t2⟩
    · cases hk

/-- **`restore_take`**: take a checkpoint `ref` in any reachable state `s`; then run ANY sequence of
malloc / calloc / realloc / free / stores, further takes, and restores to targets `≥ ref` (arenas may
be created at any position); then restore to any target for which the scan returns `ref`: the state
equals `s` — every live block, every byte of every live block, the tree of every arena of `s`, and
`full_ckpt_size` (plus the header size of each arena created meanwhile, which is back in its initial
state). -/
theorem restore_take {c : Cfg} (hc : c.ok) {s s0 : MM} (hI : Inv c s) {ref : Nat}
    (h0 : step c s (.take ref) = some (s0, .ok)) {ops : List Op} (hk : ∀ op ∈ ops, keeps ref op = true)
    {s1 : MM} (hrun : run c s0 ops = some s1) {x : Nat} {s' : MM}
    (hres : ckptRestore c s1 x = some (s', ref)) : SameAsSnapshot c s s' := by
  obtain ⟨snaps, hG⟩ := hI
  -- ghost state right after the take: the new log entry and the snapshot `s` have the same index
  obtain ⟨sn0, hg0⟩ := gstep_of_step (g := ⟨s, snaps⟩) h0
  have hG0 := hG.step hc hg0
  have hsn0 : sn0 = snaps ++ [s] := (gstep_some hg0).2.1 _ rfl
  have hlogs0 : s0.logs = s.logs ++ [(ref, mkCkpt c s)] := by
    rcases step_ckpt_cases rfl h0 with ⟨_, e, -, rfl⟩ | ⟨_, _, e, -⟩ | ⟨_, _, e, -⟩ <;> cases e
    rfl
  have hlen : snaps.length = s.logs.length := by simpa using (congrArg List.length hG.cks).symm
  have ht0 : Tracks ⟨s0, sn0⟩ ref s :=
    ⟨s.logs.length, mkCkpt c s, by simp [hlogs0], by simp [hsn0, ← hlen]⟩
  obtain ⟨sn1, hgr⟩ := grun_of_run (g := ⟨s0, sn0⟩) hrun
  obtain ⟨hG1, ⟨i, k, t1, t2⟩⟩ := grun_induction (P := fun g => GInv c g ∧ Tracks g ref s)
    (fun op ho _ _ _ hP h => ⟨hP.1.step hc h, tracks_step hc hP.1 hP.2 (hk op ho) h⟩) ⟨hG0, ht0⟩ hgr
  obtain ⟨i', k', σ', q1, q2, _, _, _, q6⟩ := restore_exact hc hG1 hres
  obtain rfl : i' = i := sorted_index_unique hG1.sorted q1 t1
  obtain rfl : σ' = s := Option.some.inj (q2.symm.trans t2)
  exact q6

/-! ## non-vacuity -/

def cTiny : Cfg := ⟨3, 1, 5, 16, fun i o => i + o, false⟩
theorem cTiny_ok : cTiny.ok := ⟨by decide, by decide⟩

/-- checkpoint with two live blocks; afterwards: overwrite, free, allocate into a NEW arena that is
inserted BEFORE the old one, take another checkpoint, restore between the two -/
def before : List Op := [.malloc 3 0, .malloc 2 0, .write ⟨0, 0⟩ 0 [11, 12, 13]]
def after : List Op :=
  [.write ⟨0, 0⟩ 1 [7, 9], .free (some ⟨0, 4⟩), .malloc 8 0, .take 9, .malloc 1 0, .restore 12]

example : ((run cTiny (MM.init cTiny) (before ++ [.take 5] ++ after)).bind fun s =>
    (ckptRestore cTiny s 7).map fun r => (r.2, r.1.live cTiny, r.1.arenas.map (·.id), r.1.full)) =
    some (5, [(0, 0, 2), (0, 4, 1)], [1, 0], 16 + 5 + 5 + 4 + 2) := by decide +kernel

example : ∀ op ∈ after, keeps 5 op = true := by decide

end RootSim.C05.Alloc
