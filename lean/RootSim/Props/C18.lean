import RootSim.Proofs.RandApi
import RootSim.Proofs.Xxtea
import RootSim.Proofs.Xoshiro
/-!
# C18 — numerical library contracts hold for every generator state
(and the RNG facts needed by C09: the stream of an LP is a function of seed and LP id only)

Quantifiers: every raw generator output `u < 2^64` (no sampling), every generator state, every
argument in the stated domain.  `randomBits` is `Random()` of the pinned tree, `randomBitsFixed`
the one of the tree with `repo_patches/random_shift_ub.diff`; the derived functions are proved
for every bits function `f` with `GoodBits f` (both are), "defined" needs `Total f` (only the
patched one is: finding F3).  Floating point: `Random() * n`, `1 - Random()`, `x * y` are computed
by a concrete round-to-nearest-even (`rneNat`), `floor`/casts are exact; `log`/`pow` are
parameters constrained by `LibmLaws` only.
-/
namespace RootSim.C18
open RootSim RootSim.Rand RootSim.Float

/-! ## `Random()` -/

/-- raw output 0 gives `0.0` -/
theorem random_zero : randomBits 0 = .ok 0 ∧ randomBitsFixed 0 = .ok 0 ∧ decodeDouble 0 = .fin 0 0 :=
  ⟨rfl, rfl, decode_zero⟩

/-- the exponent field `959 + log2 u` of the pattern of `Random()` (either tree) is the
`1023 - lzs` of the C code and at most 1022; with `mantOf_lt` these are the hypotheses of `fields` -/
theorem expField_le {u : Nat} (h0 : u ≠ 0) (h64 : u < 2 ^ 64) :
    1023 - (clz64 u + 1) = 959 + Nat.log2 u ∧ 959 + Nat.log2 u ≤ 1022 :=
  have hL := log2_lt_64 h0 h64
  ⟨expField_eq hL, Nat.add_le_add_left (Nat.le_of_lt_succ hL) 959⟩

/-- **Bit pattern of `Random()` for every raw output `u ≥ 2`** (pinned tree): defined, sign 0,
biased exponent `1023 - (clz u + 1) ∈ [960, 1022]`, mantissa = the 52 bits below the leading one. -/
theorem random_bits (u : Nat) (h2 : 2 ≤ u) (h64 : u < 2 ^ 64) :
    ∃ b, randomBits u = .ok b ∧
      b / 2 ^ 63 % 2 = 0 ∧
      b / 2 ^ 52 % 2 ^ 11 = 1023 - (clz64 u + 1) ∧
      960 ≤ 1023 - (clz64 u + 1) ∧ 1023 - (clz64 u + 1) ≤ 1022 ∧
      b % 2 ^ 52 = mantOf u ∧ mantOf u < 2 ^ 52 := by
  have h0 : u ≠ 0 := by omega
  have hm := mantOf_lt h0 h64
  obtain ⟨e, he⟩ := expField_le h0 h64
  obtain ⟨f1, f2, f3⟩ := fields _ _ (Nat.lt_of_le_of_lt he (by decide)) hm
  rw [e]
  exact ⟨_, randomBits_eq h2 h64, f1, f2, Nat.add_le_add_left (log2_pos h2) 959, he, f3, hm⟩

theorem leFin_of_nat {a s b t : Nat} (h : a * 2 ^ t ≤ b * 2 ^ s) : FVal.leFin (a : Int) s (b : Int) t := by
  unfold FVal.leFin
  exact_mod_cast h

/-- **Value of `Random()` for `u ≥ 2`**: `(2^52 + mantissa) / 2^(116 - log2 u)`, which lies in
`[2^-63, 1 - 2^-53] ⊂ [0, 1)`. -/
theorem random_value (u : Nat) (h2 : 2 ≤ u) (h64 : u < 2 ^ 64) :
    ∃ b, randomBits u = .ok b ∧
      decodeDouble b = .fin ((2 ^ 52 + mantOf u : Nat) : Int) (116 - Nat.log2 u) ∧
      FVal.leFin 1 63 ((2 ^ 52 + mantOf u : Nat) : Int) (116 - Nat.log2 u) ∧
      FVal.leFin ((2 ^ 52 + mantOf u : Nat) : Int) (116 - Nat.log2 u) (2 ^ 53 - 1) 53 ∧
      InUnitHalfOpen (decodeDouble b) := by
  have h0 : u ≠ 0 := by omega
  have hL := log2_lt_64 h0 h64
  have hL1 := log2_pos h2
  have hm := mantOf_lt h0 h64
  have hd := decode_pattern h0 h64
  refine ⟨_, randomBits_eq h2 h64, hd, ?_, ?_, inUnit_of_randVal (randVal_pattern h0 h64)⟩
  · -- 2^-63 ≤ m / 2^s  ⇔  2^s ≤ m * 2^63, and `s ≤ 115 = 52 + 63`
    have h : 1 * 2 ^ (116 - Nat.log2 u) ≤ (2 ^ 52 + mantOf u) * 2 ^ 63 := by
      rw [Nat.one_mul]
      refine Nat.le_trans (Nat.pow_le_pow_right (by decide)
        (show _ ≤ 52 + 63 from Nat.sub_le_of_le_add (Nat.add_le_add_left hL1 115))) ?_
      rw [Nat.pow_add]
      exact Nat.mul_le_mul_right _ (Nat.le_add_right _ _)
    exact leFin_of_nat h
  · -- m / 2^s ≤ (2^53 - 1) / 2^53  ⇔  m * 2^53 ≤ (2^53 - 1) * 2^s, and `m < 2^53`, `53 ≤ s`
    have h : (2 ^ 52 + mantOf u) * 2 ^ 53 ≤ (2 ^ 53 - 1) * 2 ^ (116 - Nat.log2 u) :=
      Nat.mul_le_mul (Nat.le_sub_one_of_lt (Nat.add_lt_add_left hm (2 ^ 52)))
        (Nat.pow_le_pow_right (by decide)
          (Nat.le_sub_of_add_le (Nat.add_le_add_left (Nat.le_of_lt_succ hL) 53)))
    exact leFin_of_nat h

/-- **Monotone** in `u` among outputs with the same leading-one position. -/
theorem random_monotone (u u' : Nat) (h2 : 2 ≤ u) (huu : u ≤ u') (h64 : u' < 2 ^ 64)
    (hl : Nat.log2 u = Nat.log2 u') :
    ∃ b b', randomBits u = .ok b ∧ randomBits u' = .ok b' ∧ b ≤ b' := by
  refine ⟨_, _, randomBits_eq h2 (Nat.lt_of_le_of_lt huu h64), randomBits_eq (Nat.le_trans h2 huu) h64, ?_⟩
  rw [hl]
  apply Nat.add_le_add_left
  unfold mantOf
  simp only
  rw [hl]
  split
  · exact Nat.mul_le_mul_right _ (Nat.sub_le_sub_right huu _)
  · exact Nat.div_le_div_right (Nat.sub_le_sub_right huu _)

/-- **F3: `Random()` is undefined for raw output 1** (`u_val <<= 64` on a 64-bit type). -/
theorem random_ub_witness : randomBits 1 = .error .shiftWidth := rfl

/-- F3 at the level of generator states: a well-formed state on which `Random()` is undefined.
(Every raw output is produced by some state: `state[1] = craftS1 u`.) -/
theorem random_ub_state_counterexample :
    (⟨0, craftS1 1, 0, 0⟩ : Rng).WF ∧ random randomBits ⟨0, craftS1 1, 0, 0⟩ = .error .shiftWidth :=
  ⟨by decide, rfl⟩

/-- **Every raw output `u < 2^64` is produced by some generator state** (2^192 of them): the
quantifier "for all raw outputs" is about reachable behaviour. -/
theorem every_raw_output_reachable (u s0 s2 s3 : Nat) (hu : u < 2 ^ 64) :
    (randomU64 ⟨s0, craftS1 u, s2, s3⟩).1 = u :=
  craft_output u s0 s2 s3 hu

/-- F3 for every state whose `state[1]` is `craftS1 1 = 0x7d6c16c16c16c16c` -/
theorem random_ub_states (s0 s2 s3 : Nat) : random randomBits ⟨s0, craftS1 1, s2, s3⟩ = .error .shiftWidth :=
  random_err (by rw [craft_output 1 s0 s2 s3 (by decide)]; rfl)

/-- The full statement of the property for `Random()`, for a given tree. -/
def RandomStatement (f : BitsFn) : Prop :=
  ∀ u, u < 2 ^ 64 → ∃ b, f u = .ok b ∧ InUnitHalfOpen (decodeDouble b)

/-- pinned tree: everything except the one raw output 1 -/
theorem random_partial (u : Nat) (h64 : u < 2 ^ 64) (h1 : u ≠ 1) :
    ∃ b, randomBits u = .ok b ∧ InUnitHalfOpen (decodeDouble b) := by
  obtain ⟨b, hb, hv⟩ := randomBitsFixed_randVal h64
  exact ⟨b, (randomBits_eq_fixed h64 h1).trans hb, inUnit_of_randVal hv⟩

/-- the property is FALSE on the pinned tree … -/
theorem randomStatement_pinned_counterexample : ¬ RandomStatement randomBits := by
  intro h
  obtain ⟨b, hb, _⟩ := h 1 (by decide)
  rw [random_ub_witness] at hb
  cases hb

/-- **… and TRUE after the patch: full theorem for all `u`.** For `u ≥ 1`: exponent field
`959 + log2 u ∈ [959, 1022]`, mantissa as before; `u = 1` gives `2^-64`. -/
theorem randomFixed_bits (u : Nat) (h1 : 1 ≤ u) (h64 : u < 2 ^ 64) :
    ∃ b, randomBitsFixed u = .ok b ∧
      b / 2 ^ 63 % 2 = 0 ∧
      b / 2 ^ 52 % 2 ^ 11 = 1023 - (clz64 u + 1) ∧
      959 ≤ 1023 - (clz64 u + 1) ∧ 1023 - (clz64 u + 1) ≤ 1022 ∧
      b % 2 ^ 52 = mantOf u ∧
      decodeDouble b = .fin ((2 ^ 52 + mantOf u : Nat) : Int) (116 - Nat.log2 u) := by
  have h0 : u ≠ 0 := by omega
  obtain ⟨e, he⟩ := expField_le h0 h64
  obtain ⟨f1, f2, f3⟩ := fields _ _ (Nat.lt_of_le_of_lt he (by decide)) (mantOf_lt h0 h64)
  rw [e]
  exact ⟨_, randomBitsFixed_eq h1 h64, f1, f2, Nat.le_add_right _ _, he, f3, decode_pattern h0 h64⟩

theorem randomStatement_fixed : RandomStatement randomBitsFixed := by
  intro u h64
  obtain ⟨b, hb, hv⟩ := randomBitsFixed_randVal h64
  exact ⟨b, hb, inUnit_of_randVal hv⟩

/-- the patch changes the result for no raw output other than 1, where it yields `2^-64` -/
theorem randomFixed_agrees (u : Nat) (h64 : u < 2 ^ 64) (h1 : u ≠ 1) : randomBitsFixed u = randomBits u :=
  (randomBits_eq_fixed h64 h1).symm

theorem randomFixed_one : randomBitsFixed 1 = .ok (959 * 2 ^ 52) ∧ decodeDouble (959 * 2 ^ 52) = .fin (2 ^ 52) 116 :=
  ⟨rfl, by decide⟩

/-! ## Each call advances only the caller's generator, by a fixed number of raw draws -/

/-- API functions have the type `Rng → Except UB (α × Rng)`; run as LP `i` they leave every other
LP's generator untouched, use no other generator, and return the caller's new generator. -/
theorem call_touches_only_caller {α : Type} (f : Rng → Except UB (α × Rng)) (i : Nat) (w : World)
    (a : α) (w' : World) (h : callAs f i w = .ok (a, w')) :
    (∀ j, j ≠ i → w' j = w j) ∧ f (w i) = .ok (a, w' i) :=
  ⟨callAs_other f i w a w' h, callAs_self f i w a w' h⟩

theorem call_depends_only_on_caller {α : Type} (f : Rng → Except UB (α × Rng)) (i : Nat) (w1 w2 : World)
    (h : w1 i = w2 i) : (callAs f i w1).map Prod.fst = (callAs f i w2).map Prod.fst :=
  callAs_congr f i w1 w2 h

/-- `RandomU64` and `Random`: exactly one raw draw -/
theorem random_draws (f : BitsFn) (hf : GoodBits f) (g : Rng) :
    (randomU64 g).2 = advance 1 g ∧
    ((∃ r, random f g = .ok (r, advance 1 g) ∧ InUnitHalfOpen r) ∨ (∃ e, random f g = .error e)) := by
  refine ⟨rfl, ?_⟩
  rcases (random_ret hf g).cases_eq with ⟨r, h, hr⟩ | h
  · exact .inl ⟨r, h, inUnit_of_randVal hr⟩
  · exact .inr h

/-! ## `RandomRange` -/

/-- **`RandomRange(min, max) ∈ [min, max]`, one raw draw**, for `min ≤ max` and
`max - min + 1 ≤ INT_MAX` (the `int` expression `max - min + 1` must not overflow). Exact: the
rounding of `Random() * (max - min + 1)` is computed, not assumed. Either that, or `Random()`
itself was undefined (possible on the pinned tree only). -/
theorem randomRange_in_range (f : BitsFn) (hf : GoodBits f) (min max : Int) (hp : RangePre min max) (g : Rng) :
    (∃ v, randomRange f min max g = .ok (v, advance 1 g) ∧ min ≤ v ∧ v ≤ max) ∨
    (∃ e, randomRange f min max g = .error e) :=
  (randomRange_ret hf hp g).cases_eq

/-- patched tree: always defined -/
theorem randomRange_fixed (min max : Int) (hp : RangePre min max) (g : Rng) :
    ∃ v, randomRange randomBitsFixed min max g = .ok (v, advance 1 g) ∧ min ≤ v ∧ v ≤ max := by
  obtain ⟨v, d, h, rfl, hv⟩ := (randomRange_ret goodBits_fixed hp g).total total_fixed
  exact ⟨v, h, hv⟩

/-! ## `RandomRangeNonUniform` -/

/-- **In range, two raw draws, either evaluation order**, for `0 ≤ x < INT_MAX`, `0 ≤ min ≤ max`,
`max - min + 1 ≤ INT_MAX` (pinned tree; the domain the test-suite exercises). -/
theorem randomRangeNonUniform_in_range (f : BitsFn) (hf : GoodBits f) (leftFirst : Bool) (x min max : Int)
    (hx : RangePre 0 x) (hp : RangePre min max) (h0 : 0 ≤ min) (g : Rng) :
    (∃ v, randomRangeNonUniform f nonUniformOf leftFirst x min max g = .ok (v, advance 2 g) ∧ min ≤ v ∧ v ≤ max) ∨
    (∃ e, randomRangeNonUniform f nonUniformOf leftFirst x min max g = .error e) :=
  (randomRangeNonUniform_ret hf leftFirst hx hp (combOk_pinned x min max hx hp h0) g).cases_eq

/-- **F12: for a negative `min` the pinned `RandomRangeNonUniform` leaves its range**
(`%` of a negative `int` is negative): `x = 0, min = -5, max = -1`, second raw output `2^63`
(`Random() = 0.5`): `b = -3`, `(0 | -3) % 5 = -3`, result `-8 < min`. -/
theorem randomRangeNonUniform_negative_counterexample :
    randomRangeNonUniform randomBits nonUniformOf true 0 (-5) (-1) ⟨0, craftS1 5, craftS1 5 ^^^ craftS1 (2 ^ 63), 0⟩
      = .ok (-8, advance 2 ⟨0, craftS1 5, craftS1 5 ^^^ craftS1 (2 ^ 63), 0⟩) ∧
    RangePre 0 0 ∧ RangePre (-5) (-1) ∧ ¬ ((-5 : Int) ≤ -8) := by
  refine ⟨by decide +kernel, ⟨by decide, by decide, by decide, by decide⟩, ⟨by decide, by decide, by decide, by decide⟩, by decide⟩

/-- after `repo_patches/random_range_nonuniform_negative.diff`: in range for every `min ≤ max` -/
theorem randomRangeNonUniformFixed_in_range (f : BitsFn) (hf : GoodBits f) (leftFirst : Bool) (x min max : Int)
    (hx : RangePre 0 x) (hp : RangePre min max) (g : Rng) :
    (∃ v, randomRangeNonUniform f nonUniformOfFixed leftFirst x min max g = .ok (v, advance 2 g) ∧ min ≤ v ∧ v ≤ max) ∨
    (∃ e, randomRangeNonUniform f nonUniformOfFixed leftFirst x min max g = .error e) :=
  (randomRangeNonUniform_ret hf leftFirst hx hp (combOk_fixed x min max hp) g).cases_eq

/-- on non-negative draws the patch changes nothing -/
theorem nonUniformOfFixed_agrees (a b min max : Int) (ha : 0 ≤ a) (ha' : a ≤ intMax) (hb : 0 ≤ b)
    (hb' : b ≤ intMax) (hp : RangePre min max) : nonUniformOfFixed a b min max = nonUniformOf a b min max := by
  obtain ⟨e1, e2⟩ := nonUniform_eq hp a b
  have hneg : ¬ (intOr a b).tmod (max - min + 1) < 0 :=
    Int.not_lt.2 (Int.tmod_nonneg _ (intOr_nonneg ha ha' hb hb').1)
  rw [e1, e2, if_neg hneg]
  rfl

/-! ## `Poisson` / `Expent`, `Gamma(ia < 6)` — relative to `LibmLaws` -/

/-- the operand of `log` in `Poisson`: `1 - Random() ∈ [2^-53, 1]`, exactly -/
theorem oneMinus_random_range (r : FVal) (hr : RandVal r) :
    ∃ m s : Nat, oneMinus r = .fin (m : Int) s ∧ m ≤ 2 ^ s ∧ 2 ^ s ≤ m * 2 ^ 53 := by
  obtain ⟨m, s, h, _, h1, h2⟩ := oneMinus_unit r hr
  exact ⟨m, s, h, h1, h2⟩

/-- **`Poisson()` is finite and in `[0, 53]`, one raw draw** -/
theorem poisson_nonneg_finite (f : BitsFn) (hf : GoodBits f) (L : Libm) (hL : LibmLaws L) (g : Rng) :
    (∃ v, poisson f L g = .ok (v, advance 1 g) ∧ FinBetween0 53 v ∧ FVal.FinNonneg v) ∨
    (∃ e, poisson f L g = .error e) := by
  rcases (poisson_ret hf hL g).cases_eq with ⟨v, h, hv⟩ | h
  · exact .inl ⟨v, h, hv, finNonneg_of_between0 hv⟩
  · exact .inr h

/-- **`Expent(mean)` is finite and non-negative** for `0 ≤ mean ≤ 2^1000` -/
theorem expent_nonneg_finite (f : BitsFn) (hf : GoodBits f) (L : Libm) (hL : LibmLaws L) (mm sm : Nat)
    (hmean : mm ≤ 2 ^ 1000 * 2 ^ sm) (g : Rng) :
    (∃ v, expent f L (.fin (mm : Int) sm) g = .ok (v, advance 1 g) ∧ FVal.FinNonneg v) ∨
    (∃ e, expent f L (.fin (mm : Int) sm) g = .error e) :=
  (expent_ret hf hL mm sm hmean g).cases_eq

/-- **`Gamma(ia)`, `ia < 6`, is finite and in `[0, 53 ia]`, `ia` raw draws** -/
theorem gamma_small_nonneg_finite (f : BitsFn) (hf : GoodBits f) (L : Libm) (hL : LibmLaws L) (ia : Nat)
    (hia : ia < 6) (g : Rng) :
    (∃ v, gammaSmall f L ia g = some (.ok (v, advance ia g)) ∧ FinBetween0 (53 * ia) v ∧ FVal.FinNonneg v) ∨
    (∃ e, gammaSmall f L ia g = some (.error e)) := by
  obtain ⟨x, hx, hr⟩ := gammaSmall_ret hf hL hia g
  rw [hx]
  rcases hr.cases_eq with ⟨v, rfl, hv⟩ | ⟨e, rfl⟩
  · exact .inl ⟨v, rfl, hv, finNonneg_of_between0 hv⟩
  · exact .inr ⟨e, rfl⟩

/-- Statement for `Gamma` in terms of `gammaSmall` alone (which is `none` for `ia ≥ 6`): only
`gamma_small_nonneg_finite` (`…_partial`) is proved of it.  The rejection branch (`ia ≥ 6`) is
modelled in `Model/RandGamma.lean`; the full clause for every order is
`GammaStatementFull` in `Props/C18Gamma.lean`: proved for the repaired code
(`gamma_statement_fixed`), refuted for the pinned code (finding F14). -/
def GammaStatement : Prop :=
  ∀ (f : BitsFn) (L : Libm) (ia : Nat) (g : Rng), GoodBits f → Total f → LibmLaws L →
    ∃ r, gammaSmall f L ia g = some r ∧ ∀ v g', r = .ok (v, g') → FVal.FinNonneg v

theorem gamma_partial (f : BitsFn) (hf : GoodBits f) (L : Libm) (hL : LibmLaws L) (ia : Nat) (hia : ia < 6)
    (g : Rng) : ∃ r, gammaSmall f L ia g = some r ∧ ∀ v g', r = .ok (v, g') → FVal.FinNonneg v := by
  rcases gamma_small_nonneg_finite f hf L hL ia hia g with ⟨v, h, _, hv⟩ | ⟨e, h⟩
  · exact ⟨_, h, fun v' g' heq => by cases heq; exact hv⟩
  · exact ⟨_, h, fun v g' heq => nomatch heq⟩

/-! ## `Zipf` -/

/-- **`Zipf ∈ [1, limit]` whenever it returns** (any number of loop iterations, any acceptance
test), never an out-of-range `(unsigned)` conversion; `ex = -1/skew - 1` finite negative;
at most two raw draws per iteration. Termination of the loop is NOT claimed. -/
theorem zipf_in_range (f : BitsFn) (hf : GoodBits f) (L : Libm) (hL : LibmLaws L) (e : Int) (t : Nat)
    (he : e < 0) (accept : FVal → FVal → Bool) (limit : Nat) (hlim : limit < 2 ^ 32) (fuel : Nat) (g : Rng) :
    (∃ o d, zipf f L (.fin e t) accept limit fuel g = .ok (o, advance d g) ∧ d ≤ 2 * fuel ∧
        ∀ k, o = some k → 1 ≤ k ∧ k ≤ limit) ∨
    (∃ err, zipf f L (.fin e t) accept limit fuel g = .error err) :=
  (zipf_ret hf hL t he accept hlim fuel g).cases

/-! ## XXTEA and seeding (C09 fragment) -/

/-- **`xxtea_decode(xxtea_encode(v)) = v`** for every block of `n ≥ 2` 32-bit words, every key -/
theorem xxtea_roundtrip (v key : List Nat) (hv : Words v) (w : List Nat) (h : xxteaEncode v key = .ok w) :
    xxteaDecode w key = .ok v := by
  unfold xxteaEncode at h
  split at h
  · rename_i hn
    injection h with h
    subst h
    unfold xxteaDecode
    rw [length_xxteaEncodeCore v key hn, if_pos hn, xxteaDecodeCore_encodeCore v key hn hv]
  · cases h

/-- the contract `n > 1` is modelled, not totalised -/
theorem xxtea_contract (v key : List Nat) (h : v.length ≤ 1) : xxteaEncode v key = .error .xxteaLen := by
  unfold xxteaEncode; rw [if_neg (Nat.not_lt.2 h)]

/-- **C09 fragment: the initial generator state of an LP is a function of (LP id, seed) only**
(`seedState` has no other argument; the harness checks `random_lib_lp_init` against it while
varying thread/rank/config and the previous contents of the context), and so is the whole stream. -/
theorem seed_function_of_lp_and_seed (lp seed : Nat) (k : Nat) :
    ∀ lp' seed', lp' = lp → seed' = seed → advance k (seedState lp' seed') = advance k (seedState lp seed) := by
  intro lp' seed' h1 h2; rw [h1, h2]

/-- `xxtea_decode` of the all-zero block with the seeding key is not of the seeded form
`(a, b, c, d, a, b, c, d)` -/
theorem decode_zero_not_seeded :
    (xxteaDecodeCore [0, 0, 0, 0, 0, 0, 0, 0] seedingKey).getD 0 0 ≠
    (xxteaDecodeCore [0, 0, 0, 0, 0, 0, 0, 0] seedingKey).getD 4 0 := by
  decide +kernel

/-- **No (LP id, seed) pair seeds the all-zero xoshiro state** (its fixed point, on which the
rejection loops of `Normal`, `Gamma`, `Zipf` would spin forever). -/
theorem seed_never_fixed_point (lp seed : Nat) (hl : lp < 2 ^ 64) (hs : seed < 2 ^ 64) :
    xxteaEncodeCore (seedWords lp seed) seedingKey ≠ [0, 0, 0, 0, 0, 0, 0, 0] := by
  intro h
  have hrt := xxteaDecodeCore_encodeCore (seedWords lp seed) seedingKey (by simp [seedWords])
    (seedWords_words lp seed hl hs)
  rw [h] at hrt
  apply decode_zero_not_seeded
  rw [hrt]
  simp [seedWords]

theorem pair_eq_zero {a b : Nat} (h : a + b * 2 ^ 32 = 0) : a = 0 ∧ b = 0 :=
  ⟨(Nat.add_eq_zero_iff.1 h).1,
    (Nat.mul_eq_zero.1 (Nat.add_eq_zero_iff.1 h).2).resolve_right (Nat.ne_of_gt (Nat.two_pow_pos 32))⟩

theorem wordsToRng_eq_zero {w : List Nat} (hlen : w.length = 8) (h : wordsToRng w = ⟨0, 0, 0, 0⟩) :
    w = [0, 0, 0, 0, 0, 0, 0, 0] := by
  match w, hlen with
  | [a, b, c, d, e, f, g, i], _ =>
    injection h with h0 h1 h2 h3
    obtain ⟨rfl, rfl⟩ := pair_eq_zero (a := a) (b := b) h0
    obtain ⟨rfl, rfl⟩ := pair_eq_zero (a := c) (b := d) h1
    obtain ⟨rfl, rfl⟩ := pair_eq_zero (a := e) (b := f) h2
    obtain ⟨rfl, rfl⟩ := pair_eq_zero (a := g) (b := i) h3
    rfl

/-- the same, on the generator state that `random_lib_lp_init` produces -/
theorem seedState_ne_zero (lp seed : Nat) (hl : lp < 2 ^ 64) (hs : seed < 2 ^ 64) :
    seedState lp seed ≠ ⟨0, 0, 0, 0⟩ := fun h =>
  seed_never_fixed_point lp seed hl hs
    (wordsToRng_eq_zero (length_xxteaEncodeCore (seedWords lp seed) seedingKey (show 2 ≤ 8 by decide)) h)

/-! ## Non-vacuity: the hypotheses are satisfiable by concrete, non-trivial objects -/

example : GoodBits randomBits ∧ GoodBits randomBitsFixed ∧ Total randomBitsFixed :=
  ⟨goodBits_pinned, goodBits_fixed, total_fixed⟩
example : RangePre (-5) 7 ∧ RangePre 0 2147483646 ∧ RangePre (-2147483648) (-2) :=
  ⟨⟨by decide, by decide, by decide, by decide⟩, ⟨by decide, by decide, by decide, by decide⟩,
   ⟨by decide, by decide, by decide, by decide⟩⟩
example : randomBits 3 = .ok 0x3c08000000000000 := rfl
example : randomBits (2 ^ 64 - 1) = .ok 0x3fefffffffffffff := rfl
example : Nat.log2 6 = Nat.log2 7 ∧ (2 : Nat) ≤ 6 := by decide
example : (seedState 0 0).WF ∧ seedState 0 0 ≠ ⟨0, 0, 0, 0⟩ := by decide +kernel
example : Words (seedWords 5 (2 ^ 64 - 1)) := seedWords_words _ _ (by decide) (by decide)

/-- a (crude but lawful) libm: `log x = ⌊log2 x⌋`, `pow x y = 1` on `(0,1)` and `+inf` at 0 -/
def toyLibm : Libm where
  log := fun v => match v with
    | .fin m s => if m ≤ 0 then .inf true else .fin ((bitlen m.toNat : Int) - 1 - s) 0
    | v => v
  pow := fun x _ => match x with
    | .fin m _ => if m = 0 then .inf false else .fin 1 0
    | v => v
  -- `sqrt x = 2^⌊⌊log2 x⌋ / 2⌋` for `x ≥ 1`, `exp x = 1` (used by the rejection branch of `Gamma`
  -- only: `Props/C18Gamma.lean` proves that they satisfy `LibmLaws2`)
  sqrt := fun v => match v with
    | .fin m s => if m ≤ 0 then .fin 0 0 else .fin ((2 : Int) ^ ((bitlen m.toNat - 1 - s) / 2)) 0
    | v => v
  exp := fun v => match v with
    | .nan => .nan
    | _ => .fin 1 0

theorem toyLibm_laws : LibmLaws toyLibm where
  log_unit := by
    intro m s k h1 h2
    have hm0 := ne_zero_of_pow_le_mul h2
    have hbs : bitlen m - 1 ≤ s :=
      (Nat.pow_le_pow_iff_right (by decide)).1 (Nat.le_trans (pow_bitlen_le hm0) h1)
    have hsk := lt_bitlen_add h2
    have hb1 := bitlen_pos hm0
    clear h1 h2
    refine ⟨(bitlen m : Int) - 1 - s, 0, ?_, by omega, by omega⟩
    show (if (m : Int) ≤ 0 then FVal.inf true
      else FVal.fin ((bitlen (m : Int).toNat : Int) - 1 - s) 0) = _
    rw [if_neg (Int.not_le.2 (Int.natCast_pos.2 (Nat.pos_of_ne_zero hm0))), Int.toNat_natCast]
  pow_unit_neg := by
    intro m s e t hm _ _
    refine .inr ⟨1, 0, ?_, Nat.le_refl _⟩
    show (if (m : Int) = 0 then FVal.inf false else FVal.fin 1 0) = _
    rw [if_neg (Int.natCast_ne_zero.2 (Nat.ne_of_gt hm))]
    rfl
  pow_zero_neg := fun _ _ _ _ => rfl

end RootSim.C18
