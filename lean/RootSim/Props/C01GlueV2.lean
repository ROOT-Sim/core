import RootSim.Proofs.TimeWarpGProj
import RootSim.Props.C01Glue
/-!
# Time Warp equals the sequential execution under the runtime's REAL model contract V2 (non-strict causality)

`Props/C01Glue.lean` proves the end-to-end theorems of the abstract global Time Warp machine under
`Spec.V2s` (every scheduled event is STRICTLY after its cause). The runtime only demands `Spec.V2`
(`SimModel.validStep`: no scheduled event is BEFORE its cause): an event may schedule a simultaneous event of
identical content for another LP (zero-delay unchanged forward). This file settles that case.

**Result 1 (refutation).** For the CONTENT-LEVEL machine of `Model/TimeWarp.lean` the statements are FALSE
under V2 (`tw_V2_counterexample`, `*_contentLevel_refuted`): that machine lets an anti-message meet ANY
message of equal content; under V2 a DESCENDANT of a message can have the content of the message; cancelling
the descendant instead of the message leaves a cycle of processed events that justify each other. The
invariant (I1, I2) and `Spec.Hist` still hold there (`contentLevel_invariant_V2`, `contentLevel_hist_V2`):
the failure is exactly the insufficiency of `Hist` shown by `PrefixUnique.v2_only_counterexample`,
REACHED by a machine. It is an artefact of the abstraction, not of the code: `src/lp/process.c` matches an
anti-message with its message by pointer or by `(m_id, m_seq)`.

**Result 2 (theorems).** For the machine instrumented with a ghost creation order (`Model/TimeWarpG.lean`:
messages carry the step of the invocation that created them, an anti-message meets only a message with the
same content AND creation step — still coarser than the code's identities) the theorems of
`Props/C01Glue.lean` (all but `tw_quiescent_prefix_of_sequential`, which has no counterpart here) hold under V2 alone, with the same conclusions, for every model, every number of LPs,
every reachable state, every lower bound `g`: `reachable_hist_V2`, `tw_prefix_of_sequential_V2`,
`tw_equals_sequential_V2`, `tw_committed_prefix_of_sequential_V2`, `tw_sequential_run_exists_V2`,
`tw_quiescent_*_V2`, `tw_schedule_independent_V2`, `tw_committed_monotone_V2`. NO progress / finiteness
hypothesis on the model is needed: the theorems speak about states with a lower bound `g` of everything
pending, whose histories are finite; a model with an infinite zero-delay cascade (`Spec.echo`) simply never
reaches a lower bound beyond the cascade — neither optimistically nor sequentially.
The instrumented machine is a restriction of the content-level one (`twg_refines_contentLevel`), and under
V2s the two satisfy the same theorems.

The ingredient that `Hist` lacks is `Spec.Progress` (`Proofs/SpecV2.lean`), obtained from the ghost order
(`reachable_progress_V2`): every processed entry was created before it was processed, and the entries of an
LP stand in processing order — so "was sent by" is well founded on the not-undone entries.
-/
namespace RootSim.C01GlueV2
open RootSim RootSim.Spec RootSim.TWG

variable {σ : Type} {M : SimModel σ} {s s' : TWGState} {g g' : Nat}

/-! ### The instrumented machine under V2 -/

/-- **The invariant under V2.** (I1) well-formed sorted histories; (I2) `pending + processed = sent + anti`
for every TAGGED message (content + creation step); (G) the ghost order: processed entries were created
before they were processed, the entries of an LP stand in processing order, everything pending was created
in the past, everything processed was processed in the past. -/
theorem reachable_invariant_V2 (V : V2 M) (hr : TWG.Reachable M s) :
    (∀ ℓ, ℓ < M.nLps → (histOf s ℓ).head? = some (initEv ℓ) ∧
      (∀ e ∈ (histOf s ℓ).tail, e.dest = ℓ ∧ e.type < LP_INIT) ∧
      (histOf s ℓ).tail.Pairwise (fun a b => Event.before b a = false)) ∧
    (∀ ℓ, M.nLps ≤ ℓ → s.past ℓ = []) ∧
    (∀ x ∈ s.pending ++ s.antis, x.ev.dest < M.nLps ∧ x.ev.type < LP_INIT) ∧
    (∀ x : TMsg,
      s.pending.count x +
          ((List.range M.nLps).flatMap (fun ℓ => (s.past ℓ).tail.map TEntry.msg)).count x =
        (toutsAll M s.past).count x + s.antis.count x) ∧
    (∀ ℓ, ∀ u ∈ (s.past ℓ).tail, u.cr < u.pr) ∧
    (∀ ℓ, (s.past ℓ).Pairwise (fun a b => a.pr < b.pr)) ∧
    (∀ x ∈ s.pending, x.cr < s.now) ∧ (∀ ℓ, ∀ u ∈ s.past ℓ, u.pr < s.now) := by
  have I := reachable_ginv V hr
  have J := I.toInv
  exact ⟨fun ℓ hℓ => ⟨J.head ℓ hℓ, J.dest ℓ hℓ, J.sorted ℓ hℓ⟩, I.out,
    List.forall_mem_append.mpr ⟨I.pendOk, I.antiOk⟩, I.cnt, I.crLt, I.prInc, I.pendCr, I.prLt⟩

/-- **Glue (E) under V2, first half**: H1–H3 at every lower bound `g` of what is pending. -/
theorem reachable_hist_V2 (V : V2 M) (hr : TWG.Reachable M s)
    (hp : ∀ x ∈ s.pending, g ≤ x.ev.t) (ha : ∀ x ∈ s.antis, g ≤ x.ev.t) :
    Spec.Hist M (histOf s) g :=
  (reachable_ginv V hr).hist hp ha

/-- **Glue (E) under V2, second half** — what `Hist` cannot give: a sequential run that has followed the
histories so far can always continue along them (some minimal not-yet-dispatched event is pending). -/
theorem reachable_progress_V2 (V : V2 M) (hr : TWG.Reachable M s)
    (hp : ∀ x ∈ s.pending, g ≤ x.ev.t) (ha : ∀ x ∈ s.antis, g ≤ x.ev.t) :
    Spec.Progress M (histOf s) g :=
  (reachable_ginv V hr).progress V hp ha

/-- … so the sequential runs can follow the histories below `g` -/
theorem reachable_followable_V2 (V : V2 M) (hr : TWG.Reachable M s)
    (hp : ∀ x ∈ s.pending, g ≤ x.ev.t) (ha : ∀ x ∈ s.antis, g ≤ x.ev.t) : Followable M (histOf s) g :=
  .of_V2 (reachable_hist_V2 V hr hp ha) V (reachable_progress_V2 V hr hp ha)

theorem quiescent_followable_V2 (V : V2 M) (hr : TWG.Reachable M s) (hp : s.pending = [])
    (ha : s.antis = []) (g : Nat) : Followable M (histOf s) g :=
  reachable_followable_V2 V hr (forall_mem_nil hp _) (forall_mem_nil ha _)

/-- below `g`, what ANY sequential run has dispatched to an LP is a prefix of what the optimistic LP
has processed and not undone -/
theorem tw_prefix_of_sequential_V2 (V : V2 M) (hr : TWG.Reachable M s)
    (hp : ∀ x ∈ s.pending, g ≤ x.ev.t) (ha : ∀ x ∈ s.antis, g ≤ x.ev.t)
    {q : SeqState σ} (hq : Spec.Reachable M q) {ℓ : Nat} (hℓ : ℓ < M.nLps) :
    (q.disp ℓ).filter (below g) <+: (histOf s ℓ).filter (below g) :=
  ((reachable_followable_V2 V hr hp ha).prefix_unique hq hℓ).1

/-- **`tw_equals_sequential` under V2.** Once the sequential run has nothing below `g` pending, the two
sequences below `g` are EQUAL, and so are the LP states they produce. -/
theorem tw_equals_sequential_V2 (V : V2 M) (hr : TWG.Reachable M s)
    (hp : ∀ x ∈ s.pending, g ≤ x.ev.t) (ha : ∀ x ∈ s.antis, g ≤ x.ev.t)
    {q : SeqState σ} (hq : Spec.Reachable M q) (hl : ∀ x ∈ q.pending, g ≤ x.t)
    {ℓ : Nat} (hℓ : ℓ < M.nLps) :
    (q.disp ℓ).filter (below g) = (histOf s ℓ).filter (below g) ∧
    lpState M ℓ ((q.disp ℓ).filter (below g)) = lpState M ℓ ((histOf s ℓ).filter (below g)) :=
  and_lpState_eq (((reachable_followable_V2 V hr hp ha).prefix_unique hq hℓ).2 hl)

/-- the committed part of an optimistic history is a prefix of the history itself and of the dispatch
sequence of every sequential run that has passed `g` -/
theorem tw_committed_prefix_of_sequential_V2 (V : V2 M) (hr : TWG.Reachable M s)
    (hp : ∀ x ∈ s.pending, g ≤ x.ev.t) (ha : ∀ x ∈ s.antis, g ≤ x.ev.t)
    {q : SeqState σ} (hq : Spec.Reachable M q) (hl : ∀ x ∈ q.pending, g ≤ x.t)
    {ℓ : Nat} (hℓ : ℓ < M.nLps) :
    (histOf s ℓ).filter (below g) <+: histOf s ℓ ∧ (histOf s ℓ).filter (below g) <+: q.disp ℓ :=
  have F := reachable_followable_V2 V hr hp ha
  ⟨PrefixUnique.hist_below_prefix F.hist hℓ g, (F.phase2 hq hl).filter_prefix F.hist hℓ⟩

/-- the equality case is never vacuous: some sequential run does execute everything below `g` -/
theorem tw_sequential_run_exists_V2 (V : V2 M) (hr : TWG.Reachable M s)
    (hp : ∀ x ∈ s.pending, g ≤ x.ev.t) (ha : ∀ x ∈ s.antis, g ≤ x.ev.t) :
    ∃ q, Spec.Reachable M q ∧ ∀ x ∈ q.pending, g ≤ x.t := by
  obtain ⟨q, hq, _, hl⟩ := (reachable_followable_V2 V hr hp ha).exists_run
  exact ⟨q, hq, hl⟩

/-- **C01 "whatever the interleaving" under V2**: in a reachable state with nothing pending and no
anti-message the statement holds for EVERY `g` … -/
theorem tw_quiescent_equals_sequential_V2 (V : V2 M) (hr : TWG.Reachable M s)
    (hp : s.pending = []) (ha : s.antis = []) (g : Nat)
    {q : SeqState σ} (hq : Spec.Reachable M q) {ℓ : Nat} (hℓ : ℓ < M.nLps) :
    (q.disp ℓ).filter (below g) <+: (histOf s ℓ).filter (below g) ∧
    ((∀ x ∈ q.pending, g ≤ x.t) →
      (q.disp ℓ).filter (below g) = (histOf s ℓ).filter (below g) ∧
      lpState M ℓ ((q.disp ℓ).filter (below g)) = lpState M ℓ ((histOf s ℓ).filter (below g))) :=
  have h := (quiescent_followable_V2 V hr hp ha g).prefix_unique hq hℓ
  ⟨h.1, fun hl => and_lpState_eq (h.2 hl)⟩

/-- **`tw_quiescent_final` under V2.** Every FINISHED sequential run (nothing pending at all) has
dispatched exactly the optimistic histories and ended in exactly the LP states that are the folds of the
handler over them. -/
theorem tw_quiescent_final_V2 (V : V2 M) (hr : TWG.Reachable M s)
    (hp : s.pending = []) (ha : s.antis = [])
    {q : SeqState σ} (hq : Spec.Reachable M q) (hqp : q.pending = []) {ℓ : Nat} (hℓ : ℓ < M.nLps) :
    q.disp ℓ = histOf s ℓ ∧ q.st ℓ = lpState M ℓ (histOf s ℓ) :=
  PrefixUnique.disp_and_state hq (C01Glue.eq_of_filter_below fun g =>
    ((tw_quiescent_equals_sequential_V2 V hr hp ha g hq hℓ).2 (forall_mem_nil hqp _)).1)

/-- a quiescent optimistic state IS a final state of some run of the sequential executor
(so `tw_quiescent_final_V2` is not vacuous) -/
theorem tw_quiescent_is_sequential_V2 (V : V2 M) (hr : TWG.Reachable M s)
    (hp : s.pending = []) (ha : s.antis = []) :
    ∃ q, Spec.Reachable M q ∧ q.pending = [] ∧
      ∀ ℓ, ℓ < M.nLps → q.disp ℓ = histOf s ℓ ∧ q.st ℓ = lpState M ℓ (histOf s ℓ) := by
  obtain ⟨q, hq, hqp, hd⟩ := (reachable_ginv V hr).quiescent_sequential V hp ha
  exact ⟨q, hq, hqp, fun ℓ hℓ => PrefixUnique.disp_and_state hq (hd ℓ hℓ)⟩

/-- **`tw_schedule_independent` under V2 (C09 at protocol level).** Two reachable states (different
schedules, rollback patterns, annihilation orders …) with the same lower bound `g` have, LP by LP, the same
history below `g` and the same committed LP state. -/
theorem tw_schedule_independent_V2 (V : V2 M) (hr : TWG.Reachable M s) (hr' : TWG.Reachable M s')
    (hp : ∀ x ∈ s.pending, g ≤ x.ev.t) (ha : ∀ x ∈ s.antis, g ≤ x.ev.t)
    (hp' : ∀ x ∈ s'.pending, g ≤ x.ev.t) (ha' : ∀ x ∈ s'.antis, g ≤ x.ev.t)
    {ℓ : Nat} (hℓ : ℓ < M.nLps) :
    (histOf s ℓ).filter (below g) = (histOf s' ℓ).filter (below g) ∧
    lpState M ℓ ((histOf s ℓ).filter (below g)) = lpState M ℓ ((histOf s' ℓ).filter (below g)) :=
  and_lpState_eq ((reachable_followable_V2 V hr hp ha).history_unique
    (reachable_followable_V2 V hr' hp' ha') hℓ)

/-- **C03 at protocol level under V2.** What is committed at a lower bound `g'` in one reachable state is a
prefix of what is committed at any larger lower bound `g` in any other reachable state. -/
theorem tw_committed_monotone_V2 (V : V2 M) (hr : TWG.Reachable M s) (hr' : TWG.Reachable M s')
    (hgg : g' ≤ g)
    (hp : ∀ x ∈ s.pending, g' ≤ x.ev.t) (ha : ∀ x ∈ s.antis, g' ≤ x.ev.t)
    (hp' : ∀ x ∈ s'.pending, g ≤ x.ev.t) (ha' : ∀ x ∈ s'.antis, g ≤ x.ev.t)
    {ℓ : Nat} (hℓ : ℓ < M.nLps) :
    (histOf s ℓ).filter (below g') <+: (histOf s' ℓ).filter (below g) :=
  Followable.committed_prefix hgg (reachable_followable_V2 V hr hp ha)
    (reachable_followable_V2 V hr' hp' ha') hℓ

/-- the executable step functions perform exactly the steps of the relation the theorems are about -/
theorem step_function_exact_V2 {s₁ s₂ : TWGState} :
    TWG.Step M s₁ s₂ ↔ ∃ a, TWG.step? M s₁ a = some s₂ :=
  ⟨step?_complete, fun ⟨_, h⟩ => step?_sound h⟩

/-- the strict contract implies the non-strict one: the theorems above also cover every V2s model -/
theorem V2_of_V2s (V : V2s M) : V2 M := V.toV2

/-! ### The pure core under V2: `Hist` + `Progress` -/

/-- **Prefix uniqueness under V2** (`PrefixUnique.prefix_unique` with the strict-causality hypothesis
replaced by V2 + `Spec.Progress`): for every history with H1–H3 along which a sequential run can always
continue, every sequential run, every LP. -/
theorem prefix_unique_V2 {G : Nat → List Event} (H : Hist M G g) (V : V2 M) (W : Progress M G g)
    {q : SeqState σ} (hq : Spec.Reachable M q) {ℓ : Nat} (hℓ : ℓ < M.nLps) :
    (q.disp ℓ).filter (below g) <+: (G ℓ).filter (below g) ∧
    ((∀ x ∈ q.pending, g ≤ x.t) →
      (q.disp ℓ).filter (below g) = (G ℓ).filter (below g) ∧
      lpState M ℓ ((q.disp ℓ).filter (below g)) = lpState M ℓ ((G ℓ).filter (below g))) :=
  have h := (Followable.of_V2 H V W).prefix_unique hq hℓ
  ⟨h.1, fun hl => and_lpState_eq (h.2 hl)⟩

/-- under strict causality `Progress` is automatic (so `prefix_unique_V2` subsumes `prefix_unique`) -/
theorem progress_of_strict {G : Nat → List Event} (H : Hist M G g) (V : V2sBelow M G g)
    (T : TimeMono M) : Progress M G g :=
  progress_of_V2s H V T

/-- `Progress` is exactly what the self-justifying history of `PrefixUnique.v2_only_counterexample` lacks -/
theorem echoG_not_progress : ¬ Progress echo PrefixUnique.echoG 10 := by
  intro W
  obtain ⟨V, _, H, hr, hp, hne⟩ := PrefixUnique.v2_only_counterexample
  exact hne (((Followable.of_V2 H V W).prefix_unique hr (ℓ := 0) (by decide)).2 (forall_mem_nil hp _))

/-! ### Relation with the content-level machine of `Model/TimeWarp.lean` -/

/-- **Refinement.** Erasing the ghost fields maps every reachable state of the instrumented machine onto a
reachable state of the content-level machine: same histories, same bags of pending messages and
anti-messages (as multisets). Every behaviour of the instrumented machine is a content-level behaviour. -/
theorem twg_refines_contentLevel (hr : TWG.Reachable M s) :
    ∃ t, TW.Reachable M t ∧ t.past = histOf s ∧
      t.pending.Perm (s.pending.map TMsg.ev) ∧ t.antis.Perm (s.antis.map TMsg.ev) :=
  proj_reachable hr

/-- the invariant (I1, I2) of the CONTENT-LEVEL machine needs only V2
(`C01Glue.reachable_invariant` with `V2s` replaced by `V2`) … -/
theorem contentLevel_invariant_V2 {t : TWState} (V : V2 M) (hr : TW.Reachable M t) :
    (∀ ℓ, ℓ < M.nLps → (t.past ℓ).head? = some (initEv ℓ) ∧
      (∀ e ∈ (t.past ℓ).tail, e.dest = ℓ ∧ e.type < LP_INIT) ∧
      (t.past ℓ).tail.Pairwise (fun a b => Event.before b a = false)) ∧
    (∀ ℓ, M.nLps ≤ ℓ → t.past ℓ = []) ∧
    (∀ x ∈ t.pending ++ t.antis, x.dest < M.nLps ∧ x.type < LP_INIT) ∧
    (∀ x : Event,
      t.pending.count x + ((List.range M.nLps).flatMap (fun ℓ => (t.past ℓ).tail)).count x =
        (outsAll M t.past).count x + t.antis.count x) := by
  have I := TW.reachable_inv_V2 V hr
  exact ⟨fun ℓ hℓ => ⟨I.head ℓ hℓ, I.dest ℓ hℓ, I.sorted ℓ hℓ⟩, I.out,
    List.forall_mem_append.mpr ⟨I.pendOk, I.antiOk⟩, I.cnt⟩

/-- … and so does `Spec.Hist` (`C01Glue.reachable_hist` with `V2s` replaced by `V2`). Under V2 this is
NOT enough (next section). -/
theorem contentLevel_hist_V2 {t : TWState} (V : V2 M) (hr : TW.Reachable M t)
    (hp : ∀ x ∈ t.pending, g ≤ x.t) (ha : ∀ x ∈ t.antis, g ≤ x.t) : Spec.Hist M t.past g :=
  (TW.reachable_inv_V2 V hr).hist hp ha

/-! ### The content-level machine is REFUTED under V2 -/

/-- `C01Glue.tw_equals_sequential` with `V2s` replaced by `V2` -/
def tw_equals_sequential_contentLevel_V2Statement : Prop :=
  ∀ (σ : Type) (M : SimModel σ) (t : TWState) (g : Nat), V2 M → TW.Reachable M t →
    (∀ x ∈ t.pending, g ≤ x.t) → (∀ x ∈ t.antis, g ≤ x.t) →
    ∀ q : SeqState σ, Spec.Reachable M q → (∀ x ∈ q.pending, g ≤ x.t) → ∀ ℓ, ℓ < M.nLps →
      (q.disp ℓ).filter (below g) = (t.past ℓ).filter (below g) ∧
      lpState M ℓ ((q.disp ℓ).filter (below g)) = lpState M ℓ ((t.past ℓ).filter (below g))

/-- `C01Glue.tw_quiescent_final` with `V2s` replaced by `V2` -/
def tw_quiescent_final_contentLevel_V2Statement : Prop :=
  ∀ (σ : Type) (M : SimModel σ) (t : TWState), V2 M → TW.Reachable M t →
    t.pending = [] → t.antis = [] →
    ∀ q : SeqState σ, Spec.Reachable M q → q.pending = [] → ∀ ℓ, ℓ < M.nLps →
      q.disp ℓ = t.past ℓ ∧ q.st ℓ = lpState M ℓ (t.past ℓ)

/-- `C01Glue.tw_schedule_independent` with `V2s` replaced by `V2` -/
def tw_schedule_independent_contentLevel_V2Statement : Prop :=
  ∀ (σ : Type) (M : SimModel σ) (t t' : TWState) (g : Nat), V2 M → TW.Reachable M t →
    TW.Reachable M t' →
    (∀ x ∈ t.pending, g ≤ x.t) → (∀ x ∈ t.antis, g ≤ x.t) →
    (∀ x ∈ t'.pending, g ≤ x.t) → (∀ x ∈ t'.antis, g ≤ x.t) → ∀ ℓ, ℓ < M.nLps →
      (t.past ℓ).filter (below g) = (t'.past ℓ).filter (below g) ∧
      lpState M ℓ ((t.past ℓ).filter (below g)) = lpState M ℓ ((t'.past ℓ).filter (below g))

/-- `trap` satisfies the runtime's contract in every state (and is not strictly causal: LP 0 and LP 1
forward a token unchanged, with zero delay) -/
theorem trap_V2 : V2 trap := by
  intro ℓ s c o ho
  simp only [trap] at ho
  rcases PrefixUnique.mem_ite ho with ⟨_, ho⟩ | ⟨_, ho⟩
  · simp only [List.mem_cons, List.mem_nil_iff, or_false] at ho
    rcases ho with rfl | rfl
    · exact ⟨Event.not_before_of_t_lt (Nat.lt_add_one _), (by decide : 2 < 3), (by decide : 3 < LP_INIT)⟩
    · exact ⟨Event.not_before_of_t_lt (Nat.lt_add_of_pos_right (by decide)), (by decide : 2 < 3),
        (by decide : 2 < LP_INIT)⟩
  · rcases PrefixUnique.mem_ite ho with ⟨_, ho⟩ | ⟨_, ho⟩
    · rw [List.mem_singleton.mp ho]
      exact ⟨Event.not_before_of_t_lt (Nat.lt_add_of_pos_right (by decide)), (by decide : 1 < 3),
        (by decide : 1 < LP_INIT)⟩
    · rcases PrefixUnique.mem_ite ho with ⟨h1, ho⟩ | ⟨_, ho⟩
      · rw [List.mem_singleton.mp ho]
        exact ⟨Event.not_before_same rfl h1.2.1.symm rfl, show 1 - ℓ < 3 by omega, (by decide : 1 < LP_INIT)⟩
      · cases ho

theorem trap_not_V2s : ¬ V2s trap := by
  intro V
  have := (V 0 1 ⟨0, 5, 1, []⟩ ⟨1, 5, 1, []⟩ (by decide)).1
  revert this
  decide

/-- LP 2's two model events -/
def trapY : Event := ⟨2, 1, 3, []⟩
def trapX : Event := ⟨2, 2, 2, []⟩

/-- what every state of every sequential run of `trap` looks like: LP 0 and LP 1 never receive anything -/
def TrapSeq (q : SeqState Nat) : Prop :=
  q.disp 0 = [initEv 0] ∧ q.disp 1 = [initEv 1] ∧
  ((q.pending = [trapY, trapX] ∧ q.st 2 = 1) ∨ (q.pending = [trapX] ∧ q.st 2 = 2) ∨ q.pending = [])

theorem trap_sequential {q : SeqState Nat} (hr : Spec.Reachable trap q) : TrapSeq q := by
  induction hr with
  | init => exact ⟨by decide, by decide, Or.inl ⟨by decide, by decide⟩⟩
  | @step q _ _ hs ih =>
    obtain ⟨h0, h1, hc⟩ := ih
    cases hs with
    | mk e hmem hmin =>
      rcases hc with ⟨hp, hst⟩ | ⟨hp, hst⟩ | hp
      · rw [hp] at hmem hmin
        have he : e = trapY := by
          rcases List.mem_cons.mp hmem with rfl | h
          · rfl
          · rcases List.mem_cons.mp h with rfl | h
            · exact absurd (hmin trapY (by simp)) (by decide)
            · simp at h
        subst he
        refine ⟨?_, ?_, Or.inr (Or.inl ⟨?_, ?_⟩)⟩
        · show upd q.disp 2 (q.disp 2 ++ [trapY]) 0 = _
          rw [upd_other _ _ (by decide)]; exact h0
        · show upd q.disp 2 (q.disp 2 ++ [trapY]) 1 = _
          rw [upd_other _ _ (by decide)]; exact h1
        · show q.pending.erase trapY ++ (trap.handler 2 (q.st 2) trapY).2 = [trapX]
          rw [hp, hst]; decide
        · show upd q.st 2 (trap.handler 2 (q.st 2) trapY).1 2 = 2
          rw [upd_same, hst]; rfl
      · rw [hp] at hmem
        have he : e = trapX := by simpa using hmem
        subst he
        refine ⟨?_, ?_, Or.inr (Or.inr ?_)⟩
        · show upd q.disp 2 (q.disp 2 ++ [trapX]) 0 = _
          rw [upd_other _ _ (by decide)]; exact h0
        · show upd q.disp 2 (q.disp 2 ++ [trapX]) 1 = _
          rw [upd_other _ _ (by decide)]; exact h1
        · show q.pending.erase trapX ++ (trap.handler 2 (q.st 2) trapX).2 = []
          rw [hp, hst]; decide
      · rw [hp] at hmem; simp at hmem

/-- the trace of the content-level machine: LP 2 speculatively processes `x` (time 2) before `y` (time 1)
and sends the token `c = ⟨1,5,1,[]⟩` to LP 1; LP 1 forwards it to LP 0 (`⟨0,5,1,[]⟩`), LP 0 forwards it back:
`c' = ⟨1,5,1,[]⟩`, a DESCENDANT of `c` with the content of `c`, is pending. The straggler `y` undoes `x` and
produces the anti-message of `c` — which ANNIHILATES `c'`. LP 2 re-executes `x` (nothing sent). -/
def trapActs : List TW.Action :=
  [ .exec 2 trapX, .exec 1 ⟨1, 5, 1, []⟩, .exec 0 ⟨0, 5, 1, []⟩,
    .exec 2 trapY,                       -- the straggler
    .annihilate ⟨1, 5, 1, []⟩,           -- the anti-message of `c` meets the descendant `c'`
    .exec 2 trapX ]

/-- the straggler step: `c'` is pending, the anti-message of `c` exists, `c` itself is PROCESSED at LP 1 -/
example : (TW.run? trap (TW.init trap) (trapActs.take 4)).map (C01Glue.obs 3) =
    some ([[initEv 0, ⟨0, 5, 1, []⟩], [initEv 1, ⟨1, 5, 1, []⟩], [initEv 2, trapY]],
          [⟨1, 5, 1, []⟩, trapX], [⟨1, 5, 1, []⟩]) := by decide +kernel

/-- the end state: quiescent, LP 0 and LP 1 have processed events that only the other one sends -/
example : (TW.run? trap (TW.init trap) trapActs).map (C01Glue.obs 3) =
    some ([[initEv 0, ⟨0, 5, 1, []⟩], [initEv 1, ⟨1, 5, 1, []⟩], [initEv 2, trapY, trapX]], [], []) := by
  decide +kernel

/-- **Counter-example.** `trap` satisfies V2; the content-level machine reaches a state with nothing pending
and no anti-message that satisfies H1–H3 at every `g`, in which LP 0 and LP 1 have each processed a model
event; in EVERY state of EVERY sequential run LP 0 and LP 1 have processed nothing but `LP_INIT`. -/
theorem tw_V2_counterexample :
    V2 trap ∧ ∃ t, TW.Reachable trap t ∧ t.pending = [] ∧ t.antis = [] ∧
      t.past 0 = [initEv 0, ⟨0, 5, 1, []⟩] ∧ t.past 1 = [initEv 1, ⟨1, 5, 1, []⟩] ∧
      (∀ g, Hist trap t.past g) ∧
      ∀ q, Spec.Reachable trap q → q.disp 0 = [initEv 0] ∧ q.disp 1 = [initEv 1] := by
  refine ⟨trap_V2, ?_⟩
  have h : (TW.run? trap (TW.init trap) trapActs).map (fun t => (t.past 0, t.past 1, t.pending, t.antis)) =
      some ([initEv 0, ⟨0, 5, 1, []⟩], [initEv 1, ⟨1, 5, 1, []⟩], [], []) := by decide +kernel
  obtain ⟨t, ht, ho⟩ := Option.map_eq_some_iff.mp h
  simp only [Prod.mk.injEq] at ho
  obtain ⟨hp0, hp1, hpend, hanti⟩ := ho
  have hr : TW.Reachable trap t := C01Glue.run_reachable ht
  refine ⟨t, hr, hpend, hanti, hp0, hp1, ?_, ?_⟩
  · intro g
    exact contentLevel_hist_V2 trap_V2 hr (forall_mem_nil hpend _) (forall_mem_nil hanti _)
  · intro q hq
    exact ⟨(trap_sequential hq).1, (trap_sequential hq).2.1⟩

/-- the SAME scenario on the instrumented machine: after the straggler the anti-message carries the creation
step 1 of `c`, the pending descendant `c'` was created at step 3 — they cannot meet … -/
def trapActsG : List TWG.Action :=
  [ .exec 2 trapX 0, .exec 1 ⟨1, 5, 1, []⟩ 1, .exec 0 ⟨0, 5, 1, []⟩ 2,
    .exec 2 trapY 0,                     -- the straggler
    .antiRollback 1 1,                   -- the anti-message of `c` rolls back LP 1, where `c` was processed
    .antiRollback 0 1,                   -- the anti-message of LP 1's forward rolls back LP 0
    .annihilate ⟨1, 5, 1, []⟩ 3,         -- the anti-message of `c'` meets `c'`
    .exec 2 trapX 0 ]

example : (TWG.run? trap (TWG.init trap) (trapActsG.take 4)).map (fun s => (s.pending, s.antis)) =
    some ([⟨⟨1, 5, 1, []⟩, 3⟩, ⟨trapX, 0⟩], [⟨⟨1, 5, 1, []⟩, 1⟩]) := by decide +kernel

example : ((TWG.run? trap (TWG.init trap) (trapActsG.take 4)).bind
      (fun s => TWG.step? trap s (.annihilate ⟨1, 5, 1, []⟩ 3))).isNone = true ∧
    ((TWG.run? trap (TWG.init trap) (trapActsG.take 4)).bind
      (fun s => TWG.step? trap s (.annihilate ⟨1, 5, 1, []⟩ 1))).isNone = true := by decide +kernel

/-- … and the cancellation cascade ends in the state of the sequential run -/
example : (TWG.run? trap (TWG.init trap) trapActsG).map
      (fun s => ((List.range 3).map (histOf s), s.pending, s.antis)) =
    some ([[initEv 0], [initEv 1], [initEv 2, trapY, trapX]], [], []) := by decide +kernel

theorem trap_seq_finished : Spec.Reachable trap (seqRunN trap 2) ∧ (seqRunN trap 2).pending = [] :=
  ⟨seqRunN_reachable trap 2, by decide⟩

theorem tw_quiescent_final_contentLevel_refuted : ¬ tw_quiescent_final_contentLevel_V2Statement := by
  intro S
  obtain ⟨V, t, hr, hp, ha, _, h1, _, hseq⟩ := tw_V2_counterexample
  have := (S Nat trap t V hr hp ha _ trap_seq_finished.1 trap_seq_finished.2 1 (by decide)).1
  rw [h1, (hseq _ trap_seq_finished.1).2] at this
  revert this; decide

theorem tw_equals_sequential_contentLevel_refuted : ¬ tw_equals_sequential_contentLevel_V2Statement := by
  intro S
  obtain ⟨V, t, hr, hp, ha, _, h1, _, hseq⟩ := tw_V2_counterexample
  have := (S Nat trap t 10 V hr (forall_mem_nil hp _) (forall_mem_nil ha _) _ trap_seq_finished.1
    (forall_mem_nil trap_seq_finished.2 _) 1 (by decide)).1
  rw [h1, (hseq _ trap_seq_finished.1).2] at this
  revert this; decide

/-- the honest schedule: `y`, then `x` -/
def trapGoodActs : List TW.Action := [ .exec 2 trapY, .exec 2 trapX ]

theorem tw_schedule_independent_contentLevel_refuted :
    ¬ tw_schedule_independent_contentLevel_V2Statement := by
  intro S
  obtain ⟨V, t, hr, hp, ha, _, h1, _, _⟩ := tw_V2_counterexample
  have h : (TW.run? trap (TW.init trap) trapGoodActs).map (fun t => (t.past 1, t.pending, t.antis)) =
      some ([initEv 1], [], []) := by decide +kernel
  obtain ⟨t', ht', ho⟩ := Option.map_eq_some_iff.mp h
  simp only [Prod.mk.injEq] at ho
  obtain ⟨hp1, hpend, hanti⟩ := ho
  have := (S Nat trap t t' 10 V hr (C01Glue.run_reachable ht') (forall_mem_nil hp _) (forall_mem_nil ha _)
    (forall_mem_nil hpend _) (forall_mem_nil hanti _) 1 (by decide)).1
  rw [h1, hp1] at this
  revert this; decide

/-! ### Non-vacuity: a V2-only model on the instrumented machine -/

theorem run_reachable {as : List TWG.Action} (h : TWG.run? M (TWG.init M) as = some s) :
    TWG.Reachable M s :=
  run?_reachable as TWG.Reachable.init h

/-- the token ring satisfies the runtime's contract in every state … -/
theorem ring_V2 : V2 ring := by
  intro ℓ s c o ho
  simp only [ring] at ho
  rcases PrefixUnique.mem_ite ho with ⟨_, ho⟩ | ⟨_, ho⟩
  · rcases PrefixUnique.mem_ite ho with ⟨_, ho⟩ | ⟨_, ho⟩
    · simp only [List.mem_cons, List.mem_nil_iff, or_false] at ho
      rcases ho with rfl | rfl
      · exact ⟨Event.not_before_of_t_lt (Nat.lt_add_one _), (by decide : 0 < 3), (by decide : 2 < LP_INIT)⟩
      · exact ⟨Event.not_before_of_t_lt (Nat.lt_add_of_pos_right (by decide)), (by decide : 0 < 3),
          (by decide : 1 < LP_INIT)⟩
    · cases ho
  · rcases PrefixUnique.mem_ite ho with ⟨h1, ho⟩ | ⟨_, ho⟩
    · rw [List.mem_singleton.mp ho]
      exact ⟨Event.not_before_same rfl h1.1.symm rfl, Nat.mod_lt _ (by decide), (by decide : 1 < LP_INIT)⟩
    · cases ho

/-- … but NOT the strict one: a token is forwarded unchanged with zero delay -/
theorem ring_not_V2s : ¬ V2s ring := by
  intro V
  have := (V 0 1 ⟨0, 2, 1, [7]⟩ ⟨1, 2, 1, [7]⟩ (by decide)).1
  revert this
  decide

/-- `echo` (the V2-only model with an infinite zero-delay cascade) is covered too: no hypothesis excludes it -/
theorem echo_V2 : V2 echo := PrefixUnique.v2_only_counterexample.1

def tok (d : Nat) : Event := ⟨d, 2, 1, [7]⟩
def tick : Event := ⟨0, 1, 2, []⟩

/-- LP 0 processes the token BEFORE the tick; the token goes round the ring twice (seven zero-delay
identical events). The tick arrives as a STRAGGLER: three identical simultaneous entries of LP 0 are undone
and re-queued, two anti-messages go out. LP 0 then processes the re-queued DESCENDANT (created at step 6)
before its own ancestor (created at step 0) — legal, they are incomparable. The anti-messages roll back
LP 1 and LP 2 (each time at the FIRST of two identical entries; the second is re-queued and then annihilated
by its own anti-message), the anti-messages of the two descendants reach LP 0: one finds its message queued,
the other finds it processed (ANTI-ROLLBACK of the entry processed at step 9). Finally the original token
goes round once. -/
def ringActs : List TWG.Action :=
  [ .exec 0 (tok 0) 0, .exec 1 (tok 1) 1, .exec 2 (tok 2) 2,
    .exec 0 (tok 0) 3, .exec 1 (tok 1) 4, .exec 2 (tok 2) 5,
    .exec 0 (tok 0) 6,
    .exec 0 tick 0,            -- the straggler
    .exec 0 (tok 0) 6,         -- the descendant first
    .antiRollback 1 1, .annihilate (tok 1) 4,
    .antiRollback 2 1, .annihilate (tok 2) 5,
    .annihilate (tok 0) 3, .antiRollback 0 2, .annihilate (tok 1) 9,
    .exec 0 (tok 0) 0, .exec 1 (tok 1) 10, .exec 2 (tok 2) 11, .exec 0 (tok 0) 12 ]

/-- what a replay computes, observed on the existing LPs -/
def obs (n : Nat) (s : TWGState) : List (List TEntry) × List TMsg × List TMsg :=
  ((List.range n).map s.past, s.pending, s.antis)

/-- after the straggler: LP 0 is back to `[LP_INIT, tick]`, three copies of the token are pending (created at
steps 0, 3, 6), the anti-messages carry the steps 1 and 4 of the undone invocations -/
example : (TWG.run? ring (TWG.init ring) (ringActs.take 8)).map
      (fun s => (histOf s 0, s.pending, s.antis)) =
    some ([initEv 0, tick], [⟨tok 0, 0⟩, ⟨tok 0, 3⟩, ⟨tok 0, 6⟩], [⟨tok 1, 1⟩, ⟨tok 1, 4⟩]) := by decide +kernel

/-- after the cascade of cancellations only the original token is left -/
example : (TWG.run? ring (TWG.init ring) (ringActs.take 16)).map
      (fun s => ((List.range 3).map (histOf s), s.pending, s.antis)) =
    some ([[initEv 0, tick], [initEv 1], [initEv 2]], [⟨tok 0, 0⟩], []) := by decide +kernel

/-- the whole trace is enabled and ends in a quiescent state whose histories are those of the executable
sequential run -/
example : (TWG.run? ring (TWG.init ring) ringActs).map
      (fun s => ((List.range 3).map (histOf s), s.pending, s.antis)) =
    some ((List.range 3).map (seqRunN ring 6).disp, [], []) ∧ (seqRunN ring 6).pending = [] := by decide +kernel

/-- the hypotheses of the `tw_quiescent_*_V2` theorems are satisfiable on a V2-only model -/
theorem ring_nonvacuous : ∃ s, TWG.Reachable ring s ∧ s.pending = [] ∧ s.antis = [] ∧
    histOf s 0 = [initEv 0, tick, tok 0, tok 0] := by
  have h : (TWG.run? ring (TWG.init ring) ringActs).map (fun s => (histOf s 0, s.pending, s.antis)) =
      some ([initEv 0, tick, tok 0, tok 0], [], []) := by decide +kernel
  obtain ⟨s, hs, ho⟩ := Option.map_eq_some_iff.mp h
  simp only [Prod.mk.injEq] at ho
  exact ⟨s, run_reachable hs, ho.2.1, ho.2.2, ho.1⟩

/-- a non-quiescent state with the non-trivial lower bound `g = 2` (the state after the straggler): the
hypotheses of `tw_equals_sequential_V2` / `tw_schedule_independent_V2` are satisfiable -/
theorem ring_nonvacuous_bound : ∃ s, TWG.Reachable ring s ∧
    (∀ x ∈ s.pending, 2 ≤ x.ev.t) ∧ (∀ x ∈ s.antis, 2 ≤ x.ev.t) ∧ s.pending ≠ [] ∧ s.antis ≠ [] ∧
    (histOf s 0).filter (below 2) = [initEv 0, tick] := by
  have h : (TWG.run? ring (TWG.init ring) (ringActs.take 8)).map
      (fun s => (histOf s 0, s.pending, s.antis)) =
      some ([initEv 0, tick], [⟨tok 0, 0⟩, ⟨tok 0, 3⟩, ⟨tok 0, 6⟩], [⟨tok 1, 1⟩, ⟨tok 1, 4⟩]) := by
    decide +kernel
  obtain ⟨s, hs, ho⟩ := Option.map_eq_some_iff.mp h
  simp only [Prod.mk.injEq] at ho
  obtain ⟨h0, hpend, hanti⟩ := ho
  refine ⟨s, run_reachable hs, ?_, ?_, ?_, ?_, ?_⟩
  · rw [hpend]; decide
  · rw [hanti]; decide
  · rw [hpend]; exact List.cons_ne_nil _ _
  · rw [hanti]; exact List.cons_ne_nil _ _
  · rw [h0]; decide

/-- the theorems compose on the concrete state: every finished sequential run of the ring has dispatched to
LP 0 exactly `LP_INIT`, the tick and two copies of the token -/
example {q : SeqState Nat} (hq : Spec.Reachable ring q) (hqp : q.pending = []) :
    q.disp 0 = [initEv 0, tick, tok 0, tok 0] := by
  obtain ⟨s, hr, hp, ha, h0⟩ := ring_nonvacuous
  rw [← h0]
  exact (tw_quiescent_final_V2 ring_V2 hr hp ha hq hqp (by decide)).1

/-- on the SAME model the content-level machine would also be allowed to let the anti-message created for
the copy of step 3 annihilate the original token of step 0 (equal content) — here harmless, in `trap` fatal;
the instrumented machine refuses: that anti-message is not equal to the original token -/
example : ((TWG.run? ring (TWG.init ring) (ringActs.take 13)).bind
      (fun s => TWG.step? ring s (.annihilate (tok 0) 0))).isNone = true := by decide +kernel

end RootSim.C01GlueV2
