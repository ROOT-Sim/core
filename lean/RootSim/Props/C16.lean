import RootSim.Proofs.MsgOrder
/-!
# C16 — the event order is a strict weak order with a content-only tie-break

All theorems quantify over *every* message (whole `struct lp_msg`, every field,
payloads of every length); `incomp_iff_content_eq` and `incomp_trans` need the well-formedness
hypothesis that the buffer really holds `pl_size` bytes.
-/
namespace RootSim.C16
open RootSim

/-- incomparability in the event order -/
def incomp (a b : Msg) : Prop := isBefore a b = false ∧ isBefore b a = false

theorem irrefl (a : Msg) : isBefore a a = false := by
  simp [isBefore, isBeforeExt, memcmpGt_irrefl]

theorem asymm (a b : Msg) (h : isBefore a b = true) : isBefore b a = false := by
  rw [← Bool.not_eq_true]
  rw [isBefore_iff] at h ⊢
  exact lex_asymm (· < ·) Nat.lt_asymm (lex_asymm (· > ·) Nat.lt_asymm (lex_asymm (· > ·) Nat.lt_asymm
    (lex_asymm (· < ·) Nat.lt_asymm (memcmpGt_asymm _ _)))) h

/-- **Content-only**: the order is a function of the two contents; addresses, `next`, sender,
sequence number, id bits of `raw_flags`, bytes beyond `pl_size` cannot influence it. -/
theorem content_only (a a' b b' : Msg) (ha : a.content = a'.content) (hb : b.content = b'.content) :
    isBefore a b = isBefore a' b' := by
  simp only [Msg.content, Prod.mk.injEq] at ha hb
  obtain ⟨h1, h2, h3, h4, h5⟩ := ha
  obtain ⟨g1, g2, g3, g4, g5⟩ := hb
  simp [isBefore, isBeforeExt, h1, h2, h3, h4, h5, g1, g2, g3, g4, g5]

/-- **Incomparable events have identical content** (and conversely): the fact the comment in
`msg.h` relies on ("the two messages will necessarily induce the same state change"). -/
theorem incomp_iff_content_eq (a b : Msg) (ha : a.WF) (hb : b.WF) :
    incomp a b ↔ a.content = b.content := by
  constructor
  · rintro ⟨h1, h2⟩
    rw [← Bool.not_eq_true, isBefore_iff] at h1 h2
    obtain ⟨ht, h1, h2⟩ := lex_incomp (· < ·) lt_tri h1 h2
    obtain ⟨han, h1, h2⟩ := lex_incomp (· > ·) (fun h h' => lt_tri h' h) h1 h2
    obtain ⟨hty, h1, h2⟩ := lex_incomp (· > ·) (fun h h' => lt_tri h' h) h1 h2
    obtain ⟨hs, h1, h2⟩ := lex_incomp (· < ·) lt_tri h1 h2
    -- only here the sizes are known to be equal, and `memcmp` is total on equal lengths
    have hl : a.body.length = b.body.length := by rw [Msg.body_length a ha, Msg.body_length b hb, hs]
    rw [Msg.content, Msg.content, ht, han, hty, hs, memcmpGt_total _ _ hl h1 h2]
  · intro h
    exact ⟨(content_only a a b a rfl h.symm).trans (irrefl a), (content_only b a a a h.symm rfl).trans (irrefl a)⟩

theorem trans (a b c : Msg) (ha : a.WF) (hb : b.WF) (hc : c.WF)
    (h1 : isBefore a b = true) (h2 : isBefore b c = true) : isBefore a c = true :=
  isBefore_trans a b c h1 h2

/-- incomparability is transitive ⇒ together with `irrefl`, `trans`: a strict weak order -/
theorem incomp_trans (a b c : Msg) (ha : a.WF) (hb : b.WF) (hc : c.WF)
    (h1 : incomp a b) (h2 : incomp b c) : incomp a c := by
  rw [incomp_iff_content_eq a b ha hb] at h1
  rw [incomp_iff_content_eq b c hb hc] at h2
  rw [incomp_iff_content_eq a c ha hc]
  exact h1.trans h2

/-- negative transitivity, the other form of the same fact -/
theorem ntrans (a b c : Msg) (ha : a.WF) (hb : b.WF) (hc : c.WF)
    (h1 : isBefore a b = false) (h2 : isBefore b c = false) : isBefore a c = false := by
  cases h3 : isBefore a c
  · rfl
  · -- a < c; then (b < a ∨ incomparable a b) and (c < b ∨ incomparable b c): all cases contradict
    cases hba : isBefore b a
    · cases hcb : isBefore c b
      · have := incomp_trans a b c ha hb hc ⟨h1, hba⟩ ⟨h2, hcb⟩
        rw [this.1] at h3; exact absurd h3 (by simp)
      · have := trans a c b ha hc hb h3 hcb
        rw [h1] at this; exact absurd this (by simp)
    · have := trans b a c hb ha hc hba h3
      rw [h2] at this; exact absurd this (by simp)

/-- the queue comparator is the message comparator when the cached time stamp is the message's -/
theorem qElem_eq (x y : QElem) (hx : x.t = x.m.destT) (hy : y.t = y.m.destT) :
    qElemBefore x y = isBefore x.m y.m := by
  simp [qElemBefore, isBefore, hx, hy]

/-- the queue comparator refines the time order even if the cached time stamps are arbitrary -/
theorem qElem_time_consistent (x y : QElem) (h : qElemBefore x y = true) : x.t ≤ y.t := by
  simp only [qElemBefore, Bool.or_eq_true, decide_eq_true_eq, Bool.and_eq_true] at h
  omega

/-! ### Non-vacuity: concrete, non-trivial messages meet the hypotheses. -/
def exA : Msg := { destT := 5, rawFlags := 12, mType := 3, plSize := 2, pl := [1, 2, 99], next := 77, mSeq := 4 }
def exB : Msg := { destT := 5, rawFlags := 4,  mType := 3, plSize := 2, pl := [1, 2, 7],  next := 13, mSeq := 9 }
def exC : Msg := { destT := 5, rawFlags := 4,  mType := 3, plSize := 2, pl := [1, 1, 7] }
example : exA.WF ∧ exB.WF ∧ exC.WF := by decide
example : incomp exA exB := by unfold incomp; decide
example : exA ≠ exB ∧ exA.content = exB.content := by decide
example : isBefore exA exC = true ∧ isBefore exC exA = false := by decide

end RootSim.C16
