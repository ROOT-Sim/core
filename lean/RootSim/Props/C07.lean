import RootSim.Proofs.Termination
/-!
# C07 — no premature termination

"A run that is not stopped by RootsimStop returns only when, for every LP, the termination
predicate held on a state that is committed (its timestamp is below the final GVT), or the GVT has
reached the configured termination time."

Model: `Model/Termination.lean` (`termination.c` verbatim, pinned variant `fix = false` and the
variant patched by `repo_patches/f2_termination_sentinel.diff`, `fix = true`); specification ledger
and environment assumptions (`EnvOk`): `Proofs/Termination.lean`. The environment assumptions are the
facts C04 provides (rollbacks never reach below the last GVT handed to the thread, GVT values do not
decrease) plus: a rollback for a straggler/anti-message with time stamp `s` undoes only entries with
time stamp `≥ s` (entries with time stamp `= s` may or may not be undone), time stamps are finite,
LPs are created before the first GVT.

* `no_premature`            — full theorem for the patched code (every time stamp, including 0).
* `f2_counterexample`       — the full statement is FALSE for the pinned code (finding F2).
* `no_premature_partial`    — the pinned code under the excluding hypothesis "every time stamp handed
                              to the module is > 0".
* `returns_sound`(`_partial`) — node level: `termination_cant_end()` becomes false only if every
                              LP's predicate held on a committed state, or a GVT reached the
                              termination time, or `RootsimStop`/a remote node intervened.
-/
namespace RootSim.C07
open RootSim.Term

/-- The full statement for a code variant: whenever `termination_on_gvt(g)` casts a vote, every LP
of the voting thread has its predicate true on a not-undone state with time stamp below `g`, or
`g` has reached the termination time. (`pos = false`: time stamps are unrestricted.) -/
def NoPrematureStatement (fix : Bool) : Prop :=
  ∀ (nNodes N ttime : Nat) (s s' : Sys) (ti g : Nat), N < W32 →
    Reach fix false nNodes N ttime s → EnvOk false s (.gvt ti g) →
    sstep fix nNodes s (.gvt ti g) = some (s', true) →
    ∀ tl ∈ s.led[ti]?, (∀ l ∈ tl, HeldBelow l g) ∨ s.node.ttime ≤ g

theorem no_premature_gen (fix pos : Bool) (hfp : fix = true ∨ pos = true)
    (nNodes N ttime : Nat) (s s' : Sys) (ti g : Nat) (hN : N < W32)
    (hr : Reach fix pos nNodes N ttime s) (henv : EnvOk pos s (.gvt ti g))
    (hs : sstep fix nNodes s (.gvt ti g) = some (s', true)) :
    ∀ tl ∈ s.led[ti]?, (∀ l ∈ tl, HeldBelow l g) ∨ s.node.ttime ≤ g := by
  intro tl htl
  have hinv := reach_sinv fix pos nNodes N ttime hfp hN s hr
  obtain ⟨th, hth, ⟨_, hv, _⟩ | ⟨hnv, _⟩⟩ := onGvt_some (sstep_node hs)
  · cases hv
  · exact vote_sound (hinv.tinv hth (Option.mem_def.mp htl)) henv.1 hnv

/-- **C07, thread level, patched code: no premature vote — for all runs, all time stamps.** -/
theorem no_premature : NoPrematureStatement true :=
  fun nNodes N ttime s s' ti g hN hr henv hs =>
    no_premature_gen true false (Or.inl rfl) nNodes N ttime s s' ti g hN hr henv hs

/-- **C07, thread level, pinned code, partial**: the same conclusion for runs in which every time
stamp handed to `termination_on_msg_process` / `termination_on_lp_rollback` is strictly positive
(`Reach false true`: `pos = true`). What is missing is exactly finding F2. -/
theorem no_premature_partial (nNodes N ttime : Nat) (s s' : Sys) (ti g : Nat) (hN : N < W32)
    (hr : Reach false true nNodes N ttime s) (henv : EnvOk true s (.gvt ti g))
    (hs : sstep false nNodes s (.gvt ti g) = some (s', true)) :
    ∀ tl ∈ s.led[ti]?, (∀ l ∈ tl, HeldBelow l g) ∨ s.node.ttime ≤ g :=
  no_premature_gen false true (Or.inr rfl) nNodes N ttime s s' ti g hN hr henv hs

/-! ### Finding F2: the pinned code votes prematurely -/

/-- 1 thread, 2 LPs, neither predicate true at start; LP0 processes an event at time stamp 0 and one
at time stamp 1 (key of 1.0), predicate true on both states; LP1 never satisfies its predicate. -/
def f2Ops : List Op :=
  [.lpInit 0 false, .lpInit 0 false, .proc 0 0 0 true, .proc 0 0 0x3FF0000000000000 true]

/-- the GVT value 2.0 -/
def f2Gvt : Nat := 0x4000000000000000

/-- On the pinned code the run `f2Ops` ends with `lps_to_end = 0` although LP1's predicate never held;
the thread votes at GVT 2.0 and, being the only thread, ends the simulation. -/
theorem f2_witness :
    ∃ s s', runChk false false 1 (Sys.init 1 1 SIMTIME_MAX) f2Ops = some s ∧
      EnvOk false s (.gvt 0 f2Gvt) ∧
      sstep false 1 s (.gvt 0 f2Gvt) = some (s', true) ∧
      cantEnd s'.node = false ∧
      s.led[0]? = some [⟨false, [(0, true), (0x3FF0000000000000, true)]⟩, ⟨false, []⟩] ∧
      ¬ HeldBelow ⟨false, []⟩ f2Gvt := by
  refine ⟨_, _, rfl, by decide, rfl, by decide, by decide, by decide⟩

/-- **The full statement is false for the pinned `termination.c`.** -/
theorem f2_counterexample : ¬ NoPrematureStatement false := by
  intro h
  obtain ⟨s, s', hrun, henv, hstep, _, hled, hnot⟩ := f2_witness
  have hr := reach_runChk false false 1 1 SIMTIME_MAX f2Ops _ s Reach.init hrun
  have := h 1 1 SIMTIME_MAX s s' 0 f2Gvt (by decide) hr henv hstep _ (Option.mem_def.mpr hled)
  rcases this with h1 | h1
  · exact hnot (h1 _ (by simp))
  · have hrt : s.node.ttime = SIMTIME_MAX := by
      have := hrun; simp only [f2Ops] at this
      injection this with this; rw [← this]; rfl
    rw [hrt] at h1; revert h1; decide

/-- The same operations on the patched code: no vote (the count is exact). -/
theorem f2_fixed :
    ∃ s s', runChk true false 1 (Sys.init 1 1 SIMTIME_MAX) f2Ops = some s ∧
      sstep true 1 s (.gvt 0 f2Gvt) = some (s', false) := ⟨_, _, rfl, rfl⟩

/-- a thread that still counts an LP as not terminated does not vote below the termination time -/
theorem onGvt_counting {n : Node} {ti g : Nat} {th : Thread} (hth : n.thrs[ti]? = some th)
    (hc : th.lpsToEnd ≠ 0) (hg : g < n.ttime) : onGvt n ti g = some (n, false) := by
  simp [onGvt, hth, noVote, hc, hg]

/-- state of the pinned code after the over-count run -/
def ocNode : Node :=
  { thrs := [{ termT := [0x3FF0000000000000], lpsToEnd := 1, maxT := 0x3FF0000000000000 }],
    thrToEnd := 1, nodesToEnd := 1, ttime := SIMTIME_MAX }

/-- The symmetric over-count (pinned code): a rollback with time stamp 0 of an LP whose predicate is
not true increments `lps_to_end` although the LP is already counted (`lps_to_end = 1` with no LP
left at the sentinel); afterwards the thread never votes below the termination time although its
only LP's predicate holds — a liveness defect (C08). -/
theorem f2_overcount_witness :
    run false 1 (Node.init 1 1 SIMTIME_MAX)
        [.lpInit 0 false, .proc 0 0 0 false, .rb 0 0 0 0, .proc 0 0 0x3FF0000000000000 true] = some ocNode ∧
      ∀ g, g < ocNode.ttime → onGvt ocNode 0 g = some (ocNode, false) :=
  ⟨by decide, fun _ hg => onGvt_counting rfl (by decide) hg⟩

/-! ### Finding F8 (both variants): a rollback whose time stamp *equals* the terminating event's
resets `termination_t` even when that event is kept, and nothing re-evaluates the predicate. -/

/-- code state after the F8 run -/
def f8Node (fix : Bool) : Node :=
  { thrs := [{ termT := [unsetV fix], lpsToEnd := 1, maxT := 5 }],
    thrToEnd := 1, nodesToEnd := 1, ttime := SIMTIME_MAX }

/-- LP processes `e0` at 5 (predicate becomes true), `e1` at 5; an anti-message for `e1` arrives:
rollback with `msg_time = 5` keeping `e0` (`k = 1`). The predicate holds on the kept state after
`e0` (ledger: `(5, true)` not undone), but the thread does not vote at any GVT below the termination
time until the LP happens to process another event. Safe for C07, a liveness problem for C08. -/
theorem f8_witness (fix : Bool) :
    ∃ s, runChk fix false 1 (Sys.init 1 1 SIMTIME_MAX)
        [.lpInit 0 false, .proc 0 0 5 true, .proc 0 0 5 false, .rb 0 0 5 1] = some s ∧
      s.node = f8Node fix ∧ s.led = [[⟨false, [(5, true)]⟩]] ∧
      ∀ g, g < (f8Node fix).ttime → onGvt (f8Node fix) 0 g = some (f8Node fix, false) := by
  have hno : ∀ g, g < (f8Node fix).ttime → onGvt (f8Node fix) 0 g = some (f8Node fix, false) :=
    fun _ hg => onGvt_counting rfl Nat.one_ne_zero hg
  cases fix
  · exact ⟨_, rfl, rfl, rfl, hno⟩
  · exact ⟨_, rfl, rfl, rfl, hno⟩

/-! ### Node level -/

theorem returns_sound_gen (fix pos : Bool) (hfp : fix = true ∨ pos = true) (nNodes N ttime : Nat)
    (hN : N < W32) (hn : 1 ≤ nNodes) (s : Sys) (hr : Reach fix pos nNodes N ttime s)
    (hend : cantEnd s.node = false) :
    s.ext = true ∨ s.ttHit = true ∨
      (nNodes = 1 ∧ ∀ (ti : Nat) (tl : TL), s.led[ti]? = some tl →
        ∃ gv lg, s.voteG[ti]? = some (some gv) ∧ s.lastG[ti]? = some lg ∧ gv ≤ lg ∧
          ∀ l ∈ tl, HeldBelow l gv) := by
  have hinv := reach_sinv fix pos nNodes N ttime hfp hN s hr
  cases hext : s.ext
  · cases htt : s.ttHit
    · right; right
      simp only [cantEnd, decide_eq_false_iff_not] at hend
      rcases hinv.nte htt hext with h | ⟨h, hall⟩
      · exact absurd (h ▸ Int.natCast_pos.mpr hn) hend
      · refine ⟨by omega, fun ti tl htl => ?_⟩
        obtain ⟨_, lg, vg, h2, h3, h4, hT⟩ := hinv.lookup
          (List.getElem?_eq_getElem (hinv.l1.symm ▸ hinv.l2 ▸ (List.getElem?_eq_some_iff.mp htl).1))
        cases htl.symm.trans h2
        -- all `N` threads have voted, this one too
        have hsome := List.countP_eq_length.mp (hall.trans hinv.l4.symm) vg (List.mem_of_getElem? h4)
        cases vg with
        | none => cases hsome
        | some gv =>
          obtain ⟨_, hle, hheld⟩ := hT.voted htt gv rfl
          exact ⟨gv, lg, h4, h3, hle, hheld⟩
    · right; left; rfl
  · left; rfl

/-- **C07, node level, patched code.** When `termination_cant_end()` is false, then `RootsimStop`
was called / another node's termination message arrived, or some thread was handed a GVT that had
reached the termination time, or (single node) every thread has voted at a GVT `gv ≤` its latest
GVT and every one of its LPs has its predicate true on a not-undone state with time stamp below
`gv` — a committed state, since later rollbacks never reach below the latest GVT. -/
theorem returns_sound (nNodes N ttime : Nat) (hN : N < W32) (hn : 1 ≤ nNodes) (s : Sys)
    (hr : Reach true false nNodes N ttime s) (hend : cantEnd s.node = false) :
    s.ext = true ∨ s.ttHit = true ∨
      (nNodes = 1 ∧ ∀ (ti : Nat) (tl : TL), s.led[ti]? = some tl →
        ∃ gv lg, s.voteG[ti]? = some (some gv) ∧ s.lastG[ti]? = some lg ∧ gv ≤ lg ∧
          ∀ l ∈ tl, HeldBelow l gv) :=
  returns_sound_gen true false (Or.inl rfl) nNodes N ttime hN hn s hr hend

/-- the same for the pinned code under the positive-time-stamp hypothesis -/
theorem returns_sound_partial (nNodes N ttime : Nat) (hN : N < W32) (hn : 1 ≤ nNodes) (s : Sys)
    (hr : Reach false true nNodes N ttime s) (hend : cantEnd s.node = false) :
    s.ext = true ∨ s.ttHit = true ∨
      (nNodes = 1 ∧ ∀ (ti : Nat) (tl : TL), s.led[ti]? = some tl →
        ∃ gv lg, s.voteG[ti]? = some (some gv) ∧ s.lastG[ti]? = some lg ∧ gv ≤ lg ∧
          ∀ l ∈ tl, HeldBelow l gv) :=
  returns_sound_gen false true (Or.inr rfl) nNodes N ttime hN hn s hr hend

/-- the counter of not-yet-terminated LPs is exact on the patched code (the invariant behind it all) -/
theorem count_exact (nNodes N ttime : Nat) (hN : N < W32) (s : Sys)
    (hr : Reach true false nNodes N ttime s) :
    ∀ th ∈ s.node.thrs, th.lpsToEnd = th.termT.countP (fun x => decide (x < 0)) := by
  intro th hth
  have hinv := reach_sinv true false nNodes N ttime (Or.inl rfl) hN s hr
  obtain ⟨i, hi, rfl⟩ := List.getElem_of_mem hth
  have hi2 : i < s.led.length := by rw [hinv.l2, ← hinv.l1]; exact hi
  rw [(hinv.tinv (List.getElem?_eq_getElem hi) (List.getElem?_eq_getElem hi2)).cnt]
  congr 1
  funext x
  simp only [isSet, if_true, ← decide_not, Int.not_le]

/-! ### Non-vacuity: a run with rollbacks, a tie, an event at time stamp 0, two threads, that ends
with legitimate votes — the hypotheses of the theorems are satisfiable and the conclusion is the
interesting disjunct. -/

def exOps : List Op :=
  [.lpInit 0 false, .lpInit 1 true, .lpInit 1 false,
   .proc 0 0 0 true,            -- predicate first true at an event with time stamp 0
   .proc 1 1 7 true, .proc 1 1 9 false,
   .rb 1 1 7 0,                 -- straggler at 7 undoes both (tie with the terminating event)
   .gvt 0 3, .gvt 1 3,          -- thread 0 votes, thread 1 does not
   .proc 1 1 4 false, .proc 1 1 8 true,
   .gvt 0 9]

example : ∃ s s', runChk true false 1 (Sys.init 2 1 SIMTIME_MAX) exOps = some s ∧
    EnvOk false s (.gvt 1 9) ∧ sstep true 1 s (.gvt 1 9) = some (s', true) ∧
    cantEnd s.node = true ∧ cantEnd s'.node = false ∧ s'.ext = false ∧ s'.ttHit = false :=
  ⟨_, _, rfl, by decide, rfl, by decide, by decide, rfl, rfl⟩

/-- the pinned code on a run with positive time stamps: hypotheses of the partial theorem hold -/
example : ∃ s s', runChk false true 1 (Sys.init 1 1 SIMTIME_MAX)
      [.lpInit 0 false, .proc 0 0 7 true, .rb 0 0 7 0, .proc 0 0 6 true] = some s ∧
    EnvOk true s (.gvt 0 9) ∧ sstep false 1 s (.gvt 0 9) = some (s', true) :=
  ⟨_, _, rfl, by decide, rfl⟩

end RootSim.C07
