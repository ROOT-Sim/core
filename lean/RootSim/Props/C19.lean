import RootSim.Proofs.Topology
/-!
# C19 — topology queries are mutually consistent and rollback-safe

All theorems quantify over every well-formed topology (`Topo.WF`: what `vInitializeTopology` returns
when `width * height` fits `unsigned`, see `wf_of_init`; for graphs additionally what
`AddTopologyLink` preserves within its contract, see `wf_of_links`), i.e. over ALL sizes `≥ 1`, all
source regions `src < regions`, all direction codes and all random inputs within their contract
(`RinOK`, supplied by property C18).

Two code versions are covered (see `Model/Topology.lean`): the pinned tree (`…Orig`,
`getReceiverV false false`, `countDirectionsOrig`) and the tree with the three proposed patches
(`getReceiver = getReceiverV true true`, `countDirections`).  The general theorems are stated over
the variant flags, so every mixture of applied patches is covered as well.

Findings on the pinned tree (each with a kernel-checked witness below):
* F4a `CountDirections` (square): wrong iff `width = 1 ∨ height = 1`   (`count_square_orig_iff`)
* F4b `CountDirections` (hexagon): wrong iff `hexCountBad`               (`count_hexagon_orig_iff`)
* F4c single-region star: `GetReceiver(0, RANDOM)` = region 1           (`receiver_valid_orig_counterexample`)
* F5  the random choice depends on the shared static arrays              (`random_pure_orig_counterexample`)
-/
namespace RootSim.C19
open RootSim.Topo

/-! ## 0. well-formedness is what the API establishes -/

/-- what `vInitializeTopology` returns is well-formed, provided `width * height` fits `unsigned` -/
theorem wf_of_init {g : Nat} {args : List Nat} {T : Topo} (h : initTopology g args = some T)
    (hfit : ∀ a b, args = [a, b] → a < U32 ∧ b < U32 ∧ b * a < U32) : T.WF := by
  unfold initTopology at h
  split at h
  · cases h
  · rename_i geom _
    split at h
    · rename_i hgrid
      split at h
      · rename_i a b
        obtain ⟨ha, hb, hab⟩ := hfit a b rfl
        simp only [Nat.mod_eq_of_lt ha, Nat.mod_eq_of_lt hb, Nat.mod_eq_of_lt hab] at h
        split at h
        · cases h
        · rename_i hne
          cases h
          obtain ⟨hb0, ha0⟩ := Nat.mul_ne_zero_iff.mp hne
          have hgeo : 1 ≤ b ∧ 1 ≤ a ∧ b * a = b * a := ⟨Nat.pos_of_ne_zero hb0, Nat.pos_of_ne_zero ha0, rfl⟩
          refine ⟨Nat.pos_of_ne_zero hne, hab, ?_⟩
          rcases hgrid with rfl | rfl | rfl <;> exact hgeo
      · cases h
    · rename_i hgrid
      split at h
      · rename_i a
        by_cases hz : a % U32 = 0
        · rw [if_pos hz] at h; cases h
        · rw [if_neg hz] at h; cases h
          refine ⟨Nat.pos_of_ne_zero hz, Nat.mod_lt _ (by decide), ?_⟩
          cases geom <;> simp [Topo.WFgeo] at hgrid ⊢
      · cases h

/-- `AddTopologyLink` used within its contract (`to < regions`) keeps the graph well-formed -/
theorem wf_of_links {T T' : Topo} {ops : List (Nat × Nat)} (hWF : T.WF) (hg : T.geom = .graph)
    (hops : ∀ op ∈ ops, op.2 < T.regions) (h : addLinks T ops = some T') : T'.WF := by
  obtain ⟨hg', hr', hl', hn'⟩ := addLinks_spec hg h
  obtain ⟨h1, h2, h3⟩ := hWF
  simp only [Topo.WFgeo, hg] at h3
  refine ⟨by omega, by omega, ?_⟩
  simp only [Topo.WFgeo, hg']
  refine ⟨by omega, ?_⟩
  intro l hl t ht
  obtain ⟨s, hls⟩ := List.mem_iff_getElem?.mp hl
  have hs := (List.getElem?_eq_some_iff.mp hls).1
  have hnb : T'.nbrs s = l := by simp [Topo.nbrs, hls]
  rw [← hnb] at ht
  rcases ((hn' s).2 t).mp ht with hm | hm
  · rw [hr']
    have hs' : s < T.adj.length := by omega
    have : T.nbrs s ∈ T.adj := by
      simp only [Topo.nbrs, List.getElem?_eq_getElem hs', Option.getD_some]
      exact List.getElem_mem hs'
    exact h3.2 _ this t hm
  · rw [hr']; exact hops _ hm

/-! ## 1. `GetReceiver` returns `INVALID_DIRECTION` or a region inside the topology that `IsNeighbor` confirms -/

/-- the statement, for the code variant `(starFix, shufFix)` -/
def ReceiverValidStatement (sf hf : Bool) : Prop :=
  ∀ (T : Topo) (st st' : Arrays) (src d r : Nat) (rin : List Nat),
    T.WF → src < T.regions → (d = dRANDOM → RinOK sf T src rin) →
    getReceiverV sf hf T st src d rin = (.region r, st') →
    r < T.regions ∧ isNeighbor T src r = true

/-! per geometry (any variant; the grids, rings and graphs need no contract on the random inputs) -/

theorem receiver_valid_grid {sf hf : Bool} {T : Topo} (hWF : T.WF) {st st' : Arrays} {src d r : Nat}
    {rin : List Nat} (hg : T.geom = .hexagon ∨ T.geom = .square ∨ T.geom = .torus) (hs : src < T.regions)
    (h : getReceiverV sf hf T st src d rin = (.region r, st')) : r < T.regions ∧ isNeighbor T src r = true := by
  have ⟨d', hd'⟩ : ∃ d', recvFixed T src d' = some r := by
    unfold getReceiverV at h
    rw [if_neg (by omega)] at h
    rcases hg with hg | hg | hg <;> simp only [hg] at h <;> simpa only [recvFixed, hg] using grid_case h
  obtain ⟨x, y, hx, hy, rfl⟩ := recvFixed_cell hWF hg hs hd'
  have hreg := (hWF.grid hg hs).2
  exact ⟨by rw [hreg]; exact lin_mod_lt (hreg ▸ hWF.2.1) hx hy, isNeighbor_grid hg hd'⟩

theorem receiver_valid_ring {sf hf : Bool} {T : Topo} (hWF : T.WF) {st st' : Arrays} {src d r : Nat}
    {rin : List Nat} (hg : T.geom = .ring) (hs : src < T.regions)
    (h : getReceiverV sf hf T st src d rin = (.region r, st')) : r < T.regions ∧ isNeighbor T src r = true := by
  obtain ⟨hr1, hr2, _⟩ := hWF
  unfold getReceiverV at h
  rw [if_neg (by omega)] at h
  simp only [hg, Prod.mk.injEq] at h
  have h1 := Recv.ofOption_region h.1
  unfold ringFixed at h1
  split at h1
  · simp only [Option.some.injEq] at h1
    subst h1
    refine ⟨Nat.mod_lt _ (by omega), ?_⟩
    simp [isNeighbor, hg, ringFixed, enc]
  · simp at h1

theorem receiver_valid_bidring {sf hf : Bool} {T : Topo} (hWF : T.WF) {st st' : Arrays} {src d r : Nat}
    {rin : List Nat} (hg : T.geom = .bidring) (hs : src < T.regions)
    (h : getReceiverV sf hf T st src d rin = (.region r, st')) : r < T.regions ∧ isNeighbor T src r = true := by
  obtain ⟨hr1, hr2, _⟩ := hWF
  unfold getReceiverV at h
  rw [if_neg (by omega)] at h
  simp only [hg, Prod.mk.injEq] at h
  have h1 := h.1
  unfold getNeighborBidring at h1
  simp only at h1
  have hpos : 0 < T.regions := hr1
  split at h1
  · simp only [reduceCtorEq] at h1
  · split at h1
    · simp only [Recv.region.injEq] at h1
      subst h1
      refine ⟨Nat.mod_lt _ hpos, ?_⟩
      rw [isNeighbor_bidring hg, bidFixed_E, enc_some, beq_self_eq_true, Bool.true_or]
    · split at h1
      · simp only [Recv.region.injEq] at h1
        subst h1
        refine ⟨Nat.mod_lt _ hpos, ?_⟩
        rw [isNeighbor_bidring hg, bidFixed_W, enc_some, beq_self_eq_true, Bool.or_true]
      · simp only [reduceCtorEq] at h1

theorem receiver_valid_graph {sf hf : Bool} {T : Topo} (hWF : T.WF) {st st' : Arrays} {src d r : Nat}
    {rin : List Nat} (hg : T.geom = .graph) (hs : src < T.regions)
    (h : getReceiverV sf hf T st src d rin = (.region r, st')) : r < T.regions ∧ isNeighbor T src r = true := by
  obtain ⟨hr1, hr2, hgeo⟩ := hWF
  simp only [Topo.WFgeo, hg] at hgeo
  obtain ⟨hlen, hadj⟩ := hgeo
  unfold getReceiverV at h
  rw [if_neg (by omega)] at h
  simp only [hg, Prod.mk.injEq] at h
  have h1 := h.1
  unfold getNeighborGraph at h1
  split at h1
  · simp at h1
  · split at h1
    · simp at h1
    · rename_i l hl
      split at h1
      · simp at h1
      · obtain ⟨n, hn, hrn⟩ := graphWalk_region h1
        have hlm : l ∈ T.adj := List.mem_of_getElem? hl
        have hnr : n < T.regions := hadj l hlm n hn
        rw [Nat.mod_eq_of_lt (by omega)] at hrn
        subst hrn
        refine ⟨hnr, ?_⟩
        simp [isNeighbor, hg, hl, hn]

theorem receiver_valid_mesh {sf hf : Bool} {T : Topo} {st st' : Arrays} {src d r : Nat}
    {rin : List Nat} (hg : T.geom = .fcmesh) (hs : src < T.regions) (hrin : ∀ c ∈ rin, c < T.regions)
    (h : getReceiverV sf hf T st src d rin = (.region r, st')) : r < T.regions ∧ isNeighbor T src r = true := by
  unfold getReceiverV at h
  rw [if_neg (by omega)] at h
  simp only [hg, Prod.mk.injEq] at h
  have h1 := h.1
  unfold getNeighborMesh at h1
  split at h1
  · simp at h1
  · split at h1
    · simp at h1
    · have hr := hrin r (meshLoop_region h1).1
      exact ⟨hr, by simp [isNeighbor, hg, hs, hr]⟩

theorem receiver_valid_star {sf hf : Bool} {T : Topo} {st st' : Arrays} {src d r : Nat}
    {rin : List Nat} (hg : T.geom = .star) (hs : src < T.regions)
    (hrin : src = 0 → ∃ k, rin.head? = some k ∧ 1 ≤ k ∧ k < T.regions)
    (h : getReceiverV sf hf T st src d rin = (.region r, st')) : r < T.regions ∧ isNeighbor T src r = true := by
  unfold getReceiverV at h
  rw [if_neg (by omega)] at h
  simp only [hg, Prod.mk.injEq] at h
  have h1 := h.1
  unfold getNeighborStar at h1
  split at h1
  · simp at h1
  · split at h1
    · rename_i hs0
      obtain ⟨k, hk, hk1, hk2⟩ := hrin hs0
      split at h1
      · simp at h1
      · cases rin with
        | nil => simp at hk
        | cons k' rest =>
          simp only [List.head?_cons, Option.some.injEq] at hk
          simp only [Recv.region.injEq] at h1
          subst hk h1
          refine ⟨hk2, ?_⟩
          simp only [isNeighbor, hg, hs0]
          simp [hk2]
          omega
    · rename_i hs0
      simp only [Recv.region.injEq] at h1
      subst h1
      refine ⟨by omega, ?_⟩
      simp [isNeighbor, hg, hs0, hs]

/-- general form: any variant, excluding only (unpatched star ∧ single region) -/
theorem receiver_validV (sf hf : Bool) {T : Topo} (hWF : T.WF) {st st' : Arrays} {src d r : Nat} {rin : List Nat}
    (hs : src < T.regions) (hrin : d = dRANDOM → RinOK sf T src rin)
    (hstar : sf = true ∨ ¬ (T.geom = .star ∧ T.regions = 1))
    (h : getReceiverV sf hf T st src d rin = (.region r, st')) :
    r < T.regions ∧ isNeighbor T src r = true := by
  cases hg : T.geom with
  | hexagon => exact receiver_valid_grid hWF (Or.inl hg) hs h
  | square => exact receiver_valid_grid hWF (Or.inr (Or.inl hg)) hs h
  | torus => exact receiver_valid_grid hWF (Or.inr (Or.inr hg)) hs h
  | ring => exact receiver_valid_ring hWF hg hs h
  | bidring => exact receiver_valid_bidring hWF hg hs h
  | graph => exact receiver_valid_graph hWF hg hs h
  | fcmesh =>
    by_cases hd : d = dRANDOM
    · have := hrin hd
      simp only [RinOK, hg] at this
      exact receiver_valid_mesh hg hs this.1 h
    · exfalso
      unfold getReceiverV at h
      rw [if_neg (by omega)] at h
      simp [hg, getNeighborMesh, hd] at h
  | star =>
    by_cases hd : d = dRANDOM
    · have hr := hrin hd
      simp only [RinOK, hg] at hr
      by_cases h1 : T.regions = 1
      · -- single region: only the patched code is covered, and it answers INVALID_DIRECTION
        have hsf : sf = true := by
          rcases hstar with h' | h'
          · exact h'
          · exact absurd ⟨hg, h1⟩ h'
        exfalso
        have hs0 : src = 0 := by omega
        unfold getReceiverV at h
        rw [if_neg (by omega)] at h
        simp [hg, getNeighborStar, hd, hs0, hsf, h1] at h
      · refine receiver_valid_star hg hs ?_ h
        intro hs0
        have := hr hs0
        rw [if_neg h1] at this
        exact this
    · exfalso
      unfold getReceiverV at h
      rw [if_neg (by omega)] at h
      simp [hg, getNeighborStar, hd] at h

/-- **receiver_valid** (patched star; holds with and without the shuffle patch) -/
theorem receiver_valid (hf : Bool) : ReceiverValidStatement true hf :=
  fun _ _ _ _ _ _ _ hWF hs hrin h => receiver_validV true hf hWF hs hrin (Or.inl rfl) h

/-- F4c: on the pinned tree a star made of its centre only answers region 1, which does not exist
(`RandomRange(1, 0)` = 1). -/
theorem receiver_valid_orig_counterexample : ¬ ReceiverValidStatement false false := by
  intro h
  have := h { geom := .star, regions := 1, width := 0, height := 0, adj := [] } Arrays.init Arrays.init
    0 dRANDOM 1 [1] (by decide) (by decide) (fun _ _ => by simp) (by decide)
  exact absurd this.1 (by decide)

/-- the pinned tree is right everywhere else -/
theorem receiver_valid_orig_partial {T : Topo} (hWF : T.WF) {st st' : Arrays} {src d r : Nat} {rin : List Nat}
    (hs : src < T.regions) (hrin : d = dRANDOM → RinOK false T src rin)
    (hnot : ¬ (T.geom = .star ∧ T.regions = 1))
    (h : getReceiverOrig T st src d rin = (.region r, st')) :
    r < T.regions ∧ isNeighbor T src r = true :=
  receiver_validV false false hWF hs hrin (Or.inr hnot) h

/-! ## 2. `DIRECTION_RANDOM` finds a neighbour whenever one exists -/

/-- general form (any variant; for the unpatched shuffle the arrays must be in a reachable state) -/
theorem random_someV (sf hf : Bool) {T : Topo} (hWF : T.WF) {st : Arrays} {src : Nat} {rin : List Nat}
    (hs : src < T.regions) (hst : hf = true ∨ st.OK) (hrin : RinOK sf T src rin)
    (hpos : 0 < countDirections T src) :
    ∃ r, (getReceiverV sf hf T st src dRANDOM rin).1 = .region r := by
  by_cases hgrid : T.geom = .hexagon ∨ T.geom = .square ∨ T.geom = .torus
  · obtain ⟨a, hpa, e⟩ := getReceiverV_grid_random hgrid hs hst hrin
    rw [count_eq_validDirs (by rcases hgrid with h | h | h <;> simp only [h, true_or, or_true])] at hpos
    rw [e]
    exact firstValid_exists hpa (fixedDirs_ne _) (validDirs_pos.mp hpos)
  obtain ⟨hr1, hr2, hgeo⟩ := hWF
  unfold getReceiverV
  rw [if_neg (by omega)]
  cases hg : T.geom with
  | hexagon | square | torus => simp [hg] at hgrid
  | ring => exact ⟨_, by simp only [ringFixed]; rfl⟩
  | bidring =>
    simp only [hg, RinOK] at hrin ⊢
    cases rin with
    | nil => exact absurd rfl hrin
    | cons b rest =>
      exact getNeighborBidring_random_exists _ _ _ _
  | star =>
    simp only [hg, RinOK, countDirections, countDirectionsOrig] at hrin hpos ⊢
    by_cases hs0 : src = 0
    · have hr := hrin hs0
      simp only [hs0, if_true, sub64] at hpos
      have h1 : T.regions ≠ 1 := by omega
      rw [if_neg h1] at hr
      obtain ⟨k, hk, _⟩ := hr
      cases rin with
      | nil => simp at hk
      | cons k' rest => exact ⟨k', by simp [getNeighborStar, hs0, h1]⟩
    · exact ⟨0, by simp [getNeighborStar, hs0]⟩
  | fcmesh =>
    simp only [hg, RinOK, countDirections, countDirectionsOrig, sub64] at hrin hpos ⊢
    have h1 : T.regions ≠ 1 := by omega
    rcases hrin.2 with h | h
    · exact absurd h h1
    · obtain ⟨r, hr⟩ := meshLoop_exists h
      exact ⟨r, by simp [getNeighborMesh, h1, hr]⟩
  | graph =>
    simp only [hg, RinOK, countDirections, countDirectionsOrig, Topo.WFgeo] at hrin hpos hgeo ⊢
    have hlt : src < T.adj.length := by omega
    rw [List.getElem?_eq_getElem hlt] at hrin hpos
    simp only [Option.getD_some] at hrin hpos
    have hne : T.adj[src] ≠ [] := by intro h; rw [h] at hpos; simp at hpos
    obtain ⟨r, hr⟩ := graphWalk_exists hne hrin
    refine ⟨r, ?_⟩
    simp only [getNeighborGraph, List.getElem?_eq_getElem hlt]
    rw [hr, if_neg (by omega : ¬ T.adj[src].length = 0)]
    simp only [ne_eq, not_true_eq_false, if_false]

/-- general form of the other direction: nothing to choose from ⇒ `INVALID_DIRECTION`
(e.g. the 1x1 grids: the `assert` is compiled out, the function returns `INVALID_DIRECTION`) -/
theorem random_invalidV (sf hf : Bool) {T : Topo} (hWF : T.WF) {st : Arrays} {src : Nat} {rin : List Nat}
    (hs : src < T.regions) (hst : hf = true ∨ st.OK) (hrin : RinOK sf T src rin)
    (hstar : sf = true ∨ ¬ (T.geom = .star ∧ T.regions = 1))
    (hz : countDirections T src = 0) :
    (getReceiverV sf hf T st src dRANDOM rin).1 = .invalid := by
  by_cases hgrid : T.geom = .hexagon ∨ T.geom = .square ∨ T.geom = .torus
  · obtain ⟨a, hpa, e⟩ := getReceiverV_grid_random hgrid hs hst hrin
    rw [count_eq_validDirs (by rcases hgrid with h | h | h <;> simp only [h, true_or, or_true])] at hz
    rw [e]
    exact firstValid_none hpa (fixedDirs_ne _) (validDirs_eq_zero.mp hz)
  obtain ⟨hr1, hr2, hgeo⟩ := hWF
  unfold getReceiverV
  rw [if_neg (by omega)]
  cases hg : T.geom with
  | hexagon | square | torus => simp [hg] at hgrid
  | ring => simp [countDirections, countDirectionsOrig, hg] at hz
  | bidring => simp [countDirections, countDirectionsOrig, hg] at hz
  | star =>
    simp only [hg, countDirections, countDirectionsOrig] at hz ⊢
    by_cases hs0 : src = 0
    · simp only [hs0, if_true, sub64] at hz
      have h1 : T.regions = 1 := by omega
      have hsf : sf = true := by
        rcases hstar with h | h
        · exact h
        · exact absurd ⟨hg, h1⟩ h
      simp [getNeighborStar, hs0, h1, hsf]
    · simp [hs0] at hz
  | fcmesh =>
    simp only [hg, countDirections, countDirectionsOrig, sub64] at hz ⊢
    have h1 : T.regions = 1 := by omega
    simp [getNeighborMesh, h1]
  | graph =>
    simp only [hg, countDirections, countDirectionsOrig, Topo.WFgeo] at hz hgeo ⊢
    have hlt : src < T.adj.length := by omega
    rw [List.getElem?_eq_getElem hlt] at hz
    simp only [Option.getD_some] at hz
    simp only [getNeighborGraph, List.getElem?_eq_getElem hlt, hz, ne_eq, not_true_eq_false, if_false, if_true]

/-- whatever is asked, the direction arrays stay permutations of their initialisers -/
theorem arrays_ok_preserved (sf hf : Bool) (T : Topo) {st : Arrays} (src d : Nat) (rin : List Nat) (hst : st.OK) :
    (getReceiverV sf hf T st src d rin).2.OK := by
  unfold getReceiverV
  split
  · exact hst
  · cases T.geom
    case hexagon =>
      simp only
      split
      · exact ⟨gridRandom_perm.trans hst.1, hst.2⟩
      · exact hst
    case square | torus =>
      simp only
      split
      · exact ⟨hst.1, gridRandom_perm.trans hst.2⟩
      · exact hst
    all_goals exact hst

theorem arrays_init_ok : Arrays.init.OK := ⟨List.Perm.refl _, List.Perm.refl _⟩

/-- **random_valid**: a random receiver is a region of the topology that `IsNeighbor` confirms -/
theorem random_valid (hf : Bool) {T : Topo} (hWF : T.WF) {st st' : Arrays} {src r : Nat} {rin : List Nat}
    (hs : src < T.regions) (hrin : RinOK true T src rin)
    (h : getReceiverV true hf T st src dRANDOM rin = (.region r, st')) :
    r < T.regions ∧ isNeighbor T src r = true :=
  receiver_valid hf T st st' src dRANDOM r rin hWF hs (fun _ => hrin) h

/-- **random_some_if_any** (patched tree): if the source has a neighbour at all
(`CountDirections > 0`), `DIRECTION_RANDOM` returns one — valid as in `receiver_valid` -/
theorem random_some_if_any {T : Topo} (hWF : T.WF) (st : Arrays) {src : Nat} {rin : List Nat}
    (hs : src < T.regions) (hrin : RinOK true T src rin) (hpos : 0 < countDirections T src) :
    ∃ r, (getReceiver T st src dRANDOM rin).1 = .region r ∧ r < T.regions ∧ isNeighbor T src r = true := by
  obtain ⟨r, hr⟩ := random_someV true true hWF (st := st) hs (Or.inl rfl) hrin hpos
  exact ⟨r, hr, random_valid true hWF hs hrin (st := st) (st' := (getReceiver T st src dRANDOM rin).2)
    (by rw [← hr])⟩

/-- the same in terms of the fixed directions (grids and rings): some fixed direction has a valid
receiver ⇒ `DIRECTION_RANDOM` has one -/
theorem random_some_if_any_fixed {T : Topo} (hWF : T.WF) (st : Arrays) {src : Nat} {rin : List Nat}
    (hs : src < T.regions) (hrin : RinOK true T src rin)
    (hg : T.geom = .hexagon ∨ T.geom = .square ∨ T.geom = .torus ∨ T.geom = .ring ∨ T.geom = .bidring)
    (hex : ∃ d ∈ fixedDirs T.geom, recvFixed T src d ≠ none) :
    ∃ r, (getReceiver T st src dRANDOM rin).1 = .region r ∧ r < T.regions ∧ isNeighbor T src r = true := by
  apply random_some_if_any hWF st hs hrin
  rw [count_eq_validDirs hg]
  exact validDirs_pos.mpr hex

/-- **random_invalid_if_none** (patched tree): no neighbour ⇒ `INVALID_DIRECTION` (1x1 grids, single
region star/mesh, graph node without links) -/
theorem random_invalid_if_none {T : Topo} (hWF : T.WF) (st : Arrays) {src : Nat} {rin : List Nat}
    (hs : src < T.regions) (hrin : RinOK true T src rin) (hz : countDirections T src = 0) :
    (getReceiver T st src dRANDOM rin).1 = .invalid :=
  random_invalidV true true hWF hs (Or.inl rfl) hrin (Or.inl rfl) hz

/-- the pinned tree, from any reachable state of the static arrays, wherever the repaired count `countDirections`
is positive (the pinned `countDirectionsOrig` is wrong on some cells, section 3, so it is not what is assumed) -/
theorem random_some_if_any_orig_partial {T : Topo} (hWF : T.WF) {st : Arrays} {src : Nat} {rin : List Nat}
    (hs : src < T.regions) (hst : st.OK) (hrin : RinOK false T src rin)
    (hpos : 0 < countDirections T src) :
    ∃ r, (getReceiverOrig T st src dRANDOM rin).1 = .region r :=
  random_someV false false hWF hs (Or.inr hst) hrin hpos

/-! ## 3. `CountDirections` -/

/-- **count_eq_valid_dirs** (patched tree; hexagon, square, torus, ring, bidring):
`CountDirections(from)` = number of fixed directions `d` with `GetReceiver(from, d) != INVALID_DIRECTION` -/
theorem count_eq_valid_dirs {T : Topo} (st : Arrays) {src : Nat} (rin : List Nat) (hs : src < T.regions)
    (hg : T.geom = .hexagon ∨ T.geom = .square ∨ T.geom = .torus ∨ T.geom = .ring ∨ T.geom = .bidring) :
    countDirections T src =
      (fixedDirs T.geom).countP (fun d => decide ((getReceiver T st src d rin).1 ≠ .invalid)) := by
  rw [count_eq_validDirs hg, validDirs_spec true true st rin hs]

/-- **count_star**: the centre has `regions - 1` neighbours, a leaf one -/
theorem count_star {T : Topo} (hWF : T.WF) (hg : T.geom = .star) (src : Nat) :
    countDirections T src = if src = 0 then T.regions - 1 else 1 := by
  obtain ⟨h1, h2, _⟩ := hWF
  simp only [countDirections, countDirectionsOrig, hg, sub64_eq h1 (by omega : T.regions < U64)]

/-- **count_mesh**: every other region -/
theorem count_mesh {T : Topo} (hWF : T.WF) (hg : T.geom = .fcmesh) (src : Nat) :
    countDirections T src = T.regions - 1 := by
  obtain ⟨h1, h2, _⟩ := hWF
  simp only [countDirections, countDirectionsOrig, hg, sub64_eq h1 (by omega : T.regions < U64)]

/-- **count_graph**: after any sequence of accepted `AddTopologyLink` calls on a fresh graph the count of
`src` is the number of distinct targets linked from `src` — stated as: it is the length of a
duplicate-free list whose members are exactly those targets -/
theorem count_graph {n : Nat} {T0 T : Topo} {ops : List (Nat × Nat)} (h0 : initTopology 8 [n] = some T0)
    (h : addLinks T0 ops = some T) {src : Nat} (hs : src < T.regions) :
    ∃ l : List Nat, l.Nodup ∧ (∀ t, t ∈ l ↔ (src, t) ∈ ops) ∧ countDirections T src = l.length := by
  have _ := hs -- `adjacency[from]` is only defined for regions of the topology
  have hg0 : T0.geom = .graph ∧ T0.adj = List.replicate T0.regions [] := by
    simp only [initTopology, Geom.ofNat?, reduceCtorEq, or_self, if_false, if_true] at h0
    split at h0
    · cases h0
    · simp only [Option.some.injEq] at h0; subst h0; exact ⟨rfl, rfl⟩
  obtain ⟨hg', hr', hl', hn'⟩ := addLinks_spec hg0.1 h
  have hnb0 : T0.nbrs src = [] := by
    simp only [Topo.nbrs, hg0.2]
    cases h : (List.replicate T0.regions ([] : List Nat))[src]? with
    | none => rfl
    | some l =>
      have := List.mem_of_getElem? h
      simp only [List.mem_replicate] at this
      simp [this.2]
  refine ⟨T.nbrs src, (hn' src).1 (by rw [hnb0]; exact List.nodup_nil), ?_, ?_⟩
  · intro t
    rw [(hn' src).2 t, hnb0]
    simp
  · simp only [countDirections, countDirectionsOrig, hg', Topo.nbrs]

/-! ### the closed formulas of the pinned tree -/

/-- the statement for the pinned tree -/
def CountEqValidDirsOrigStatement : Prop :=
  ∀ (T : Topo) (src : Nat), T.WF → src < T.regions →
    (T.geom = .hexagon ∨ T.geom = .square ∨ T.geom = .torus ∨ T.geom = .ring ∨ T.geom = .bidring) →
    countDirectionsOrig T src = validDirs T src

/-- F4a witness: the single cell of a 1x1 square grid has no neighbour, the pinned tree says 2 -/
theorem count_orig_counterexample_square :
    countDirectionsOrig { geom := .square, regions := 1, width := 1, height := 1, adj := [] } 0 = 2 ∧
    validDirs { geom := .square, regions := 1, width := 1, height := 1, adj := [] } 0 = 0 := by decide

/-- F4b witnesses: 1x1 hexagon (1 instead of 0); 2x2 hexagon, last row (cells 2 and 3: 4 instead of 3,
1 instead of 2) -/
theorem count_orig_counterexample_hexagon :
    countDirectionsOrig { geom := .hexagon, regions := 1, width := 1, height := 1, adj := [] } 0 = 1 ∧
    validDirs { geom := .hexagon, regions := 1, width := 1, height := 1, adj := [] } 0 = 0 ∧
    countDirectionsOrig { geom := .hexagon, regions := 4, width := 2, height := 2, adj := [] } 2 = 4 ∧
    validDirs { geom := .hexagon, regions := 4, width := 2, height := 2, adj := [] } 2 = 3 ∧
    countDirectionsOrig { geom := .hexagon, regions := 4, width := 2, height := 2, adj := [] } 3 = 1 ∧
    validDirs { geom := .hexagon, regions := 4, width := 2, height := 2, adj := [] } 3 = 2 := by decide

theorem count_eq_valid_dirs_orig_counterexample : ¬ CountEqValidDirsOrigStatement := by
  intro h
  have := h { geom := .square, regions := 1, width := 1, height := 1, adj := [] } 0 (by decide) (by decide)
    (by decide)
  exact absurd this (by decide)

/-- where the closed formula for hexagons of the pinned tree is wrong -/
def hexCountBad (w h src : Nat) : Prop :=
  h = 1 ∨ (h % 2 = 0 ∧ 2 ≤ w ∧ src / w + 1 = h ∧ (src % w = 0 ∨ src % w + 1 = w))

/-- F4a, exact domain: the square formula of the pinned tree is right iff `width ≥ 2 ∧ height ≥ 2` -/
theorem count_square_orig_iff {T : Topo} (hWF : T.WF) (hg : T.geom = .square) {src : Nat} (hs : src < T.regions) :
    countDirectionsOrig T src = validDirs T src ↔ (2 ≤ T.width ∧ 2 ≤ T.height) := by
  have hA := (hWF.grid (Or.inr (Or.inl hg)) hs).1
  generalize src % T.width = x, src / T.width = y at hA
  have hx := hA.x_lt
  have hy := hA.y_lt
  rw [count_square_orig hg hA]
  split <;> split <;> omega

/-- F4b, exact domain: the hexagon formula of the pinned tree is right iff not `hexCountBad` -/
theorem count_hexagon_orig_iff {T : Topo} (hWF : T.WF) (hg : T.geom = .hexagon) {src : Nat} (hs : src < T.regions) :
    countDirectionsOrig T src = validDirs T src ↔ ¬ hexCountBad T.width T.height src := by
  unfold hexCountBad
  have hA := (hWF.grid (Or.inl hg) hs).1
  generalize src % T.width = x at hA ⊢
  generalize src / T.width = y at hA ⊢
  have hx := hA.x_lt
  have hy := hA.y_lt
  have e := count_hexagon_orig hg hA
  by_cases hp : y % 2 = 0
  · -- even rows: `x == 0 ? 1 : 2` is the right row count, but a single row is missing twice
    rw [hexRow, if_pos hp] at e
    have : 1 ≤ (if 1 ≤ x then 2 else 1) := by split <;> decide
    by_cases h1 : T.height = 1
    · rw [if_pos h1] at e
      exact iff_of_false (by omega) (fun hn => hn (Or.inl h1))
    · rw [if_neg h1] at e
      exact iff_of_true (by omega) (by omega)
  · -- odd rows are shifted east: the row count depends on `x + 1 < width`, not on `1 ≤ x`
    have h1 : ¬ T.height = 1 := fun h1 => by
      have h0 : y = 0 := Nat.lt_one_iff.mp (h1 ▸ hy)
      exact hp (by rw [h0])
    rw [hexRow, if_neg hp, if_neg h1] at e
    by_cases hB : y = 0 ∨ y + 1 = T.height
    · rw [if_pos hB, if_pos hB] at e
      have h3 : y + 1 = T.height := hB.resolve_left fun h0 => hp (by rw [h0])
      have h2 : T.height % 2 = 0 := by omega
      simp only [h1, h2, h3, true_and, false_or]
      clear hp hB hy h1 h2 h3
      by_cases hb : 1 ≤ x <;> by_cases ha : x + 1 < T.width <;> simp only [hb, ha, if_true, if_false] at e
      · exact iff_of_true (by omega) (by omega)  -- inner column
      · exact iff_of_false (by omega) (by omega)  -- last column
      · exact iff_of_false (by omega) (by omega)  -- first column
      · exact iff_of_true (by omega) (by omega)  -- width 1
    · rw [if_neg hB, if_neg hB] at e
      exact iff_of_true (by omega) (fun hb => hb.elim h1 fun ⟨_, _, h3, _⟩ => hB (Or.inr h3))

/-- the proved part of `CountEqValidDirsOrigStatement`: everything outside the two bad domains -/
theorem count_eq_valid_dirs_orig_partial {T : Topo} (hWF : T.WF) {src : Nat} (hs : src < T.regions)
    (hg : T.geom = .hexagon ∨ T.geom = .square ∨ T.geom = .torus ∨ T.geom = .ring ∨ T.geom = .bidring)
    (hsq : T.geom = .square → 2 ≤ T.width ∧ 2 ≤ T.height)
    (hhex : T.geom = .hexagon → ¬ hexCountBad T.width T.height src) :
    countDirectionsOrig T src = validDirs T src := by
  rcases hg with hg | hg | hg | hg | hg
  · exact (count_hexagon_orig_iff hWF hg hs).mpr (hhex hg)
  · exact (count_square_orig_iff hWF hg hs).mpr (hsq hg)
  · rw [← count_eq_validDirs (Or.inr (Or.inr (Or.inl hg)))]; simp only [countDirections, hg]
  · rw [← count_eq_validDirs (Or.inr (Or.inr (Or.inr (Or.inl hg))))]; simp only [countDirections, hg]
  · rw [← count_eq_validDirs (Or.inr (Or.inr (Or.inr (Or.inr hg))))]; simp only [countDirections, hg]

/-- `validDirs` is the API-level count also on the pinned tree -/
theorem validDirs_orig_spec {T : Topo} (st : Arrays) {src : Nat} (rin : List Nat) (hs : src < T.regions) :
    validDirs T src =
      (fixedDirs T.geom).countP (fun d => decide ((getReceiverOrig T st src d rin).1 ≠ .invalid)) :=
  validDirs_spec false false st rin hs

/-! ## 4. the random choice is a function of the caller's random inputs only -/

/-- **random_pure** (with `topology-shuffle-local.diff`): the receiver does not depend on the contents of the
file-scope arrays — there is no hidden state left that another LP, another thread or an earlier
(rolled back) execution could have changed — and the call does not modify them -/
theorem random_pure (sf : Bool) (T : Topo) (st st' : Arrays) (src d : Nat) (rin : List Nat) :
    (getReceiverV sf true T st src d rin).1 = (getReceiverV sf true T st' src d rin).1 ∧
    (getReceiverV sf true T st src d rin).2 = st := by
  unfold getReceiverV
  split
  · exact ⟨rfl, rfl⟩
  · cases T.geom
    -- the grids: with the patch `gridRandom` shuffles a copy of the initialiser and hands the array back
    case hexagon | square | torus =>
      simp only [gridRandom, if_true]
      split <;> exact ⟨rfl, rfl⟩
    all_goals exact ⟨rfl, rfl⟩

/-- the statement for the pinned tree (arrays in any two reachable states) -/
def RandomPureOrigStatement : Prop :=
  ∀ (T : Topo) (st st' : Arrays) (src : Nat) (rin : List Nat),
    T.WF → src < T.regions → st.OK → st'.OK → RinOK false T src rin →
    (getReceiverOrig T st src dRANDOM rin).1 = (getReceiverOrig T st' src dRANDOM rin).1

def sq33 : Topo := { geom := .square, regions := 9, width := 3, height := 3, adj := [] }

/-- F5 replay: the centre of a 3x3 square grid asks twice with the same draws `[1, 2, 3]` (a rollback
re-execution, or two LPs with equal generator state): first answer region 3, second answer region 1 -/
theorem random_impure_orig_replay :
    getReceiverOrig sq33 Arrays.init 4 dRANDOM [1, 2, 3] = (.region 3, ⟨hexDirs, [1, 2, 3, 0]⟩) ∧
    getReceiverOrig sq33 ⟨hexDirs, [1, 2, 3, 0]⟩ 4 dRANDOM [1, 2, 3] = (.region 1, ⟨hexDirs, [2, 3, 0, 1]⟩) := by
  decide

theorem random_pure_orig_counterexample : ¬ RandomPureOrigStatement := by
  intro h
  have hst : (getReceiverOrig sq33 Arrays.init 4 dRANDOM [1, 2, 3]).2.OK :=
    arrays_ok_preserved false false sq33 4 dRANDOM [1, 2, 3] arrays_init_ok
  have := h sq33 Arrays.init (getReceiverOrig sq33 Arrays.init 4 dRANDOM [1, 2, 3]).2 4 [1, 2, 3]
    (by decide) (by decide) arrays_init_ok hst (by simp [RinOK, sq33])
  rw [random_impure_orig_replay.1] at this
  rw [random_impure_orig_replay.2] at this
  exact absurd this (by decide)

/-- the proved part: the pinned tree is pure exactly where there is nothing to choose — all valid
fixed directions of the source lead to the same region (or the geometry does not use the arrays) -/
theorem random_pure_orig_partial {T : Topo} {st st' : Arrays} {src : Nat} {rin : List Nat}
    (hst : st.OK) (hst' : st'.OK) (hrin : RinOK false T src rin)
    (hco : ∀ d1 ∈ fixedDirs T.geom, ∀ d2 ∈ fixedDirs T.geom, ∀ r1 r2,
      recvFixed T src d1 = some r1 → recvFixed T src d2 = some r2 → r1 = r2) :
    (getReceiverOrig T st src dRANDOM rin).1 = (getReceiverOrig T st' src dRANDOM rin).1 := by
  unfold getReceiverOrig getReceiverV
  split
  · rfl
  · cases hg : T.geom
    case ring | bidring | star | fcmesh | graph => rfl
    all_goals simp only [hg, RinOK, fixedDirs, recvFixed, gridRandom] at hrin hco ⊢
    · exact getRandomNeighborOrig_coincide hst.1 hst'.1 (fixedDirs_ne .hexagon) hrin.1 hrin.2 hco
    · exact getRandomNeighborOrig_coincide hst.2 hst'.2 (fixedDirs_ne .square) hrin.1 hrin.2 hco
    · exact getRandomNeighborOrig_coincide hst.2 hst'.2 (fixedDirs_ne .square) hrin.1 hrin.2 hco

/-- … and the domain is exact: two valid fixed directions with different receivers (grids) ⇒ two
reachable array states and in-contract draws on which the pinned tree answers differently -/
theorem random_pure_orig_exact {T : Topo} {src d1 d2 r1 r2 : Nat}
    (hg : T.geom = .hexagon ∨ T.geom = .square ∨ T.geom = .torus) (hs : src < T.regions)
    (h1 : d1 ∈ fixedDirs T.geom) (h2 : d2 ∈ fixedDirs T.geom)
    (hf1 : recvFixed T src d1 = some r1) (hf2 : recvFixed T src d2 = some r2) (hne : r1 ≠ r2) :
    ∃ st st' rin, st.OK ∧ st'.OK ∧ RinOK false T src rin ∧
      (getReceiverOrig T st src dRANDOM rin).1 ≠ (getReceiverOrig T st' src dRANDOM rin).1 := by
  obtain ⟨a, a', js, hp, hp', hl, hj, hd⟩ :=
    getRandomNeighborOrig_differ (fixedDirs_ne T.geom) h1 h2 hf1 hf2 hne
  obtain ⟨st, hst, e⟩ := Arrays.exists_of hg hp
  obtain ⟨st', hst', e'⟩ := Arrays.exists_of hg hp'
  refine ⟨st, st', js, hst, hst', (RinOK.grid_iff hg).2 ⟨hl, hj⟩, ?_⟩
  rw [getReceiverOrig, getReceiverV_grid_random_eq false false st js hg hs,
    getReceiverV_grid_random_eq false false st' js hg hs, e, e']
  exact hd

/-! ## Non-vacuity: concrete, non-trivial instances meet the hypotheses of the theorems above -/

/-- a 3x4 hexagon grid (height 3, width 4) as `InitializeTopology(TOPOLOGY_HEXAGON, 3, 4)` makes it -/
def hex34 : Topo := { geom := .hexagon, regions := 12, width := 4, height := 3, adj := [] }
example : initTopology 1 [3, 4] = some hex34 := by decide
example : hex34.WF ∧ sq33.WF := by decide
example : RinOK true hex34 5 [3, 1, 4, 5, 4] := by simp [RinOK, hex34]
example : 0 < countDirections hex34 5 ∧ countDirections hex34 5 = 6 ∧ countDirections hex34 0 = 2 := by decide
example : (getReceiver hex34 Arrays.init 5 dRANDOM [3, 1, 4, 5, 4]).1 = .region 1 := by decide
example : isNeighbor hex34 5 1 = true ∧ isNeighbor hex34 5 11 = false := by decide
/-- both kinds of hexagon cells exist: where the pinned formula is right and where it is wrong -/
example : ¬ hexCountBad 4 3 5 ∧ hexCountBad 4 2 4 ∧ hexCountBad 4 1 2 := by
  unfold hexCountBad; decide
/-- the 1x1 grids have nothing to choose from -/
example : countDirections { geom := .torus, regions := 1, width := 1, height := 1, adj := [] } 0 = 4 ∧
    countDirections { geom := .square, regions := 1, width := 1, height := 1, adj := [] } 0 = 0 ∧
    (getReceiver { geom := .square, regions := 1, width := 1, height := 1, adj := [] } Arrays.init 0 dRANDOM
      [0, 1, 2]).1 = .invalid := by decide
/-- star and mesh contracts are satisfiable, with and without neighbours -/
example : RinOK true { geom := .star, regions := 5, width := 0, height := 0, adj := [] } 0 [3] := by
  simp [RinOK]
example : RinOK true { geom := .star, regions := 1, width := 0, height := 0, adj := [] } 0 [] := by
  simp [RinOK]
example : RinOK false { geom := .fcmesh, regions := 4, width := 0, height := 0, adj := [] } 2 [2, 2, 3] := by
  simp [RinOK]
/-- a graph built through the API: 3 regions, links 0→1, 0→2, 0→1 (again), 1→0 -/
example : ∃ T0 T, initTopology 8 [3] = some T0 ∧ addLinks T0 [(0, 1), (0, 2), (0, 1), (1, 0)] = some T ∧
    T.WF ∧ countDirections T 0 = 2 ∧ countDirections T 2 = 0 ∧
    (getReceiver T Arrays.init 0 dRANDOM [1, 0]).1 = .region 2 :=
  ⟨_, _, rfl, rfl, by decide, by decide, by decide, by decide⟩
/-- `random_pure_orig_exact` applies to the centre of the 3x3 grid (E → 5, W → 3) -/
example : recvFixed sq33 4 dE = some 5 ∧ recvFixed sq33 4 dW = some 3 := by decide
/-- `random_pure_orig_partial` applies non-trivially: a 1x2 square grid, the only neighbour of cell 0 is 1 -/
def sq12 : Topo := { geom := .square, regions := 2, width := 2, height := 1, adj := [] }
example : ∀ d1 ∈ fixedDirs sq12.geom, ∀ d2 ∈ fixedDirs sq12.geom, ∀ r1 r2,
    recvFixed sq12 0 d1 = some r1 → recvFixed sq12 0 d2 = some r2 → r1 = r2 := by
  have hE : recvFixed sq12 0 dE = some 1 := by decide
  have hW : recvFixed sq12 0 dW = none := by decide
  have hN : recvFixed sq12 0 dN = none := by decide
  have hS : recvFixed sq12 0 dS = none := by decide
  intro d1 h1 d2 h2 r1 r2 e1 e2
  simp only [sq12, fixedDirs, List.mem_cons, List.not_mem_nil, or_false] at h1 h2
  rcases h1 with rfl | rfl | rfl | rfl <;> rcases h2 with rfl | rfl | rfl | rfl <;> simp_all

end RootSim.C19
