import RootSim.Proofs.AllocInv
/-!
# C13 (allocator level) — fossil collection never discards what a legal rollback can need

Model: `fossil` (= `model_allocator_fossil_lp_collect`), `ckptRestore`, `keepUpTo` (the unchecked
backward scans over `logs`) of `RootSim/Model/Alloc.lean`.  The LP-level part (gvt/fossil.c) is in
`Props/C05LP.lean`.
-/
namespace RootSim.C13.Alloc
open RootSim.Alloc

/-- the rebasing `ref_i -= r` -/
def rebase (r : Nat) (l : Nat × Ckpt) : Nat × Ckpt := (l.1 - r, l.2)

/-! ## invariants of `logs` -/

/-- `ref_i` strictly increasing in every reachable state (the contract of `take` — the caller passes a
`ref_i` larger than all logged ones — is part of `step`) -/
theorem logs_sorted {c : Cfg} {s : MM} (hI : Inv c s) : (s.logs.map (·.1)).Pairwise (· < ·) :=
  hI.choose_spec.sorted

/-- the log is non-empty after a take -/
theorem logs_nonempty_take (c : Cfg) (s : MM) (ref : Nat) : (ckptTake c s ref).logs ≠ [] := by
  simp [ckptTake]

theorem restore_logs {c : Cfg} {s s' : MM} {x r : Nat} (h : ckptRestore c s x = some (s', r)) :
    ∃ k rest, s'.logs ≠ [] ∧ s.logs = s'.logs ++ rest ∧ s'.logs.getLast? = some (r, k) ∧ r ≤ x ∧
      ∀ e ∈ rest, x < e.1 := by
  unfold ckptRestore at h
  simp only at h
  split at h
  · cases h
  · rename_i r' k hl
    obtain ⟨rest, h1, h2, h3⟩ := keepUpTo_spec x s.logs
    cases h
    exact ⟨k, rest, fun hn : keepUpTo x s.logs = [] => (by rw [hn] at hl; cases hl), h1, hl, h3 _ hl, h2⟩

/-! ## what fossil collection keeps -/

/-- in a sorted log the entries with `ref_i ≥ r` are those from the entry `r` on -/
theorem filter_ge {ys K : List (Nat × Ckpt)} {r : Nat} (h1 : ∀ e ∈ ys, e.1 < r) (h2 : ∀ e ∈ K, r ≤ e.1) :
    (ys ++ K).filter (fun l => decide (r ≤ l.1)) = K := by
  rw [List.filter_append, List.filter_eq_nil_iff.2 fun a ha h => Nat.not_le.2 (h1 a ha) (of_decide_eq_true h),
    List.filter_eq_self.2 fun a ha => decide_eq_true (h2 a ha), List.nil_append]

/-- `model_allocator_fossil_lp_collect(tgt)` returns `r` = the largest logged `ref_i ≤ tgt` (so a
checkpoint with `ref ≤ tgt` is kept); the kept logs are exactly those with `ref_i ≥ r`, rebased by
`−r` (so `kept[0].ref_i = 0`); only earlier ones are dropped; nothing else changes. -/
theorem fossil_keeps {c : Cfg} {s s' : MM} {tgt r : Nat} (hI : Inv c s) (h : fossil s tgt = some (s', r)) :
    r ≤ tgt ∧ (∃ k, (r, k) ∈ s.logs) ∧ (∀ l ∈ s.logs, l.1 ≤ tgt → l.1 ≤ r) ∧
    s'.logs = (s.logs.filter fun l => decide (r ≤ l.1)).map (rebase r) ∧
    (∃ k rest, s'.logs = (0, k) :: rest ∧ (r, k) ∈ s.logs) ∧
    s'.arenas = s.arenas ∧ s'.full = s.full ∧ s'.nextId = s.nextId := by
  obtain ⟨snaps, hG⟩ := hI
  obtain ⟨_, ys, k, rest, S1, σ, S2, hS, hbelow, habove, rfl⟩ := fossil_spec hG h
  have hlogs : s.logs = ys ++ (r, k) :: rest := hS.logs
  have hk : (r, k) ∈ s.logs := by rw [hlogs]; exact List.mem_append_right _ List.mem_cons_self
  refine ⟨hS.le, ⟨k, hk⟩, ?_, ?_, ⟨k, _, rfl, hk⟩, rfl, rfl, rfl⟩
  · rw [hlogs]
    exact List.forall_mem_append.2 ⟨fun l hl _ => Nat.le_of_lt (hbelow l hl),
      List.forall_mem_cons.2 ⟨fun _ => Nat.le_refl _, fun l hl hle => absurd (hS.above l hl) (Nat.not_lt.2 hle)⟩⟩
  · rw [hlogs, filter_ge hbelow (List.forall_mem_cons.2 ⟨Nat.le_refl r, fun a ha => Nat.le_of_lt (habove a ha)⟩)]
    simp [rebase]

/-- `logs[0].ref_i = 0` after any fossil collection, and from then on forever -/
def FirstRefZero (s : MM) : Prop := ∃ k rest, s.logs = (0, k) :: rest

theorem firstRefZero_after_fossil {c : Cfg} {s s' : MM} {tgt r : Nat} (hI : Inv c s)
    (h : fossil s tgt = some (s', r)) : FirstRefZero s' := by
  obtain ⟨_, _, _, _, ⟨k, rest, q, _⟩, _⟩ := fossil_keeps hI h
  exact ⟨k, rest, q⟩

/-- What one API call does to the log: nothing (user-level operations), a new last entry (take), a cut
to a non-empty prefix (restore), or a restart from `ref_i = 0` (fossil collection). -/
theorem step_logs {c : Cfg} (hc : c.ok) {s s' : MM} {op : Op} {r : Ret} (hI : Inv c s)
    (h : step c s op = some (s', r)) :
    s'.logs = s.logs ∨ (∃ ref, op = .take ref ∧ s'.logs = s.logs ++ [(ref, mkCkpt c s)]) ∨
    (s'.logs ≠ [] ∧ ∃ rest, s.logs = s'.logs ++ rest) ∨ FirstRefZero s' := by
  by_cases hu : op.isUser = true
  · exact Or.inl (step_user_logs hc hI.inv0 hu h)
  · rcases step_ckpt_cases (Bool.eq_false_iff.2 hu) h with ⟨ref, rfl, -, rfl⟩ | ⟨x, q, rfl, hr⟩ | ⟨x, q, rfl, hf⟩
    · exact Or.inr (Or.inl ⟨ref, rfl, rfl⟩)
    · obtain ⟨_, rest, q1, q2, _⟩ := restore_logs hr
      exact Or.inr (Or.inr (Or.inl ⟨q1, rest, q2⟩))
    · exact Or.inr (Or.inr (Or.inr (firstRefZero_after_fossil hI hf)))

theorem logs_nonempty_step {c : Cfg} (hc : c.ok) {s s' : MM} {op : Op} {r : Ret} (hI : Inv c s)
    (hne : s.logs ≠ []) (h : step c s op = some (s', r)) : s'.logs ≠ [] := by
  rcases step_logs hc hI h with e | ⟨_, _, e⟩ | ⟨q, _⟩ | ⟨_, _, e⟩
  · rw [e]; exact hne
  · rw [e]; exact List.append_ne_nil_of_right_ne_nil _ (List.cons_ne_nil _ _)
  · exact q
  · rw [e]; exact List.cons_ne_nil _ _

theorem firstRefZero_step {c : Cfg} (hc : c.ok) {s s' : MM} {op : Op} {r : Ret} (hI : Inv c s)
    (hz : FirstRefZero s) (h : step c s op = some (s', r)) : FirstRefZero s' := by
  obtain ⟨k0, rest0, hz⟩ := hz
  rcases step_logs hc hI h with e | ⟨_, _, e⟩ | ⟨q, rest, e⟩ | hf
  · exact ⟨k0, rest0, e.trans hz⟩
  · exact ⟨k0, rest0 ++ _, by rw [e, hz]; rfl⟩
  · cases hl : s'.logs with
    | nil => exact absurd hl q
    | cons a t =>
      rw [hl, hz, List.cons_append, List.cons.injEq] at e
      exact ⟨k0, t, by rw [e.1]; exact hl⟩
  · exact hf

/-! ## the unchecked backward scans -/

/-- **Precondition of the scans** of `model_allocator_checkpoint_restore(ref)` and
`model_allocator_fossil_lp_collect(ref)`: some logged `ref_i` is `≤ ref`.  Otherwise the C loops read
`logs[-1]`, `logs[-2]`, … (undefined behaviour; `none` in the model). -/
def ScanSafe (s : MM) (x : Nat) : Prop := ∃ l ∈ s.logs, l.1 ≤ x

theorem restore_defined_iff (c : Cfg) (s : MM) (x : Nat) : (ckptRestore c s x).isSome ↔ ScanSafe s x := by
  constructor
  · intro h
    obtain ⟨⟨s', r⟩, h⟩ := Option.isSome_iff_exists.1 h
    obtain ⟨k, rest, q1, q2, q3, q4, _⟩ := restore_logs h
    exact ⟨(r, k), by rw [q2]; exact List.mem_append_left _ (List.mem_of_getLast? q3), q4⟩
  · rintro ⟨l, hl, hx⟩; exact ckptRestore_isSome hl hx

theorem fossil_defined_iff (s : MM) (x : Nat) : (fossil s x).isSome ↔ ScanSafe s x := by
  constructor
  · intro h
    cases hl : (keepUpTo x s.logs).getLast? with
    | none => simp [fossil, hl] at h
    | some v =>
      obtain ⟨rest, h1, h2, h3⟩ := keepUpTo_spec x s.logs
      exact ⟨v, by rw [h1]; exact List.mem_append_left _ (List.mem_of_getLast? hl), h3 _ hl⟩
  · rintro ⟨l, hl, hx⟩; exact fossil_isSome hl hx

/-- the callers' invariant: the first log's `ref_i` is at most `r0` -/
def Low (r0 : Nat) (s : MM) : Prop := ∀ l rest, s.logs = l :: rest → l.1 ≤ r0

theorem scanSafe_of_low {r0 : Nat} {s : MM} (hl : Low r0 s) (hne : s.logs ≠ []) {x : Nat} (hx : r0 ≤ x) :
    ScanSafe s x := by
  cases h : s.logs with
  | nil => exact absurd h hne
  | cons l rest => exact ⟨l, by rw [h]; exact List.mem_cons_self, Nat.le_trans (hl l rest h) hx⟩

theorem low_step {c : Cfg} (hc : c.ok) {r0 : Nat} {s s' : MM} {op : Op} {r : Ret} (hI : Inv c s)
    (hl : Low r0 s) (hfirst : ∀ ref, op = .take ref → s.logs = [] → ref ≤ r0)
    (h : step c s op = some (s', r)) : Low r0 s' := by
  intro l t hlt
  rcases step_logs hc hI h with e | ⟨ref, hop, e⟩ | ⟨_, rest, e⟩ | ⟨k, t', e⟩
  · exact hl l t (e ▸ hlt)
  · rw [hlt] at e
    cases hs : s.logs with
    | nil => rw [hs] at e; cases e; exact hfirst ref hop hs
    | cons a u => rw [hs] at e; cases e; exact hl _ _ hs
  · exact hl l (t ++ rest) (by rw [e, hlt]; rfl)
  · rw [hlt] at e; cases e; exact Nat.zero_le _

/-- The usage pattern "the first take has `ref ≤ r0`, nothing is restored or collected before it, and
every later restore / fossil target is `≥ r0`" (`taken` = a take has happened). -/
def usageOk (r0 : Nat) : Bool → List Op → Bool
  | _, [] => true
  | false, .take ref :: ops => decide (ref ≤ r0) && usageOk r0 true ops
  | false, .restore _ :: _ => false
  | false, .fossil _ :: _ => false
  | true, .restore x :: ops => decide (r0 ≤ x) && usageOk r0 true ops
  | true, .fossil x :: ops => decide (r0 ≤ x) && usageOk r0 true ops
  | t, _ :: ops => usageOk r0 t ops

theorem usageOk_cons_user {r0 : Nat} {t : Bool} {o : Op} {ops : List Op} (hu : o.isUser = true) :
    usageOk r0 t (o :: ops) = usageOk r0 t ops := by
  cases o <;> cases t <;> first | rfl | cases hu

/-- the invariant of a history that follows the pattern: no log before the first take, afterwards a
non-empty log whose first `ref_i` is at most `r0` -/
def Tracked (r0 : Nat) : Bool → MM → Prop
  | true, s => s.logs ≠ [] ∧ Low r0 s
  | false, s => s.logs = []

theorem tracked_step {c : Cfg} (hc : c.ok) {r0 : Nat} {t : Bool} {s s' : MM} {o : Op} {ops : List Op} {r : Ret}
    (hI : Inv c s) (ht : Tracked r0 t s) (hu : usageOk r0 t (o :: ops) = true)
    (h : step c s o = some (s', r)) : ∃ t', Tracked r0 t' s' ∧ usageOk r0 t' ops = true := by
  by_cases huo : o.isUser = true
  · refine ⟨t, ?_, usageOk_cons_user huo ▸ hu⟩
    have e := step_user_logs hc hI.inv0 huo h
    cases t with
    | false => exact e.trans ht
    | true => exact ⟨e ▸ ht.1, fun l rest hl => ht.2 l rest (e ▸ hl)⟩
  · refine ⟨true, ?_⟩
    cases t with
    | false =>
      -- only a take is allowed, and it is the first one
      have hl0 : s.logs = [] := ht
      rcases step_ckpt_cases (Bool.eq_false_iff.2 huo) h with ⟨ref, rfl, -, rfl⟩ | ⟨x, q, rfl, -⟩ | ⟨x, q, rfl, -⟩
      · obtain ⟨h1, h2⟩ := Bool.and_eq_true_iff.1 hu
        exact ⟨⟨logs_nonempty_take c s ref, low_step hc hI (fun l rest e => by rw [hl0] at e; cases e)
          (fun ref' e _ => by cases e; exact of_decide_eq_true h1) h⟩, h2⟩
      · cases hu
      · cases hu
    | true =>
      obtain ⟨hne, hlow⟩ := ht
      refine ⟨⟨logs_nonempty_step hc hI hne h, low_step hc hI hlow (fun _ _ e => absurd e hne) h⟩, ?_⟩
      cases o <;> first | exact (Bool.and_eq_true_iff.1 hu).2 | exact hu | cases huo rfl

/-- **the scans never run below index 0 under the usage pattern**: whenever a history following the
pattern reaches a restore / fossil call, `ScanSafe` holds for it. -/
theorem usage_pattern_scans_safe {c : Cfg} (hc : c.ok) {r0 : Nat} {pre post : List Op} {op : Op} {s : MM}
    (hu : usageOk r0 false (pre ++ op :: post) = true) (hrun : run c (MM.init c) pre = some s) :
    (∀ x, op = .restore x → ScanSafe s x) ∧ (∀ x, op = .fossil x → ScanSafe s x) := by
  have key : ∀ (pre : List Op) (t : Bool) (s0 : MM), Inv c s0 → Tracked r0 t s0 →
      usageOk r0 t (pre ++ op :: post) = true → run c s0 pre = some s →
      (∀ x, op = .restore x → ScanSafe s x) ∧ (∀ x, op = .fossil x → ScanSafe s x) := by
    intro pre
    induction pre with
    | nil =>
      intro t s0 hI ht hu hr
      cases hr
      cases t with
      | false => constructor <;> (rintro x rfl; cases hu)
      | true =>
        obtain ⟨hne, hlow⟩ := ht
        constructor <;> (rintro x rfl; exact scanSafe_of_low hlow hne (of_decide_eq_true (Bool.and_eq_true_iff.1 hu).1))
    | cons o pre ih =>
      intro t s0 hI ht hu hr
      simp only [run] at hr
      split at hr
      · rename_i s1 r hs
        obtain ⟨t', ht', hu'⟩ := tracked_step hc hI ht hu hs
        exact ih t' s1 (hI.step hc hs) ht' hu' hr
      · cases hr
  exact key pre false (MM.init c) (Inv.init c) rfl hu hrun

/-! ## restores after fossil collection -/

/-- **Restore commutes with fossil collection**: if fossil collection returned `r`, then for every
target `x ≥ r`, `restore (x − r)` afterwards finds a log (never runs off the beginning), chooses the
same checkpoint as `restore x` would have before the collection, returns its rebased `ref_i`, and
produces the same allocator state; the logs differ exactly by the dropped prefix and the rebasing. -/
theorem restore_after_fossil {c : Cfg} {s sf : MM} {tgt r : Nat} (hI : Inv c s)
    (hf : fossil s tgt = some (sf, r)) {x : Nat} (hx : r ≤ x) :
    ∃ s1 q s2, ckptRestore c s x = some (s1, q) ∧ r ≤ q ∧ ckptRestore c sf (x - r) = some (s2, q - r) ∧
      s2.arenas = s1.arenas ∧ s2.full = s1.full ∧ s2.nextId = s1.nextId ∧
      s2.logs = (s1.logs.filter fun l => decide (r ≤ l.1)).map (rebase r) := by
  obtain ⟨snaps, hG⟩ := hI
  obtain ⟨_, ys, k, rest, S1, σ, S2, hS, hbelow, habove, hsf'⟩ := fossil_spec hG hf
  have hlogs : s.logs = ys ++ (r, k) :: rest := hS.logs
  have hK : keepUpTo x ((r, k) :: rest) ≠ [] := keepUpTo_ne_nil (e := (r, k)) List.mem_cons_self hx
  have hall : ∀ e ∈ (r, k) :: rest, r ≤ e.1 :=
    List.forall_mem_cons.2 ⟨Nat.le_refl r, fun e he => Nat.le_of_lt (habove e he)⟩
  have e1 : keepUpTo x s.logs = ys ++ keepUpTo x ((r, k) :: rest) := by
    rw [hlogs]; exact keepUpTo_append x ys _ hK
  have hsf : sf.logs = ((r, k) :: rest).map (rebase r) := by rw [hsf']; simp [rebase]
  have e2 : keepUpTo (x - r) sf.logs = (keepUpTo x ((r, k) :: rest)).map (rebase r) := by
    rw [hsf]; exact keepUpTo_rebase x r ((r, k) :: rest) hall hx
  have hsub : ∀ e ∈ keepUpTo x ((r, k) :: rest), r ≤ e.1 := fun e he => hall e (keepUpTo_sub x _ e he)
  generalize keepUpTo x ((r, k) :: rest) = K at *
  obtain ⟨⟨q, kq⟩, hq⟩ : ∃ v, K.getLast? = some v :=
    Option.ne_none_iff_exists'.1 fun h => hK (List.getLast?_eq_none_iff.1 h)
  have hq1 : (ys ++ K).getLast? = some (q, kq) := by rw [List.getLast?_append, hq]; rfl
  have hq2 : (K.map (rebase r)).getLast? = some (q - r, kq) := by rw [List.getLast?_map, hq]; rfl
  have hsa : sf.arenas = s.arenas := by rw [hsf']
  cases hra : restoreArenas c.T s.arenas.reverse kq.recs with
  | mk as n =>
    refine ⟨{ s with arenas := as.reverse, full := kq.size + n * c.perArena, logs := ys ++ K }, q,
      { sf with arenas := as.reverse, full := kq.size + n * c.perArena, logs := K.map (rebase r) },
      ?_, hsub _ (List.mem_of_getLast? hq), ?_, rfl, rfl, by rw [hsf'], ?_⟩
    · simp only [ckptRestore, e1, hq1, hra]
    · simp only [ckptRestore, e2, hq2, hsa, hra]
    · simp only
      rw [filter_ge hbelow hsub]

/-- after a fossil collection every restore target finds a log -/
theorem restore_defined_after_fossil {c : Cfg} {s sf : MM} {tgt r : Nat} (hI : Inv c s)
    (hf : fossil s tgt = some (sf, r)) (y : Nat) : (ckptRestore c sf y).isSome := by
  obtain ⟨k, rest, q⟩ := firstRefZero_after_fossil hI hf
  exact ckptRestore_isSome (e := (0, k)) (by rw [q]; simp) (Nat.zero_le _)

/-- … and yields the exact state of the chosen checkpoint (C05 `restore_exact` holds in the
instrumented state after the collection: the snapshots are dropped together with their logs) -/
theorem restore_exact_after_fossil {c : Cfg} (hc : c.ok) {g gf : GS} (hG : GInv c g) {tgt : Nat} {rr : Ret}
    (hf : gstep c g (.fossil tgt) = some (gf, rr)) : GInv c gf ∧
    gf.snaps = g.snaps.drop (g.snaps.length - gf.s.logs.length) ∧ gf.snaps.length = gf.s.logs.length := by
  have hGf := hG.step hc hf
  exact ⟨hGf, (gstep_some hf).2.2.2.1 _ rfl, by simpa using (congrArg List.length hGf.cks).symm⟩

/-! ## non-vacuity -/

def cTiny : Cfg := ⟨3, 1, 5, 16, fun i o => i + o, false⟩
theorem cTiny_ok : cTiny.ok := ⟨by decide, by decide⟩

def hist : List Op :=
  [.take 0, .malloc 3 0, .take 2, .malloc 2 0, .take 5, .free (some ⟨0, 0⟩), .take 6]

example : ((run cTiny (MM.init cTiny) hist).bind fun s => (fossil s 5).map fun r =>
    (r.2, r.1.logs.map (·.1))) = some (5, [0, 1]) := by decide +kernel

example : ((run cTiny (MM.init cTiny) hist).bind fun s => (fossil s 4).map fun r =>
    (r.2, r.1.logs.map (·.1))) = some (2, [0, 3, 4]) := by decide +kernel

example : usageOk 0 false (hist ++ [.fossil 4, .restore 1, .take 2, .fossil 0]) = true := by decide +kernel

example : (run cTiny (MM.init cTiny) (hist ++ [.fossil 4, .restore 1, .take 2, .fossil 0])).isSome = true := by
  decide +kernel

end RootSim.C13.Alloc
