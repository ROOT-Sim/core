import RootSim.Proofs.AllocMM
/-! Helper lemmas about checkpoints: size of a checkpoint, `checkpoint_full_restore`, the arena
matching loop of `model_allocator_checkpoint_restore`, the backward scans over `logs`. -/
namespace RootSim.Alloc

/-- the record `checkpoint_full_take` writes for one arena -/
def recOf (T : Nat) (a : Arena) : BCkpt := ⟨a.id, a.tree, a.tree.saved T a.mem⟩

theorem mkCkpt_eq (c : Cfg) (s : MM) : mkCkpt c s = ⟨s.full, s.arenas.reverse.map (recOf c.T)⟩ := rfl

/-- the regions `buddy_tree_visit` reports lie inside `base_mem` -/
theorem visit_inside {c : Cfg} (hc : c.ok) {a : Arena} (ha : ArenaOk c a) :
    ∀ r ∈ a.tree.visit c.T 0, r.1 + r.2 ≤ a.mem.length := by
  intro r hr
  rw [ha.2, ← Nat.zero_add (2 ^ c.T)]; exact (BT.visit_bounds hc.1 ha.1 hr).2

theorem saved_length' {c : Cfg} (hc : c.ok) {a : Arena} (ha : ArenaOk c a) :
    (a.tree.saved c.T a.mem).length = a.tree.liveBytes c.T :=
  (saved_length (visit_inside hc ha)).trans (BT.visit_sum hc.1 ha.1 0)

/-- C05 `ckpt_size_exact`, arena-list level -/
theorem written_mkCkpt {c : Cfg} (hc : c.ok) {s : MM} (hI : Inv0 c s) : (mkCkpt c s).written c = s.full := by
  rw [hI.full, mkCkpt_eq]
  unfold Ckpt.written sizeOf
  simp only
  rw [List.map_map, List.map_reverse, List.sum_reverse]
  congr 2
  apply List.map_congr_left
  intro a ha
  simp [recOf, saved_length' hc (hI.ok a ha)]

/-- `checkpoint_full_restore` of the record taken from `m` into an arena at the same address -/
theorem restore_rec {c : Cfg} (hc : c.ok) {a m : Arena} (ha : a.mem.length = 2 ^ c.T) (hm : ArenaOk c m) :
    (a.restore c.T (recOf c.T m)).id = a.id ∧ (a.restore c.T (recOf c.T m)).tree = m.tree ∧
    (a.restore c.T (recOf c.T m)).mem.length = 2 ^ c.T ∧
    ∀ b ∈ m.tree.blocks c.T 0,
      readAt (a.restore c.T (recOf c.T m)).mem b.1 (2 ^ b.2) = readAt m.mem b.1 (2 ^ b.2) := by
  obtain ⟨h1, h2⟩ := restoreMem_saved (m.tree.visit c.T 0) m.mem a.mem (by rw [ha, hm.2]) (visit_inside hc hm)
  refine ⟨rfl, rfl, h1.trans ha, fun b hb => readAt_ext fun i hi1 hi2 => ?_⟩
  exact (h2 i).1 (BT.visit_cover hc.1 hm.1 (o' := b.1) (j := b.2) hb hi1 hi2)

theorem ArenaOk_reinit {c : Cfg} (hc : c.ok) {a : Arena} (ha : a.mem.length = 2 ^ c.T) : ArenaOk c a.reinit :=
  ⟨by simpa [Arena.reinit] using hc.2, ha⟩

@[simp] theorem liveBytes_free (T) : BT.free.liveBytes T = 0 := rfl

/-- one step of the arena loop: the arena is not the one of the next record (or there is none) -/
theorem restoreArenas_cons_ne {T : Nat} {a : Arena} {L : List Arena} {recs : List BCkpt}
    (h : ∀ r ∈ recs.head?, r.orig ≠ a.id) :
    restoreArenas T (a :: L) recs = (a.reinit :: (restoreArenas T L recs).1, (restoreArenas T L recs).2 + 1) := by
  cases recs with
  | nil => rfl
  | cons r recs => simp only [restoreArenas, if_neg (h r rfl)]

theorem restoreArenas_cons_eq {T : Nat} {a : Arena} {L : List Arena} {r : BCkpt} {recs : List BCkpt}
    (h : r.orig = a.id) :
    restoreArenas T (a :: L) (r :: recs) = (a.restore T r :: (restoreArenas T L recs).1, (restoreArenas T L recs).2) := by
  simp only [restoreArenas, if_pos h]

/-- The arena loop of `model_allocator_checkpoint_restore`: `L` = current arenas in processing order,
`M` = the arenas that existed at the checkpoint (same order; a sub-sequence by identity). -/
theorem restoreArenas_spec {c : Cfg} (hc : c.ok) (L M : List Arena) (hL : ∀ a ∈ L, a.mem.length = 2 ^ c.T)
    (hM : ∀ m ∈ M, ArenaOk c m) (hn : (ids L).Nodup) (hsub : (ids M).Sublist (ids L)) :
    ∃ as n, restoreArenas c.T L (M.map (recOf c.T)) = (as, n) ∧ ids as = ids L ∧
      n + M.length = L.length ∧ (∀ a ∈ as, ArenaOk c a) ∧
      (∀ m ∈ M, ∃ a' ∈ as, a'.id = m.id ∧ a'.tree = m.tree ∧
        ∀ b ∈ m.tree.blocks c.T 0, readAt a'.mem b.1 (2 ^ b.2) = readAt m.mem b.1 (2 ^ b.2)) ∧
      (∀ a' ∈ as, a'.id ∉ ids M → a'.tree = .free) ∧
      sizeOf c as = sizeOf c M + n * c.perArena := by
  induction L generalizing M with
  | nil =>
    obtain rfl : M = [] := List.map_eq_nil_iff.1 (List.sublist_nil.1 hsub)
    exact ⟨[], 0, rfl, rfl, rfl, (fun _ h => nomatch h), (fun _ h => nomatch h), (fun _ h => nomatch h),
      by rw [Nat.zero_mul]; rfl⟩
  | cons a L ih =>
    obtain ⟨hna, hn'⟩ := List.nodup_cons.1 (ids_cons a L ▸ hn)
    obtain ⟨haL, hL'⟩ := List.forall_mem_cons.1 hL
    -- either `a` was created after the checkpoint, or it is the first arena of `M`
    rcases List.sublist_cons_iff.1 (ids_cons a L ▸ hsub) with hsub' | ⟨ms, hms, hsub'⟩
    · have haM : a.id ∉ ids M := fun h => hna (hsub'.subset h)
      have hne : ∀ r ∈ (M.map (recOf c.T)).head?, r.orig ≠ a.id := by
        cases M with
        | nil => exact fun _ h => nomatch h
        | cons m M =>
          intro r hr
          cases hr
          exact fun h : m.id = a.id => haM (List.mem_cons.2 (Or.inl h.symm))
      obtain ⟨as, n, h1, h2, h3, h4, h5, h6, h7⟩ := ih M hL' hM hn' hsub'
      refine ⟨a.reinit :: as, n + 1, by rw [restoreArenas_cons_ne hne, h1], congrArg (a.id :: ·) h2,
        by rw [List.length_cons, ← h3, Nat.add_right_comm], List.forall_mem_cons.2 ⟨ArenaOk_reinit hc haL, h4⟩,
        fun m hm => (h5 m hm).imp fun a' h => ⟨List.mem_cons_of_mem _ h.1, h.2⟩,
        List.forall_mem_cons.2 ⟨fun _ => rfl, h6⟩, ?_⟩
      rw [sizeOf_cons, h7, Nat.succ_mul]
      show c.perArena + 0 + _ = _
      rw [Nat.add_zero, Nat.add_comm, Nat.add_assoc]
    · cases M with
      | nil => cases hms
      | cons m M =>
        obtain ⟨he, rfl⟩ : m.id = a.id ∧ ids M = ms := List.cons.inj hms
        obtain ⟨hMm, hM'⟩ := List.forall_mem_cons.1 hM
        obtain ⟨as, n, h1, h2, h3, h4, h5, h6, h7⟩ := ih M hL' hM' hn' hsub'
        obtain ⟨r1, r2, r3, r4⟩ := restore_rec hc haL hMm
        refine ⟨a.restore c.T (recOf c.T m) :: as, n, ?_, congrArg (a.id :: ·) h2,
          by rw [List.length_cons, List.length_cons, ← h3]; rfl,
          List.forall_mem_cons.2 ⟨⟨r2 ▸ hMm.1, r3⟩, h4⟩,
          List.forall_mem_cons.2 ⟨⟨_, List.mem_cons_self, r1.trans he.symm, r2, r4⟩,
            fun x hx => (h5 x hx).imp fun a' h => ⟨List.mem_cons_of_mem _ h.1, h.2⟩⟩,
          List.forall_mem_cons.2 ⟨fun hnot => absurd (List.mem_cons.2 (Or.inl he.symm)) hnot,
            fun x hx hnot => h6 x hx fun hm => hnot (List.mem_cons_of_mem _ hm)⟩, ?_⟩
        · rw [List.map_cons, restoreArenas_cons_eq (show (recOf c.T m).orig = a.id from he), h1]
        · rw [sizeOf_cons, sizeOf_cons, h7, r2]; exact (Nat.add_assoc _ _ _).symm

theorem keepUpTo_cons_of_ne {α : Type} {x : Nat} {a : Nat × α} {l : List (Nat × α)} (h : keepUpTo x l ≠ []) :
    keepUpTo x (a :: l) = a :: keepUpTo x l := by
  rw [keepUpTo]
  cases hk : keepUpTo x l with
  | nil => exact absurd hk h
  | cons k ks => rfl

theorem keepUpTo_cons_of_nil {α : Type} {x : Nat} {a : Nat × α} {l : List (Nat × α)} (h : keepUpTo x l = []) :
    keepUpTo x (a :: l) = if a.1 ≤ x then [a] else [] := by
  rw [keepUpTo, h]

/-- the scan keeps a prefix: everything behind it is above the target, its last entry is not -/
theorem keepUpTo_spec {α : Type} (x : Nat) (l : List (Nat × α)) :
    ∃ rest, l = keepUpTo x l ++ rest ∧ (∀ e ∈ rest, x < e.1) ∧
      (∀ e, (keepUpTo x l).getLast? = some e → e.1 ≤ x) := by
  induction l with
  | nil => exact ⟨[], rfl, (fun _ h => nomatch h), (fun _ h => nomatch h)⟩
  | cons e t ih =>
    obtain ⟨rest, h1, h2, h3⟩ := ih
    by_cases hk : keepUpTo x t = []
    · rw [hk, List.nil_append] at h1
      subst h1
      rw [keepUpTo_cons_of_nil hk]
      by_cases he : e.1 ≤ x
      · rw [if_pos he]; exact ⟨t, rfl, h2, fun y hy => by cases hy; exact he⟩
      · rw [if_neg he]
        exact ⟨e :: t, rfl, List.forall_mem_cons.2 ⟨Nat.lt_of_not_le he, h2⟩, (fun _ h => nomatch h)⟩
    · rw [keepUpTo_cons_of_ne hk]
      refine ⟨rest, by rw [List.cons_append, ← h1], h2, fun y hy => h3 y ?_⟩
      obtain ⟨k, ks, hks⟩ := List.exists_cons_of_ne_nil hk
      rw [hks, List.getLast?_cons_cons] at hy
      rw [hks]; exact hy

theorem keepUpTo_ne_nil {α : Type} {x : Nat} {l : List (Nat × α)} {e : Nat × α} (he : e ∈ l) (hx : e.1 ≤ x) :
    keepUpTo x l ≠ [] := by
  obtain ⟨rest, h1, h2, _⟩ := keepUpTo_spec x l
  intro hn
  rw [hn, List.nil_append] at h1
  exact absurd (h2 e (h1 ▸ he)) (Nat.not_lt.2 hx)

theorem keepUpTo_append {α : Type} (x : Nat) (A Bl : List (Nat × α)) (h : keepUpTo x Bl ≠ []) :
    keepUpTo x (A ++ Bl) = A ++ keepUpTo x Bl := by
  induction A with
  | nil => rfl
  | cons a A ih =>
    rw [List.cons_append, keepUpTo_cons_of_ne (by rw [ih]; exact List.append_ne_nil_of_right_ne_nil _ h), ih,
      List.cons_append]

/-- the scan commutes with the rebasing `ref_i -= r` of fossil collection -/
theorem keepUpTo_rebase {α : Type} (x r : Nat) (l : List (Nat × α)) (hl : ∀ e ∈ l, r ≤ e.1) (hx : r ≤ x) :
    keepUpTo (x - r) (l.map fun e => (e.1 - r, e.2)) = (keepUpTo x l).map fun e => (e.1 - r, e.2) := by
  induction l with
  | nil => rfl
  | cons a l ih =>
    have ih' := ih (List.forall_mem_cons.1 hl).2
    rw [List.map_cons]
    by_cases hk : keepUpTo x l = []
    · rw [keepUpTo_cons_of_nil hk, keepUpTo_cons_of_nil (by rw [ih', hk]; rfl)]
      simp only [Nat.sub_le_sub_iff_right hx]
      split <;> rfl
    · rw [keepUpTo_cons_of_ne hk, keepUpTo_cons_of_ne (by rw [ih']; exact fun h => hk (List.map_eq_nil_iff.1 h)), ih',
        List.map_cons]

theorem keepUpTo_sub {α : Type} (x : Nat) (l : List (Nat × α)) : ∀ e ∈ keepUpTo x l, e ∈ l := by
  obtain ⟨rest, h1, _, _⟩ := keepUpTo_spec x l
  intro e he
  have := List.mem_append_left rest he
  rwa [← h1] at this

end RootSim.Alloc
