import RootSim.Model.Rand
/-!
Helper lemmas for `randomBits` / `randomBitsFixed` (`Random()` of random.c):
the bit pattern as exponent field · 2^52 + mantissa field, for every raw output.
-/
namespace RootSim.Rand
open RootSim.Float

/-- The 52 bits of `u` below its leading one (position `L = log2 u`), zero-filled on the right
when `u` has fewer than 53 bits, truncated when it has more. -/
def mantOf (u : Nat) : Nat :=
  let L := Nat.log2 u
  let t := u - 2 ^ L
  if L ≤ 52 then t * 2 ^ (52 - L) else t / 2 ^ (L - 52)

theorem log2_lt_64 {u : Nat} (h0 : u ≠ 0) (h : u < 2 ^ 64) : Nat.log2 u < 64 :=
  (Nat.log2_lt h0).2 h

theorem log2_pos {u : Nat} (h : 2 ≤ u) : 1 ≤ Nat.log2 u :=
  (Nat.le_log2 (by omega)).2 h

/-- the shift count `lzs` of `Random()` -/
theorem clz64_succ {u : Nat} (hL : Nat.log2 u < 64) : clz64 u + 1 = 64 - Nat.log2 u :=
  (Nat.sub_add_comm (Nat.le_of_lt_succ hL)).symm

/-- the exponent field of `Random()` -/
theorem expField_eq {u : Nat} (hL : Nat.log2 u < 64) : 1023 - (clz64 u + 1) = 959 + Nat.log2 u := by
  rw [clz64_succ hL]
  exact Nat.add_sub_sub_cancel (a := 64) (b := 959) (Nat.le_of_lt hL)

theorem tail_lt {u : Nat} (h0 : u ≠ 0) : u - 2 ^ Nat.log2 u < 2 ^ Nat.log2 u :=
  Nat.sub_lt_left_of_lt_add (Nat.log2_self_le h0)
    (by rw [← Nat.two_mul, ← Nat.pow_succ']; exact Nat.lt_log2_self)

/-- On `W` bits, a left shift that moves the leading one (position `L`) out, followed by a right
shift by `W - M`, leaves the `M` bits below the leading one. -/
theorem shl_drop_lead (t L W M : Nat) (hL : L ≤ W) (hM : M ≤ W) (ht : t < 2 ^ L) :
    (2 ^ L + t) * 2 ^ (W - L) % 2 ^ W / 2 ^ (W - M) =
      if L ≤ M then t * 2 ^ (M - L) else t / 2 ^ (L - M) := by
  have hlt : t * 2 ^ (W - L) < 2 ^ W := by
    rw [← Nat.pow_sub_mul_pow 2 hL, Nat.mul_comm (2 ^ (W - L))]
    exact Nat.mul_lt_mul_of_pos_right ht (Nat.two_pow_pos _)
  rw [Nat.add_mul, Nat.mul_comm (2 ^ L), Nat.pow_sub_mul_pow 2 hL, Nat.add_mod_left,
    Nat.mod_eq_of_lt hlt]
  split
  · rename_i h
    rw [← Nat.sub_add_sub_cancel hM h, Nat.pow_add, Nat.mul_left_comm,
      Nat.mul_div_cancel_left _ (Nat.two_pow_pos _)]
  · rename_i h
    rw [← Nat.sub_add_sub_cancel hL (Nat.le_of_not_le h), Nat.pow_add, Nat.mul_comm t,
      Nat.mul_div_mul_left _ _ (Nat.two_pow_pos _)]

theorem shl_mantOf {u : Nat} (h0 : u ≠ 0) (h64 : u < 2 ^ 64) :
    u * 2 ^ (64 - Nat.log2 u) % 2 ^ 64 / 2 ^ 12 = mantOf u := by
  have h := shl_drop_lead (u - 2 ^ Nat.log2 u) (Nat.log2 u) 64 52
    (Nat.le_of_lt (log2_lt_64 h0 h64)) (by decide) (tail_lt h0)
  rwa [Nat.add_sub_cancel' (Nat.log2_self_le h0)] at h

theorem mantOf_lt {u : Nat} (h0 : u ≠ 0) (h64 : u < 2 ^ 64) : mantOf u < 2 ^ 52 := by
  rw [← shl_mantOf h0 h64]
  exact Nat.div_lt_of_lt_mul (Nat.mod_lt _ (Nat.two_pow_pos 64))

theorem or_field (m e : Nat) (hm : m < 2 ^ 52) : m ||| (e <<< 52) = e * 2 ^ 52 + m := by
  rw [Nat.or_comm, ← Nat.shiftLeft_add_eq_or_of_lt hm, Nat.shiftLeft_eq]

/-- the pattern that `Random()` assembles from `u << lzs` -/
theorem pattern_eq {u : Nat} (h0 : u ≠ 0) (h64 : u < 2 ^ 64) :
    (u <<< (clz64 u + 1) % 2 ^ 64) >>> 12 ||| (1023 - (clz64 u + 1)) <<< 52 =
      (959 + Nat.log2 u) * 2 ^ 52 + mantOf u := by
  have hL := log2_lt_64 h0 h64
  rw [expField_eq hL, clz64_succ hL, Nat.shiftLeft_eq, Nat.shiftRight_eq_div_pow,
    shl_mantOf h0 h64, or_field _ _ (mantOf_lt h0 h64)]

theorem randomBits_eq {u : Nat} (h2 : 2 ≤ u) (h64 : u < 2 ^ 64) :
    randomBits u = .ok ((959 + Nat.log2 u) * 2 ^ 52 + mantOf u) := by
  have h0 : u ≠ 0 := by omega
  have hlzs : ¬ clz64 u + 1 ≥ 64 := by
    rw [clz64_succ (log2_lt_64 h0 h64)]
    exact Nat.not_le.2 (Nat.sub_lt (by decide) (log2_pos h2))
  unfold randomBits
  simp only
  rw [if_neg h0, if_neg hlzs, pattern_eq h0 h64]

/-- `x << a << 1` on 64 bits is `x << (a + 1)`: the patched tree shifts in two steps. -/
theorem shl_shl_one (x a : Nat) :
    ((x <<< a % 2 ^ 64) <<< 1) % 2 ^ 64 = x <<< (a + 1) % 2 ^ 64 := by
  rw [Nat.shiftLeft_eq, Nat.shiftLeft_eq, Nat.shiftLeft_eq, Nat.mod_mul_mod, Nat.mul_assoc,
    ← Nat.pow_add]

theorem randomBitsFixed_eq {u : Nat} (h1 : 1 ≤ u) (h64 : u < 2 ^ 64) :
    randomBitsFixed u = .ok ((959 + Nat.log2 u) * 2 ^ 52 + mantOf u) := by
  have h0 : u ≠ 0 := by omega
  unfold randomBitsFixed
  simp only
  rw [if_neg h0, Nat.add_sub_cancel, shl_shl_one, pattern_eq h0 h64]

/-- fields of a pattern `e * 2^52 + m` -/
theorem fields (e m : Nat) (he : e < 2 ^ 11) (hm : m < 2 ^ 52) :
    (e * 2 ^ 52 + m) / 2 ^ 63 % 2 = 0 ∧ (e * 2 ^ 52 + m) / 2 ^ 52 % 2 ^ 11 = e ∧
    (e * 2 ^ 52 + m) % 2 ^ 52 = m := by
  have hd : (e * 2 ^ 52 + m) / 2 ^ 52 = e := by
    rw [Nat.add_comm, Nat.add_mul_div_right _ _ (Nat.two_pow_pos 52), Nat.div_eq_of_lt hm,
      Nat.zero_add]
  refine ⟨?_, ?_, ?_⟩
  · rw [show 2 ^ 63 = 2 ^ 52 * 2 ^ 11 from rfl, ← Nat.div_div_eq_div_mul, hd, Nat.div_eq_of_lt he]
  · rw [hd, Nat.mod_eq_of_lt he]
  · rw [Nat.add_comm, Nat.add_mul_mod_self_right, Nat.mod_eq_of_lt hm]

theorem decode_normal (e m : Nat) (he0 : 0 < e) (he : e < 1075) (hm : m < 2 ^ 52) :
    decodeDouble (e * 2 ^ 52 + m) = .fin ((2 ^ 52 + m : Nat) : Int) (1075 - e) := by
  have h1 : ¬ e = 2047 := by omega
  have h2 : ¬ e = 0 := by omega
  have h3 : ¬ e ≥ 1075 := by omega
  obtain ⟨f1, f2, f3⟩ := fields e m (Nat.lt_trans he (by decide)) hm
  unfold decodeDouble
  simp only [f1, f2, f3]
  rw [if_neg h1, if_neg h2, if_neg h3, if_neg (by decide), Int.one_mul]

end RootSim.Rand
