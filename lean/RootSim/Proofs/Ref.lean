import RootSim.Proofs.SeqSpec
/-!
Helper lemmas for `ref_refines_spec` (C10): the sorted-list executor `refRun` of `Model/SeqSpec.lean` is a
run of the reference semantics.
-/
namespace RootSim
variable {σ : Type} {M : SimModel σ}

def SortedEv (l : List Event) : Prop := l.Pairwise (fun a b => Event.before b a = false)

theorem insertSorted_perm (e : Event) (l : List Event) : (insertSorted e l).Perm (e :: l) := by
  induction l with
  | nil => exact .refl _
  | cons x xs ih =>
    simp only [insertSorted]
    split
    · exact .refl _
    · exact (List.Perm.cons x ih).trans (List.Perm.swap e x xs)

theorem insertSorted_sorted (e : Event) (l : List Event) (h : SortedEv l) : SortedEv (insertSorted e l) := by
  induction l with
  | nil => simp [insertSorted, SortedEv]
  | cons x xs ih =>
    simp only [insertSorted]
    have hx := List.pairwise_cons.1 h
    split
    · rename_i hb
      refine List.pairwise_cons.2 ⟨?_, h⟩
      intro y hy
      rcases List.mem_cons.1 hy with rfl | hy
      · exact Event.before_asymm hb
      · exact Event.not_before_trans (hx.1 y hy) (Event.before_asymm hb)
    · rename_i hb
      refine List.pairwise_cons.2 ⟨?_, ih hx.2⟩
      intro y hy
      rcases List.mem_cons.1 ((insertSorted_perm e xs).mem_iff.1 hy) with rfl | hy
      · simpa using hb
      · exact hx.1 y hy

theorem insertAllSorted_spec (es : List Event) : ∀ (l : List Event), SortedEv l →
    SortedEv (insertAllSorted es l) ∧ (insertAllSorted es l).Perm (l ++ es) := by
  induction es with
  | nil => intro l h; exact ⟨h, by simp [insertAllSorted]⟩
  | cons e es ih =>
    intro l h
    obtain ⟨h1, h2⟩ := ih (insertSorted e l) (insertSorted_sorted e l h)
    refine ⟨h1, h2.trans ?_⟩
    refine (List.Perm.append_right _ (insertSorted_perm e l)).trans ?_
    simp only [List.cons_append]
    exact List.perm_middle.symm

theorem sorted_head_minIn {e : Event} {rest : List Event} (h : SortedEv (e :: rest)) : e.minIn (e :: rest) := by
  refine ⟨List.mem_cons_self, ?_⟩
  intro x hx
  rcases List.mem_cons.1 hx with rfl | hx
  · exact Event.before_irrefl _
  · exact (List.pairwise_cons.1 h).1 x hx

def RefSt.cfg (S : RefSt σ) : Cfg σ := ⟨S.st, S.ended, S.pend⟩

theorem refMain_refines (hv : M.Valid) (termT : Nat) (timer : Nat → Bool) : ∀ (fuel k : Nat) (S : RefSt σ),
    SortedEv S.pend → Reachable M S.cfg →
    ∃ tr c' fin, (refMain M termT timer fuel k S).1.traceRev = tr.reverse ++ S.traceRev ∧
      (refMain M termT timer fuel k S).1.st = c'.st ∧
      (refMain M termT timer fuel k S).2 = (if fin then .finished else .outOfFuel) ∧
      MainRun M termT timer k S.cfg tr c' fin := by
  refine mainLoop_refines RefSt.cfg RefSt.traceRev (fun S => SortedEv S.pend) _ (fun _ _ => rfl) ?_
  intro fuel k S hsorted hreach
  obtain ⟨sh1, sh2, sh3⟩ := hreach.shape hv
  cases hp : S.pend with
  | nil => exact .inl ⟨hp, by simp only [refMain, hp]⟩
  | cons e rest =>
    rw [hp] at hsorted
    have hminIn : e.minIn S.cfg.pend := (hp ▸ sorted_head_minIn hsorted : e.minIn S.pend)
    have hdest : e.dest < M.nLps := sh3 _ hminIn.1
    obtain ⟨s, hs⟩ : ∃ s, S.st[e.dest]? = some s := ⟨_, List.getElem?_eq_getElem (sh1 ▸ hdest)⟩
    obtain ⟨b, hb⟩ : ∃ b, S.ended[e.dest]? = some b := ⟨_, List.getElem?_eq_getElem (sh2 ▸ hdest)⟩
    obtain ⟨hso, hpe⟩ := insertAllSorted_spec (M.handler e.dest s e).2 rest (List.pairwise_cons.1 hsorted).2
    let S' : RefSt σ :=
      { st := S.st.set e.dest (M.handler e.dest s e).1,
        ended := S.ended.set e.dest (b || M.canEnd e.dest (M.handler e.dest s e).1),
        pend := insertAllSorted (M.handler e.dest s e).2 rest, traceRev := e :: S.traceRev }
    refine .inr ⟨e, S', S', ?_, ⟨s, b, hminIn, hs, hb, rfl, rfl, ?_⟩, rfl, fun _ => hso, rfl, rfl⟩
    · simp only [refMain, hp, hs, hb]; rfl
    · show (insertAllSorted _ rest).Perm (S.pend.erase e ++ _)
      rw [hp, List.erase_cons_head]; exact hpe

def refInitStep (M : SimModel σ) (S : RefSt σ) (lp : Nat) : RefSt σ :=
  let r := M.handler lp (M.init lp) (initEvent lp)
  { S with st := S.st.set lp r.1, pend := insertAllSorted r.2 S.pend, traceRev := initEvent lp :: S.traceRev }

theorem refInit_fold : ∀ (l : List Nat) (S : RefSt σ) (c : Cfg σ), SortedEv S.pend → S.cfg.Equiv c →
    SortedEv (l.foldl (refInitStep M) S).pend ∧ (l.foldl (refInitStep M) S).cfg.Equiv (l.foldl (initStep M) c) ∧
    (l.foldl (refInitStep M) S).traceRev = (l.map initEvent).reverse ++ S.traceRev := by
  intro l
  induction l with
  | nil => intro S c h he; exact ⟨h, he, by simp⟩
  | cons lp rest ih =>
    intro S c h he
    obtain ⟨h1, h2⟩ := insertAllSorted_spec (M.handler lp (M.init lp) (initEvent lp)).2 S.pend h
    have he0 : (refInitStep M S lp).cfg.Equiv (initStep M S.cfg lp) := ⟨rfl, rfl, h2⟩
    obtain ⟨i1, i2, i3⟩ := ih (refInitStep M S lp) (initStep M c lp) h1 (he0.trans (initStep_equiv he lp))
    refine ⟨i1, i2, ?_⟩
    simp only [List.foldl_cons]
    rw [i3]; simp [refInitStep]

theorem refInit_eq (M : SimModel σ) : refInit M = (List.range M.nLps).foldl (refInitStep M)
    { st := (List.range M.nLps).map M.init, ended := List.replicate M.nLps false, pend := [], traceRev := [] } := rfl

theorem refRun_isSpecRun (hv : M.Valid) (termT : Nat) (timer : Nat → Bool) (fuel : Nat) :
    IsSpecRun M termT timer (refRun M termT timer fuel) := by
  obtain ⟨hso, he, htr⟩ := refInit_fold (M := M) (List.range M.nLps)
    { st := (List.range M.nLps).map M.init, ended := List.replicate M.nLps false, pend := [], traceRev := [] }
    (initCfg0 M) .nil ⟨rfl, rfl, .refl _⟩
  rw [← refInit_eq] at hso he htr
  obtain ⟨tr, c', fin, t1, t2, t3, hm⟩ :=
    refMain_refines hv termT timer fuel 0 (refInit M) hso (.init he.1 he.2.1 he.2.2)
  have htr0 : (refInit M).traceRev.reverse = initTrace M := by rw [htr]; simp [initTrace]
  refine isSpecRun_of_main he hm ?_
  unfold refRun
  cases hres : refMain M termT timer fuel 0 (refInit M) with
  | mk S oc =>
    rw [hres] at t1 t2 t3
    simp only at t1 t2 t3
    subst t3
    cases fin <;> simp [t1, t2, htr0]
end RootSim
