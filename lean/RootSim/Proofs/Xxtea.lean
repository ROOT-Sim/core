import RootSim.Model.Rand
/-!
`xxtea_decode ∘ xxtea_encode = id` (xxtea.c), for blocks of every length `n ≥ 2` and every key.

The C loops thread a variable (`z` resp. `y`) that always equals a neighbour of the word being
updated; `stepE`/`stepD` are the same updates written without that variable.  Every encode step
adds to `v[p]` a function of the OTHER words, the matching decode step subtracts the same value.
-/
namespace RootSim.Rand

def Words (v : List Nat) : Prop := ∀ i, v.getD i 0 < 2 ^ 32

def nxt (n p : Nat) : Nat := if p + 1 = n then 0 else p + 1
def prv (n p : Nat) : Nat := if p = 0 then n - 1 else p - 1

/-- the encode update of word `p` -/
def stepE (key : List Nat) (sum e p : Nat) (v : List Nat) : List Nat :=
  v.set p ((v.getD p 0 + xxteaMx (v.getD (nxt v.length p) 0) (v.getD (prv v.length p) 0) sum p e key) % 2 ^ 32)

/-- the decode update of word `p` -/
def stepD (key : List Nat) (sum e p : Nat) (v : List Nat) : List Nat :=
  v.set p ((v.getD p 0 + (2 ^ 32 - xxteaMx (v.getD (nxt v.length p) 0) (v.getD (prv v.length p) 0) sum p e key)) % 2 ^ 32)

/-- `cnt` encode updates at `p, p+1, …` -/
def stepsE (key : List Nat) (sum e : Nat) : Nat → Nat → List Nat → List Nat
  | 0, _, v => v
  | c + 1, p, v => stepsE key sum e c (p + 1) (stepE key sum e p v)

/-- `cnt` decode updates at `p, p-1, …` -/
def stepsD (key : List Nat) (sum e : Nat) : Nat → Nat → List Nat → List Nat
  | 0, _, v => v
  | c + 1, p, v => stepsD key sum e c (p - 1) (stepD key sum e p v)

variable (key : List Nat) (sum e : Nat)

theorem getD_set_self (v : List Nat) (p a : Nat) (h : p < v.length) : (v.set p a).getD p 0 = a := by
  simp [List.getD_eq_getElem?_getD, List.getElem?_set_self h]

theorem getD_set_ne (v : List Nat) (p q a : Nat) (h : p ≠ q) : (v.set p a).getD q 0 = v.getD q 0 := by
  simp [List.getD_eq_getElem?_getD, List.getElem?_set_ne h]

theorem set_getD_self (v : List Nat) (p : Nat) (h : p < v.length) : v.set p (v.getD p 0) = v := by
  have : v.getD p 0 = v[p] := by simp [List.getD_eq_getElem?_getD, h]
  rw [this]; exact List.set_getElem_self h

theorem xxteaMx_lt (y z sum p e : Nat) (key : List Nat) : xxteaMx y z sum p e key < 2 ^ 32 := by
  unfold xxteaMx
  exact Nat.xor_lt_two_pow (Nat.mod_lt _ (Nat.two_pow_pos 32)) (Nat.mod_lt _ (Nat.two_pow_pos 32))

theorem length_stepE (p : Nat) (v : List Nat) :
    (stepE key sum e p v).length = v.length := by simp [stepE]

theorem length_stepD (p : Nat) (v : List Nat) :
    (stepD key sum e p v).length = v.length := by simp [stepD]

theorem words_set (v : List Nat) (p a : Nat) (hv : Words v) (ha : a < 2 ^ 32) : Words (v.set p a) := by
  intro i
  by_cases h : p = i
  · subst h
    by_cases hl : p < v.length
    · rw [getD_set_self v p a hl]; exact ha
    · have : v.set p a = v := by
        apply List.set_eq_of_length_le; omega
      rw [this]; exact hv p
  · rw [getD_set_ne v p i a h]; exact hv i

theorem words_stepE (p : Nat) (v : List Nat) (hv : Words v) :
    Words (stepE key sum e p v) :=
  words_set v p _ hv (Nat.mod_lt _ (Nat.two_pow_pos 32))

theorem length_stepsE (c p : Nat) (v : List Nat) :
    (stepsE key sum e c p v).length = v.length := by
  induction c generalizing p v with
  | zero => rfl
  | succ c ih => simp [stepsE, ih, length_stepE]

theorem words_stepsE (c p : Nat) (v : List Nat) (hv : Words v) :
    Words (stepsE key sum e c p v) := by
  induction c generalizing p v with
  | zero => exact hv
  | succ c ih => exact ih _ _ (words_stepE key sum e p v hv)

theorem nxt_of_lt {n p : Nat} (h : p + 1 < n) : nxt n p = p + 1 := if_neg (Nat.ne_of_lt h)
theorem nxt_last {n : Nat} (h : 0 < n) : nxt n (n - 1) = 0 := if_pos (Nat.sub_add_cancel h)
theorem prv_succ (n p : Nat) : prv n (p + 1) = p := if_neg (Nat.succ_ne_zero p)
theorem prv_zero (n : Nat) : prv n 0 = n - 1 := if_pos rfl
theorem prv_of_pos {n p : Nat} (h : 0 < p) : prv n p = p - 1 := if_neg (Nat.ne_of_gt h)

/-- in a block of at least two words the neighbours of `p` differ from `p` -/
theorem nxt_ne {n p : Nat} (hn : 2 ≤ n) : p ≠ nxt n p := by
  unfold nxt; split <;> omega

theorem prv_ne {n p : Nat} (hn : 2 ≤ n) : p ≠ prv n p := by
  unfold prv
  split
  · rename_i h
    rw [h]
    exact Nat.ne_of_lt (Nat.le_sub_one_of_lt hn)
  · rename_i h
    exact Nat.ne_of_gt (Nat.sub_lt (Nat.pos_of_ne_zero h) (by decide))

/-- `uint32_t` subtraction of `m` undoes the addition of `m` -/
theorem add_sub_mod_cancel {x m N : Nat} (hx : x < N) (hm : m < N) :
    ((x + m) % N + (N - m)) % N = x := by
  rw [Nat.mod_add_mod, Nat.add_assoc, Nat.add_sub_cancel' (Nat.le_of_lt hm), Nat.add_mod_right,
    Nat.mod_eq_of_lt hx]

/-- one decode update undoes the matching encode update: the words it reads are not the one written -/
theorem stepD_stepE (p : Nat) (v : List Nat) (hn : 2 ≤ v.length)
    (hp : p < v.length) (hv : Words v) : stepD key sum e p (stepE key sum e p v) = v := by
  unfold stepD
  rw [length_stepE]
  unfold stepE
  rw [getD_set_ne _ _ _ _ (nxt_ne hn), getD_set_ne _ _ _ _ (prv_ne hn), getD_set_self _ _ _ hp,
    List.set_set, add_sub_mod_cancel (hv p) (xxteaMx_lt _ _ _ _ _ _)]
  exact set_getD_self v p hp

theorem stepsE_snoc (c p : Nat) (v : List Nat) :
    stepsE key sum e (c + 1) p v = stepE key sum e (p + c) (stepsE key sum e c p v) := by
  induction c generalizing p v with
  | zero => rfl
  | succ c ih =>
    rw [← Nat.add_assoc, Nat.add_right_comm p c 1]
    exact ih (p + 1) (stepE key sum e p v)

/-- `c` decode updates at `p+c-1, …, p` undo `c` encode updates at `p, …, p+c-1` -/
theorem stepsD_stepsE (c p : Nat) (v : List Nat) (hn : 2 ≤ v.length)
    (hpc : p + c ≤ v.length) (hv : Words v) :
    stepsD key sum e c (p + c - 1) (stepsE key sum e c p v) = v := by
  induction c with
  | zero => rfl
  | succ c ih =>
    rw [stepsE_snoc, ← Nat.add_assoc, Nat.add_sub_cancel, stepsD,
      stepD_stepE key sum e (p + c) _ (by rw [length_stepsE]; exact hn) (by rw [length_stepsE]; exact hpc)
        (words_stepsE key sum e c p v hv)]
    exact ih (Nat.le_of_succ_le hpc)

/-! ### the C loops are these updates

`encInner`/`decInner` write `v[p]` from `v[p ± 1]` read in the list and the other neighbour carried in
`z` resp. `y`; the invariant is that the carried value is that neighbour. -/

/-- the update the C code writes is `stepE` when `y`, `z` are the neighbours of `p` -/
theorem set_eq_stepE (p : Nat) (v : List Nat) {y z : Nat}
    (hy : y = v.getD (nxt v.length p) 0) (hz : z = v.getD (prv v.length p) 0) :
    v.set p ((v.getD p 0 + xxteaMx y z sum p e key) % 2 ^ 32) = stepE key sum e p v := by
  rw [hy, hz]; rfl

theorem set_eq_stepD (p : Nat) (v : List Nat) {y z : Nat}
    (hy : y = v.getD (nxt v.length p) 0) (hz : z = v.getD (prv v.length p) 0) :
    v.set p ((v.getD p 0 + (2 ^ 32 - xxteaMx y z sum p e key)) % 2 ^ 32) = stepD key sum e p v := by
  rw [hy, hz]; rfl

theorem encInner_eq (cnt p : Nat) (v : List Nat) (z : Nat)
    (hp : p + cnt < v.length) (hz : z = v.getD (prv v.length p) 0) :
    encInner key sum e cnt p v z =
      (stepsE key sum e cnt p v, (stepsE key sum e cnt p v).getD (prv v.length (p + cnt)) 0) := by
  induction cnt generalizing p v z with
  | zero => rw [hz]; rfl
  | succ c ih =>
    rw [← Nat.add_assoc, Nat.add_right_comm] at hp
    have hp1 : p + 1 < v.length := Nat.lt_of_le_of_lt (Nat.le_add_right _ _) hp
    have hy : v.getD (p + 1) 0 = v.getD (nxt v.length p) 0 := by rw [nxt_of_lt hp1]
    have hstep := set_eq_stepE key sum e p v hy hz
    have hlen := length_stepE key sum e p v
    rw [encInner, hstep,
      ih (p + 1) (stepE key sum e p v) _ (by rw [hlen]; exact hp)
        (by rw [hlen, prv_succ, ← hstep, getD_set_self _ _ _ (Nat.lt_of_succ_lt hp1)]),
      hlen, Nat.add_right_comm p 1 c, Nat.add_assoc]
    rfl

/-- one round of `xxtea_encode` = `n` updates at `0, …, n-1` -/
def roundE (v : List Nat) : List Nat :=
  stepsE key sum ((sum >>> 2) &&& 3) v.length 0 v

theorem encRound_eq (v : List Nat) (z : Nat) (hn : 2 ≤ v.length)
    (hz : z = v.getD (v.length - 1) 0) :
    encRound key sum v z = (roundE key sum v, (roundE key sum v).getD (v.length - 1) 0) := by
  have hn0 : 0 < v.length := Nat.lt_of_lt_of_le (by decide) hn
  have hn1 : v.length - 1 < v.length := Nat.sub_lt hn0 (by decide)
  have hl := length_stepsE key sum ((sum >>> 2) &&& 3) (v.length - 1) 0 v
  -- the last update, at `n - 1`, reads `v[0]` and the carried `v[n - 2]`
  have hround : roundE key sum v = stepE key sum ((sum >>> 2) &&& 3) (v.length - 1)
      (stepsE key sum ((sum >>> 2) &&& 3) (v.length - 1) 0 v) := by
    unfold roundE
    conv => lhs; rw [← Nat.sub_add_cancel hn0, stepsE_snoc, Nat.zero_add]
  unfold encRound
  simp only
  rw [encInner_eq key sum _ (v.length - 1) 0 v z (by rwa [Nat.zero_add]) (by rw [prv_zero]; exact hz)]
  simp only
  rw [set_eq_stepE key sum _ (v.length - 1) _ (by rw [hl, nxt_last hn0]) (by rw [hl, Nat.zero_add]),
    ← hround]
  congr 1
  rw [hround]
  unfold stepE
  rw [getD_set_self _ _ _ (by rwa [hl]), hl, nxt_last hn0, Nat.zero_add]

theorem length_roundE (v : List Nat) : (roundE key sum v).length = v.length :=
  length_stepsE _ _ _ _ _ _

theorem words_roundE (v : List Nat) (hv : Words v) : Words (roundE key sum v) :=
  words_stepsE _ _ _ _ _ _ hv

def roundsE (key : List Nat) : Nat → Nat → List Nat → List Nat
  | 0, _, v => v
  | r + 1, sum, v => roundsE key r ((sum + xxteaDelta) % 2 ^ 32) (roundE key sum v)

theorem encRounds_eq (r : Nat) (v : List Nat) (z : Nat) (hn : 2 ≤ v.length)
    (hz : z = v.getD (v.length - 1) 0) : encRounds key r sum v z = roundsE key r sum v := by
  induction r generalizing sum v z with
  | zero => rfl
  | succ r ih =>
    rw [encRounds, roundsE, encRound_eq key sum v z hn hz]
    exact ih _ _ _ (by rw [length_roundE]; exact hn) (by rw [length_roundE])

theorem decInner_eq (cnt p : Nat) (v : List Nat) (y : Nat)
    (hc : cnt ≤ p) (hp : p < v.length) (hy : y = v.getD (nxt v.length p) 0) :
    decInner key sum e cnt p v y =
      (stepsD key sum e cnt p v, (stepsD key sum e cnt p v).getD (nxt v.length (p - cnt)) 0) := by
  induction cnt generalizing p v y with
  | zero => rw [hy]; rfl
  | succ c ih =>
    have hp1 : 1 ≤ p := Nat.le_trans (Nat.succ_le_succ (Nat.zero_le c)) hc
    have hpp : p - 1 + 1 = p := Nat.sub_add_cancel hp1
    have hz : v.getD (p - 1) 0 = v.getD (prv v.length p) 0 := by rw [prv_of_pos hp1]
    have hstep := set_eq_stepD key sum e p v hy hz
    have hlen := length_stepD key sum e p v
    rw [decInner, hstep,
      ih (p - 1) (stepD key sum e p v) _ (Nat.le_sub_one_of_lt hc)
        (by rw [hlen]; exact Nat.lt_of_le_of_lt (Nat.sub_le _ _) hp)
        (by rw [hlen, nxt_of_lt (n := v.length) (p := p - 1) (hpp.symm ▸ hp), hpp, ← hstep,
          getD_set_self _ _ _ hp]),
      hlen, Nat.sub_sub, Nat.add_comm 1 c]
    rfl

/-- one round of `xxtea_decode` = `n` updates at `n-1, …, 0` -/
def roundD (v : List Nat) : List Nat :=
  stepsD key sum ((sum >>> 2) &&& 3) v.length (v.length - 1) v

theorem length_stepsD (c p : Nat) (v : List Nat) :
    (stepsD key sum e c p v).length = v.length := by
  induction c generalizing p v with
  | zero => rfl
  | succ c ih => rw [stepsD, ih, length_stepD]

theorem stepsD_snoc (c p : Nat) (v : List Nat) :
    stepsD key sum e (c + 1) p v = stepD key sum e (p - c) (stepsD key sum e c p v) := by
  induction c generalizing p v with
  | zero => rfl
  | succ c ih =>
    have := ih (p - 1) (stepD key sum e p v)
    rwa [Nat.sub_sub, Nat.add_comm 1 c] at this

theorem decRound_eq (v : List Nat) (y : Nat) (hn : 2 ≤ v.length)
    (hy : y = v.getD 0 0) :
    decRound key sum v y = (roundD key sum v, (roundD key sum v).getD 0 0) := by
  have hn0 : 0 < v.length := Nat.lt_of_lt_of_le (by decide) hn
  have hn1 : v.length - 1 < v.length := Nat.sub_lt hn0 (by decide)
  have hl := length_stepsD key sum ((sum >>> 2) &&& 3) (v.length - 1) (v.length - 1) v
  -- the last update, at `0`, reads the carried `v[1]` and `v[n - 1]`
  have hround : roundD key sum v = stepD key sum ((sum >>> 2) &&& 3) 0
      (stepsD key sum ((sum >>> 2) &&& 3) (v.length - 1) (v.length - 1) v) := by
    unfold roundD
    conv => lhs; rw [← Nat.sub_add_cancel hn0, stepsD_snoc]
    rw [Nat.add_sub_cancel, Nat.sub_self]
  unfold decRound
  simp only
  rw [decInner_eq key sum _ (v.length - 1) (v.length - 1) v y (Nat.le_refl _) hn1
    (by rw [nxt_last hn0]; exact hy)]
  simp only
  rw [set_eq_stepD key sum _ 0 _ (by rw [hl, Nat.sub_self]) (by rw [hl, prv_zero]), ← hround]
  congr 1
  rw [hround]
  unfold stepD
  rw [getD_set_self _ _ _ (by rwa [hl]), hl, Nat.sub_self, prv_zero]

def roundsD (key : List Nat) : Nat → Nat → List Nat → List Nat
  | 0, _, v => v
  | r + 1, sum, v => roundsD key r ((sum + (2 ^ 32 - xxteaDelta)) % 2 ^ 32) (roundD key sum v)

theorem length_roundD (v : List Nat) : (roundD key sum v).length = v.length :=
  length_stepsD _ _ _ _ _ _

theorem decRounds_eq (r : Nat) (v : List Nat) (y : Nat) (hn : 2 ≤ v.length)
    (hy : y = v.getD 0 0) : decRounds key r sum v y = roundsD key r sum v := by
  induction r generalizing sum v y with
  | zero => rfl
  | succ r ih =>
    unfold decRounds roundsD
    simp only
    rw [decRound_eq key sum v y hn hy]
    simp only
    exact ih _ _ _ (by rw [length_roundD]; exact hn) rfl

theorem roundD_roundE (v : List Nat) (hn : 2 ≤ v.length) (hv : Words v) :
    roundD key sum (roundE key sum v) = v := by
  unfold roundD
  rw [length_roundE]
  unfold roundE
  have := stepsD_stepsE key sum ((sum >>> 2) &&& 3) v.length 0 v hn (Nat.le_of_eq (Nat.zero_add _)) hv
  rwa [Nat.zero_add] at this

/-- the `k`-th value of `sum`: `k * DELTA` on 32 bits -/
def sumAt (k : Nat) : Nat := (k * xxteaDelta) % 2 ^ 32

theorem sumAt_succ (k : Nat) : (sumAt k + xxteaDelta) % 2 ^ 32 = sumAt (k + 1) := by
  unfold sumAt
  rw [Nat.mod_add_mod, Nat.succ_mul]

theorem sumAt_pred (k : Nat) : (sumAt (k + 1) + (2 ^ 32 - xxteaDelta)) % 2 ^ 32 = sumAt k := by
  unfold sumAt
  rw [Nat.mod_add_mod, Nat.succ_mul, Nat.add_assoc,
    Nat.add_sub_cancel' (show xxteaDelta ≤ 2 ^ 32 by decide), Nat.add_mod_right]

theorem length_roundsE (r : Nat) (v : List Nat) : (roundsE key r sum v).length = v.length := by
  induction r generalizing sum v with
  | zero => rfl
  | succ r ih => simp [roundsE, ih, length_roundE]

theorem words_roundsE (r : Nat) (v : List Nat) (hv : Words v) : Words (roundsE key r sum v) := by
  induction r generalizing sum v with
  | zero => exact hv
  | succ r ih => exact ih _ _ (words_roundE key sum v hv)

theorem roundsE_snoc (r k : Nat) (v : List Nat) :
    roundsE key (r + 1) (sumAt (k + 1)) v = roundE key (sumAt (k + 1 + r)) (roundsE key r (sumAt (k + 1)) v) := by
  induction r generalizing k v with
  | zero => rfl
  | succ r ih =>
    have h := ih (k + 1) (roundE key (sumAt (k + 1)) v)
    rw [Nat.add_assoc (k + 1) 1 r, Nat.add_comm 1 r] at h
    show roundsE key (r + 1) ((sumAt (k + 1) + xxteaDelta) % 2 ^ 32) (roundE key (sumAt (k + 1)) v) = _
    rw [sumAt_succ, h]
    show _ = roundE key _ (roundsE key r ((sumAt (k + 1) + xxteaDelta) % 2 ^ 32) (roundE key (sumAt (k + 1)) v))
    rw [sumAt_succ]

theorem roundsD_roundsE (r k : Nat) (v : List Nat) (hn : 2 ≤ v.length) (hv : Words v) :
    roundsD key r (sumAt (k + r)) (roundsE key r (sumAt (k + 1)) v) = v := by
  induction r with
  | zero => rfl
  | succ r ih =>
    rw [roundsE_snoc]
    rw [show k + (r + 1) = k + 1 + r from Nat.add_right_comm k r 1]
    show roundsD key r ((sumAt (k + 1 + r) + (2 ^ 32 - xxteaDelta)) % 2 ^ 32)
      (roundD key (sumAt (k + 1 + r)) (roundE key (sumAt (k + 1 + r)) (roundsE key r (sumAt (k + 1)) v))) = v
    rw [roundD_roundE key _ _ (by rw [length_roundsE]; exact hn) (words_roundsE key _ r v hv)]
    rw [Nat.add_right_comm k 1 r, sumAt_pred]
    exact ih

theorem length_xxteaEncodeCore (v key : List Nat) (hn : 2 ≤ v.length) :
    (xxteaEncodeCore v key).length = v.length := by
  unfold xxteaEncodeCore
  simp only
  rw [encRounds_eq key _ _ v _ hn rfl, length_roundsE]

/-- **XXTEA round trip**, every block length `≥ 2`, every key -/
theorem xxteaDecodeCore_encodeCore (v key : List Nat) (hn : 2 ≤ v.length) (hv : Words v) :
    xxteaDecodeCore (xxteaEncodeCore v key) key = v := by
  have hlen := length_xxteaEncodeCore v key hn
  unfold xxteaDecodeCore
  simp only
  rw [hlen]
  rw [decRounds_eq key _ _ _ _ (by rw [hlen]; exact hn) rfl]
  unfold xxteaEncodeCore
  simp only
  rw [encRounds_eq key _ _ v _ hn rfl]
  have hd : xxteaDelta = sumAt (0 + 1) := by unfold sumAt xxteaDelta; rfl
  have hs : (8 + 50 / v.length) * xxteaDelta % 2 ^ 32 = sumAt (0 + (8 + 50 / v.length)) := by
    unfold sumAt; simp
  rw [hs]
  conv => lhs; arg 4; rw [hd]
  exact roundsD_roundsE key _ 0 v hn hv

theorem words_of_forall {v : List Nat} (h : ∀ x ∈ v, x < 2 ^ 32) : Words v := by
  intro i
  rw [List.getD_eq_getElem?_getD]
  cases hi : v[i]? with
  | none => exact Nat.two_pow_pos 32
  | some x => exact h x (List.mem_of_getElem? hi)

theorem seedWords_words (lp seed : Nat) (hl : lp < 2 ^ 64) (hs : seed < 2 ^ 64) : Words (seedWords lp seed) := by
  have h1 : lp % 2 ^ 32 < 2 ^ 32 := Nat.mod_lt _ (Nat.two_pow_pos 32)
  have h2 : lp / 2 ^ 32 < 2 ^ 32 := Nat.div_lt_of_lt_mul hl
  have h3 : seed % 2 ^ 32 < 2 ^ 32 := Nat.mod_lt _ (Nat.two_pow_pos 32)
  have h4 : seed / 2 ^ 32 < 2 ^ 32 := Nat.div_lt_of_lt_mul hs
  apply words_of_forall
  intro x hx
  simp only [seedWords, List.mem_cons, List.not_mem_nil, or_false] at hx
  rcases hx with rfl | rfl | rfl | rfl | rfl | rfl | rfl | rfl <;> assumption

end RootSim.Rand
