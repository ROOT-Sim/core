import RootSim.Model.Topology
/-! Lemmas for C19: the `unsigned` coordinate arithmetic on well-formed grids, `DIRECTION_RANDOM` as `firstValid` over a
permutation of the direction array, the two closed formulas of `CountDirections` in additive form, `AddTopologyLink`. -/
namespace RootSim.Topo

theorem lt_U32_of_mul {w h : Nat} (hw : 1 ≤ w) (hh : 1 ≤ h) (hwh : w * h < U32) : w < U32 ∧ h < U32 := by
  have h1 : w * 1 ≤ w * h := Nat.mul_le_mul_left w hh
  have h2 : 1 * h ≤ w * h := Nat.mul_le_mul_right h hw
  omega

/-- inside the grid the C coordinate computation is plain division with remainder -/
theorem coords_of_lt {w h src : Nat} (hw : 1 ≤ w) (hwh : w * h < U32) (hs : src < w * h) :
    coords w src = (src % w, src / w) ∧ src % w < w ∧ src / w < h := by
  refine ⟨?_, Nat.mod_lt _ hw, Nat.div_lt_of_lt_mul hs⟩
  have hdm : src / w * w + src % w = src := by rw [Nat.mul_comm]; exact Nat.div_add_mod src w
  have h32 : src < U32 := Nat.lt_trans hs hwh
  -- `y`, `y * width` and the remainder fit `unsigned`, so `x = from - y * width` is the remainder
  have e1 : src / w % U32 = src / w := Nat.mod_eq_of_lt (Nat.lt_of_le_of_lt (Nat.div_le_self _ _) h32)
  have e2 : src / w * w % U32 = src / w * w := Nat.mod_eq_of_lt (Nat.lt_of_le_of_lt (Nat.le.intro hdm) h32)
  have e3 : src + U64 - src / w * w = src % w + U64 := by omega
  have hr : src % w < U32 := Nat.lt_of_le_of_lt (Nat.mod_le _ _) h32
  simp only [coords, e1, e2, e3, Nat.add_mod_right, Nat.mod_eq_of_lt hr,
    Nat.mod_eq_of_lt (Nat.lt_trans hr (by decide : U32 < U64))]

/-- `(x, y)` are the coordinates the C code computes for `src`, they lie inside the grid, and the dimensions of
the grid fit `unsigned` -/
structure GridCell (T : Topo) (src x y : Nat) : Prop where
  coords : coords T.width src = (x, y)
  x_lt : x < T.width
  y_lt : y < T.height
  w_lt : T.width < U32
  h_lt : T.height < U32

theorem Topo.WF.grid {T : Topo} (hWF : T.WF) (hg : T.geom = .hexagon ∨ T.geom = .square ∨ T.geom = .torus)
    {src : Nat} (hs : src < T.regions) :
    GridCell T src (src % T.width) (src / T.width) ∧ T.regions = T.width * T.height := by
  obtain ⟨_, hr, hgeo⟩ := hWF
  have ⟨hw, hh, hreg⟩ : 1 ≤ T.width ∧ 1 ≤ T.height ∧ T.regions = T.width * T.height := by
    rcases hg with hg | hg | hg <;> simpa only [Topo.WFgeo, hg] using hgeo
  rw [hreg] at hr hs
  obtain ⟨hc, hx, hy⟩ := coords_of_lt hw hr hs
  exact ⟨⟨hc, hx, hy, (lt_U32_of_mul hw hh hr).1, (lt_U32_of_mul hw hh hr).2⟩, hreg⟩

theorem cell_eq_some {w h x y r : Nat} : cell w h x y = some r ↔ x < w ∧ y < h ∧ r = (y * w + x) % U32 := by
  unfold cell
  split
  · simp_all [eq_comm]
  · simp only [reduceCtorEq, false_iff]; omega

theorem cell_isSome {w h x y : Nat} : (cell w h x y).isSome = decide (x < w ∧ y < h) := by
  unfold cell
  split <;> simp_all

theorem cell_eq_none {w h x y : Nat} : cell w h x y = none ↔ ¬ (x < w ∧ y < h) := by
  unfold cell
  split <;> simp_all

/-! ### the Fisher-Yates pass keeps the array a permutation -/

theorem swapAt_perm {a a' : List Nat} {i j : Nat} (h : swapAt a i j = some a') : a'.Perm a := by
  unfold swapAt at h
  split at h
  · rename_i ai aj hi hj
    cases h
    rw [List.perm_iff_count]
    intro x
    obtain ⟨hil, rfl⟩ := List.getElem?_eq_some_iff.mp hi
    obtain ⟨hjl, rfl⟩ := List.getElem?_eq_some_iff.mp hj
    grind
  · cases h

theorem swapAt_isSome {a : List Nat} {i j : Nat} (hi : i < a.length) (hj : j < a.length) :
    ∃ a', swapAt a i j = some a' := by
  unfold swapAt
  rw [List.getElem?_eq_getElem hi, List.getElem?_eq_getElem hj]
  exact ⟨_, rfl⟩

theorem shuffleLoop_perm {a a' : List Nat} {i k : Nat} {js : List Nat}
    (h : shuffleLoop a i k js = some a') : a'.Perm a := by
  induction k generalizing a i js with
  | zero => simp only [shuffleLoop] at h; cases h; exact List.Perm.refl _
  | succ k ih =>
    cases js with
    | nil => simp [shuffleLoop] at h
    | cons j js =>
      simp only [shuffleLoop] at h
      split at h
      · cases h
      · rename_i a1 h1
        exact (ih h).trans (swapAt_perm h1)

theorem shuffle_perm {a a' js : List Nat} (h : shuffle a js = some a') : a'.Perm a := by
  unfold shuffle at h
  split at h
  · exact shuffleLoop_perm h
  · cases h; exact List.Perm.refl _

theorem shuffleLoop_isSome {a : List Nat} {i k : Nat} {js : List Nat}
    (hik : i + k ≤ a.length) (hlen : k ≤ js.length) (hj : ∀ j ∈ js.take k, j < a.length) :
    ∃ a', shuffleLoop a i k js = some a' := by
  induction k generalizing a i js with
  | zero => exact ⟨a, by simp [shuffleLoop]⟩
  | succ k ih =>
    cases js with
    | nil => simp at hlen
    | cons j js =>
      have hjl : j < a.length := hj j (by simp)
      obtain ⟨a1, h1⟩ := swapAt_isSome (a := a) (i := i) (j := j) (by omega) hjl
      have hl : a1.length = a.length := (swapAt_perm h1).length_eq
      simp only [shuffleLoop, h1]
      apply ih
      · omega
      · simpa using hlen
      · intro j' hj'
        rw [hl]
        exact hj j' (by simp [hj'])

theorem shuffle_isSome {a js : List Nat} (hlen : a.length - 1 ≤ js.length)
    (hj : ∀ j ∈ js.take (a.length - 1), j < a.length) : ∃ a', shuffle a js = some a' := by
  unfold shuffle
  split
  · exact shuffleLoop_isSome (by omega) hlen hj
  · exact ⟨a, rfl⟩

theorem firstValid_spec (fixed : Nat → Option Nat) (l : List Nat) :
    match firstValid fixed l with
    | .region r => ∃ d ∈ l, d ≠ dRANDOM ∧ fixed d = some r
    | .invalid => ∀ d ∈ l, fixed d = none
    | .undef => dRANDOM ∈ l := by
  induction l with
  | nil => exact fun _ h => nomatch h
  | cons d ds ih =>
    unfold firstValid
    by_cases hd : d = dRANDOM
    · rw [if_pos hd]; exact hd ▸ List.mem_cons_self
    · rw [if_neg hd]
      cases hf : fixed d with
      | some r => exact ⟨d, List.mem_cons_self, hd, hf⟩
      | none =>
        simp only
        cases hfv : firstValid fixed ds <;> rw [hfv] at ih
        · exact fun d' hd' => (List.mem_cons.mp hd').elim (· ▸ hf) (ih d')
        · obtain ⟨d', hm, h⟩ := ih
          exact ⟨d', List.mem_cons_of_mem _ hm, h⟩
        · exact List.mem_cons_of_mem _ ih

theorem firstValid_region {fixed : Nat → Option Nat} {l : List Nat} {r : Nat}
    (h : firstValid fixed l = .region r) : ∃ d ∈ l, d ≠ dRANDOM ∧ fixed d = some r := by
  have := firstValid_spec fixed l
  rwa [h] at this

theorem firstValid_exists {fixed : Nat → Option Nat} {l dirs : List Nat} (hp : l.Perm dirs)
    (hnr : ∀ d ∈ dirs, d ≠ dRANDOM) (hex : ∃ d ∈ dirs, fixed d ≠ none) : ∃ r, firstValid fixed l = .region r := by
  have h := firstValid_spec fixed l
  cases hfv : firstValid fixed l <;> rw [hfv] at h
  · obtain ⟨d, hm, hd⟩ := hex
    exact absurd (h d (hp.mem_iff.mpr hm)) hd
  · exact ⟨_, rfl⟩
  · exact absurd rfl (hnr _ (hp.mem_iff.mp h))

theorem firstValid_none {fixed : Nat → Option Nat} {l dirs : List Nat} (hp : l.Perm dirs)
    (hnr : ∀ d ∈ dirs, d ≠ dRANDOM) (hno : ∀ d ∈ dirs, fixed d = none) : firstValid fixed l = .invalid := by
  have h := firstValid_spec fixed l
  cases hfv : firstValid fixed l <;> rw [hfv] at h
  · obtain ⟨d, hm, _, hd⟩ := h
    rw [hno d (hp.mem_iff.mp hm)] at hd
    cases hd
  · exact absurd rfl (hnr _ (hp.mem_iff.mp h))

/-! ### fixed directions: which codes can answer, and the answer is a cell of the grid -/

theorem hexFixed_none {w h src d : Nat} (hd : d ∉ hexDirs) : hexFixed w h src d = none := by
  simp only [List.mem_cons, List.not_mem_nil, or_false, not_or] at hd
  simp only [hexFixed, hd, if_false]

theorem sqFixed_none {w h src d : Nat} (hd : d ∉ sqDirs) : sqFixed w h src d = none := by
  simp only [List.mem_cons, List.not_mem_nil, or_false, not_or] at hd
  simp only [sqFixed, hd, if_false]

theorem torFixed_none {w h src d : Nat} (hd : d ∉ sqDirs) : torFixed w h src d = none := by
  simp only [List.mem_cons, List.not_mem_nil, or_false, not_or] at hd
  simp only [torFixed, hd, if_false]

theorem recvFixed_none {T : Topo} {src d : Nat} (hd : d ∉ fixedDirs T.geom) : recvFixed T src d = none := by
  unfold recvFixed
  cases hg : T.geom <;> rw [hg] at hd <;> simp only
  · exact hexFixed_none hd
  · exact sqFixed_none hd
  · exact torFixed_none hd
  · exact if_neg (by simpa [fixedDirs] using hd)
  · simp only [fixedDirs, List.mem_cons, List.not_mem_nil, or_false, not_or] at hd
    simp only [bidFixed, hd, if_false]

theorem recvFixed_dir {T : Topo} {src d r : Nat} (h : recvFixed T src d = some r) : d ∈ fixedDirs T.geom :=
  Decidable.byContradiction fun hd => by rw [recvFixed_none hd] at h; cases h

theorem lin_mod_lt {w h x y : Nat} (hwh : w * h < U32) (hx : x < w) (hy : y < h) :
    (y * w + x) % U32 < w * h := by
  have h1 : (y + 1) * w ≤ h * w := Nat.mul_le_mul_right w hy
  have h2 : y * w + x < w * h := by rw [Nat.mul_comm w h]; rw [Nat.add_mul] at h1; omega
  rw [Nat.mod_eq_of_lt (Nat.lt_trans h2 hwh)]
  exact h2

/-- on a well-formed grid every answer of a fixed direction is the index of a cell of the grid
(hexagon, square: the code checks it; torus: both coordinates are reduced modulo the dimensions) -/
theorem recvFixed_cell {T : Topo} (hWF : T.WF) (hg : T.geom = .hexagon ∨ T.geom = .square ∨ T.geom = .torus)
    {src d r : Nat} (hs : src < T.regions) (h : recvFixed T src d = some r) :
    ∃ x y, x < T.width ∧ y < T.height ∧ r = (y * T.width + x) % U32 := by
  have hd := recvFixed_dir h
  obtain ⟨⟨hc, hx, hy, _, _⟩, _⟩ := hWF.grid hg hs
  have hw : 0 < T.width := Nat.lt_of_le_of_lt (Nat.zero_le _) hx
  have hh : 0 < T.height := Nat.lt_of_le_of_lt (Nat.zero_le _) hy
  rcases hg with hg | hg | hg <;>
    simp only [hg, fixedDirs, List.mem_cons, List.not_mem_nil, or_false] at hd <;>
    simp only [recvFixed, hg] at h
  · simp only [hexFixed, hc] at h
    rcases hd with rfl | rfl | rfl | rfl | rfl | rfl <;>
      simp only [Nat.reduceEqDiff, if_true, if_false] at h <;> exact ⟨_, _, cell_eq_some.mp h⟩
  · simp only [sqFixed, hc] at h
    rcases hd with rfl | rfl | rfl | rfl <;>
      simp only [Nat.reduceEqDiff, if_true, if_false] at h <;> exact ⟨_, _, cell_eq_some.mp h⟩
  · simp only [torFixed, hc] at h
    rcases hd with rfl | rfl | rfl | rfl <;>
      simp only [Nat.reduceEqDiff, if_true, if_false, Option.some.injEq] at h
    · exact ⟨_, _, Nat.mod_lt _ hw, hy, h.symm⟩
    · exact ⟨_, _, Nat.mod_lt _ hw, hy, h.symm⟩
    · exact ⟨_, _, hx, Nat.mod_lt _ hh, h.symm⟩
    · exact ⟨_, _, hx, Nat.mod_lt _ hh, h.symm⟩

theorem meshLoop_region {src r : Nat} {cs : List Nat} (h : meshLoop src cs = .region r) : r ∈ cs ∧ r ≠ src := by
  induction cs with
  | nil => simp [meshLoop] at h
  | cons c cs ih =>
    simp only [meshLoop] at h
    split at h
    · have := ih h; exact ⟨by simp [this.1], this.2⟩
    · simp only [Recv.region.injEq] at h; subst h; exact ⟨by simp, by assumption⟩

theorem meshLoop_exists {src : Nat} {cs : List Nat} (h : ∃ c ∈ cs, c ≠ src) : ∃ r, meshLoop src cs = .region r := by
  induction cs with
  | nil => simp at h
  | cons c cs ih =>
    simp only [meshLoop]
    split
    · rename_i hc
      apply ih
      obtain ⟨c', hm, hne⟩ := h
      rcases List.mem_cons.mp hm with rfl | hm'
      · exact absurd hc hne
      · exact ⟨c', hm', hne⟩
    · exact ⟨c, rfl⟩

theorem graphWalk_region {l bs : List Nat} {r : Nat} (h : graphWalk l bs = .region r) : ∃ n ∈ l, r = n % U32 := by
  induction l generalizing bs with
  | nil => simp [graphWalk] at h
  | cons n rest ih =>
    cases bs with
    | nil => simp [graphWalk] at h
    | cons b bs =>
      simp only [graphWalk] at h
      split at h
      · obtain ⟨n', hm, hr⟩ := ih h
        exact ⟨n', by simp [hm], hr⟩
      · simp only [Recv.region.injEq] at h
        exact ⟨n, by simp, h.symm⟩

theorem graphWalk_exists {l bs : List Nat} (hl : l ≠ []) (hb : l.length ≤ bs.length) :
    ∃ r, graphWalk l bs = .region r := by
  induction l generalizing bs with
  | nil => exact absurd rfl hl
  | cons n rest ih =>
    cases bs with
    | nil => simp at hb
    | cons b bs =>
      simp only [graphWalk]
      split
      · rename_i hc
        exact ih hc.2 (by simpa using hb)
      · exact ⟨_, rfl⟩

/-! ### a region answered on a grid comes from a fixed direction -/

theorem getRandomNeighborOrig_region {fixed : Nat → Option Nat} {arr js : List Nat} {r : Nat}
    (h : (getRandomNeighborOrig fixed arr js).1 = .region r) : ∃ d, fixed d = some r := by
  unfold getRandomNeighborOrig at h
  split at h
  · cases h
  · obtain ⟨d, _, _, hd⟩ := firstValid_region h
    exact ⟨d, hd⟩

theorem gridRandom_region {hf : Bool} {fixed : Nat → Option Nat} {dirs arr js : List Nat} {r : Nat}
    (h : (gridRandom hf fixed dirs arr js).1 = .region r) : ∃ d, fixed d = some r := by
  unfold gridRandom at h
  split at h <;> exact getRandomNeighborOrig_region h

theorem isNeighbor_grid {T : Topo} (hg : T.geom = .hexagon ∨ T.geom = .square ∨ T.geom = .torus) {src d r : Nat}
    (h : recvFixed T src d = some r) : isNeighbor T src r = true := by
  have hd := recvFixed_dir h
  rcases hg with hg | hg | hg <;>
    simp only [hg, fixedDirs, List.mem_cons, List.not_mem_nil, or_false] at hd <;>
    simp only [recvFixed, hg] at h <;>
    simp only [isNeighbor, hg, List.any_eq_true, List.mem_range, beq_iff_eq] <;>
    exact ⟨d, by omega, by rw [h]; rfl⟩

theorem Recv.ofOption_region {o : Option Nat} {r : Nat} (h : Recv.ofOption o = .region r) : o = some r := by
  cases o <;> simp_all [Recv.ofOption]

theorem grid_case {hf : Bool} {fixed : Nat → Option Nat} {dirs arr rin : List Nat} {d r : Nat}
    {X st st' : Arrays}
    (h : (if d = dRANDOM then ((gridRandom hf fixed dirs arr rin).fst, X)
          else (Recv.ofOption (fixed d), st)) = (Recv.region r, st')) : ∃ d', fixed d' = some r := by
  split at h
  · exact gridRandom_region (Prod.mk.inj h).1
  · exact ⟨d, Recv.ofOption_region (Prod.mk.inj h).1⟩

theorem bidFixed_E (R s : Nat) : bidFixed R s dE = some (((s + 1) % U64) % R) := rfl
theorem bidFixed_W (R s : Nat) : bidFixed R s dW = some (((s + R + U64 - 1) % U64) % R) := rfl

theorem enc_some (r : Nat) : enc (some r) = r := rfl

theorem isNeighbor_bidring {T : Topo} (hg : T.geom = .bidring) (src to : Nat) :
    isNeighbor T src to =
      (enc (bidFixed T.regions src dE) == to || enc (bidFixed T.regions src dW) == to) := by
  simp only [isNeighbor, hg]

/-- with in-contract draws `get_random_neighbor` is the scan over some permutation of the array -/
theorem getRandomNeighborOrig_eq (fixed : Nat → Option Nat) {dirs arr js : List Nat} (hp : arr.Perm dirs)
    (hlen : dirs.length - 1 ≤ js.length) (hj : ∀ j ∈ js.take (dirs.length - 1), j < dirs.length) :
    ∃ a, a.Perm dirs ∧ getRandomNeighborOrig fixed arr js = (firstValid fixed a, a) := by
  have hl := hp.length_eq
  obtain ⟨a, ha⟩ := shuffle_isSome (a := arr) (js := js) (by rw [hl]; exact hlen) (by rw [hl]; exact hj)
  exact ⟨a, (shuffle_perm ha).trans hp, by simp only [getRandomNeighborOrig, ha]⟩

theorem getRandomNeighborOrig_perm {fixed : Nat → Option Nat} {arr js : List Nat} :
    (getRandomNeighborOrig fixed arr js).2.Perm arr := by
  unfold getRandomNeighborOrig
  split
  · exact List.Perm.refl _
  · rename_i a ha; exact shuffle_perm ha

theorem gridRandom_eq {hf : Bool} (fixed : Nat → Option Nat) {dirs arr js : List Nat}
    (hp : hf = true ∨ arr.Perm dirs)
    (hlen : dirs.length - 1 ≤ js.length) (hj : ∀ j ∈ js.take (dirs.length - 1), j < dirs.length) :
    ∃ a, a.Perm dirs ∧ (gridRandom hf fixed dirs arr js).1 = firstValid fixed a := by
  unfold gridRandom
  split
  · obtain ⟨a, hpa, h⟩ := getRandomNeighborOrig_eq fixed (List.Perm.refl dirs) hlen hj
    exact ⟨a, hpa, by simp only [getRandomNeighbor, h]⟩
  · rename_i hf'
    obtain ⟨a, hpa, h⟩ := getRandomNeighborOrig_eq fixed (hp.resolve_left hf') hlen hj
    exact ⟨a, hpa, by simp only [h]⟩

theorem gridRandom_perm {hf : Bool} {fixed : Nat → Option Nat} {dirs arr js : List Nat} :
    (gridRandom hf fixed dirs arr js).2.Perm arr := by
  unfold gridRandom
  split
  · exact List.Perm.refl _
  · exact getRandomNeighborOrig_perm

/-! ### `CountDirections`: the closed formulas of the pinned tree against the number of valid directions -/

/-! `unsigned` steps from a coordinate inside `[0, n)`: the wrapped value is inside again iff the step
did not leave the range (`0 - 1` wraps to `2^32 - 1 ≥ n`) -/
theorem succ32_lt {x n : Nat} (hx : x < n) (hn : n < U32) : (x + 1) % U32 < n ↔ x + 1 < n := by
  rw [Nat.mod_eq_of_lt (Nat.lt_of_le_of_lt hx hn)]

theorem pred32 {x : Nat} (hx : x < U32) : (x + U32 - 1) % U32 = if x = 0 then U32 - 1 else x - 1 := by
  cases x with
  | zero => rfl
  | succ x => rw [if_neg (Nat.succ_ne_zero x), Nat.add_right_comm, Nat.add_sub_cancel, Nat.add_mod_right,
      Nat.mod_eq_of_lt (Nat.lt_of_succ_lt hx), Nat.add_sub_cancel]

theorem pred32_lt {x n : Nat} (hx : x < n) (hn : n < U32) : (x + U32 - 1) % U32 < n ↔ 1 ≤ x := by
  rw [pred32 (Nat.lt_trans hx hn)]; split <;> omega

theorem pred32_eq {x n : Nat} (hx : x < n) (hn : n < U32) : x = (n + U32 - 1) % U32 ↔ x + 1 = n := by
  rw [pred32 hn]; split <;> omega

theorem sub64_eq {n k : Nat} (hk : k ≤ n) (hn : n < U64) : sub64 n k = n - k := by
  unfold sub64
  rw [Nat.mod_eq_of_lt (Nat.lt_of_le_of_lt hk hn), show n + U64 - k = n - k + U64 by omega, Nat.add_mod_right,
    Nat.mod_eq_of_lt (Nat.lt_of_le_of_lt (Nat.sub_le n k) hn)]

/-- one `if(c) n -= k;` step of the closed formulas, in additive form -/
theorem sub64_step {c : Prop} [Decidable c] {n k : Nat} (hk : k ≤ n) (hn : n < U64) :
    (if c then sub64 n k else n) + (if c then k else 0) = n ∧ (if c then k else 0) ≤ k := by
  rw [sub64_eq hk hn]; split <;> omega

/-- the two neighbours along one coordinate axis, each weighted `k`: one is missing at a border, and
a border is counted once although both neighbours are missing when the axis has length 1 -/
theorem axis_count {x n : Nat} (hx : x < n) (k : Nat) :
    (if x + 1 < n then k else 0) + (if 1 ≤ x then k else 0) +
      ((if x = 0 ∨ x + 1 = n then k else 0) + (if n = 1 then k else 0)) = 2 * k := by
  by_cases ha : x + 1 < n <;> by_cases hb : 1 ≤ x
  · rw [if_pos ha, if_pos hb, if_neg (by omega), if_neg (by omega)]; omega
  · rw [if_pos ha, if_neg hb, if_pos (by omega), if_neg (by omega)]; omega
  · rw [if_neg ha, if_pos hb, if_pos (by omega), if_neg (by omega)]; omega
  · rw [if_neg ha, if_neg hb, if_pos (by omega), if_pos (by omega)]; omega

theorem validDirs_square {T : Topo} (hg : T.geom = .square) {src x y : Nat} (hA : GridCell T src x y) :
    validDirs T src = (if x + 1 < T.width then 1 else 0) + (if 1 ≤ x then 1 else 0) +
      ((if y + 1 < T.height then 1 else 0) + (if 1 ≤ y then 1 else 0)) := by
  have ⟨hc, hx, hy, hw, hh⟩ := hA
  simp only [validDirs, hg, fixedDirs, recvFixed, List.countP_cons, List.countP_nil, sqFixed, hc, cell_isSome,
    decide_eq_true_eq, Nat.reduceEqDiff, if_true, if_false, Nat.zero_add, succ32_lt hx hw, pred32_lt hx hw,
    succ32_lt hy hh, pred32_lt hy hh, hx, hy, and_true, true_and]
  omega

theorem countDirectionsOrig_square {T : Topo} (hg : T.geom = .square) {src x y : Nat} (hA : GridCell T src x y) :
    countDirectionsOrig T src + (if x = 0 ∨ x + 1 = T.width then 1 else 0) +
      (if y = 0 ∨ y + 1 = T.height then 1 else 0) = 4 := by
  have ⟨hc, hx, hy, hw, hh⟩ := hA
  simp only [countDirectionsOrig, hg, hc, pred32_eq hx hw, pred32_eq hy hh]
  have h1 := sub64_step (c := x = 0 ∨ x + 1 = T.width) (n := 4) (k := 1) (by omega) (by omega)
  generalize (if x = 0 ∨ x + 1 = T.width then sub64 4 1 else 4) = n1 at h1 ⊢
  have h2 := sub64_step (c := y = 0 ∨ y + 1 = T.height) (n := n1) (k := 1) (by omega) (by omega)
  omega

/-- the pinned square formula treats "on a border" per axis as one missing neighbour; on an axis of
length 1 both neighbours are missing -/
theorem count_square_orig {T : Topo} (hg : T.geom = .square) {src x y : Nat} (hA : GridCell T src x y) :
    countDirectionsOrig T src =
      validDirs T src + (if T.width = 1 then 1 else 0) + (if T.height = 1 then 1 else 0) := by
  have ho := countDirectionsOrig_square hg hA
  have hv := validDirs_square hg hA
  have ax := axis_count hA.x_lt 1
  have ay := axis_count hA.y_lt 1
  omega

theorem hexE_lt {x y w : Nat} (hx : x < w) (hw : w < U32) : (x + y % 2) % U32 < w ↔ (y % 2 = 0 ∨ x + 1 < w) := by
  rcases Nat.mod_two_eq_zero_or_one y with h | h <;> rw [h]
  · simp only [Nat.add_zero, Nat.mod_eq_of_lt (Nat.lt_trans hx hw), hx, true_or]
  · simp only [succ32_lt hx hw, Nat.succ_ne_zero, false_or]

/-- `x += (y & 1U) - 1`: a decrement on even rows, nothing on odd rows -/
theorem hexW_lt {x y w : Nat} (hx : x < w) (hw : w < U32) : (x + oddm1 y) % U32 < w ↔ (¬ y % 2 = 0 ∨ 1 ≤ x) := by
  unfold oddm1
  rcases Nat.mod_two_eq_zero_or_one y with h | h <;> rw [h]
  · have e : x + (0 + U32 - 1) % U32 = x + U32 - 1 := by omega
    simp only [e, pred32_lt hx hw, not_true_eq_false, false_or]
  · have e : x + (1 + U32 - 1) % U32 = x := by omega
    simp only [e, Nat.mod_eq_of_lt (Nat.lt_trans hx hw), hx, Nat.succ_ne_zero, not_false_eq_true, true_or]

/-- hexagon: the number of cells of an existing adjacent row that touch cell `(x, y)`: the one in
column `x`, and the one in the column the adjacent rows are shifted to (west of an even row, east of an
odd row) if that column exists -/
def hexRow (w x y : Nat) : Nat :=
  if y % 2 = 0 then (if 1 ≤ x then 2 else 1) else (if x + 1 < w then 2 else 1)

theorem row_count (p a b u : Prop) [Decidable p] [Decidable a] [Decidable b] [Decidable u] :
    (if (¬ p ∨ b) ∧ u then 1 else 0) + (if (p ∨ a) ∧ u then 1 else 0) =
      if u then (if p then (if b then 2 else 1) else (if a then 2 else 1)) else 0 := by
  by_cases hu : u <;> by_cases hp : p <;> by_cases ha : a <;> by_cases hb : b <;> simp [hu, hp, ha, hb]

theorem validDirs_hexagon {T : Topo} (hg : T.geom = .hexagon) {src x y : Nat} (hA : GridCell T src x y) :
    validDirs T src = (if x + 1 < T.width then 1 else 0) + (if 1 ≤ x then 1 else 0) +
      ((if y + 1 < T.height then hexRow T.width x y else 0) + (if 1 ≤ y then hexRow T.width x y else 0)) := by
  have ⟨hc, hx, hy, hw, hh⟩ := hA
  simp only [validDirs, hg, fixedDirs, recvFixed, List.countP_cons, List.countP_nil, hexFixed, hc, cell_isSome,
    decide_eq_true_eq, Nat.reduceEqDiff, if_true, if_false, Nat.zero_add, succ32_lt hx hw, pred32_lt hx hw,
    succ32_lt hy hh, pred32_lt hy hh, hexE_lt hx hw, hexW_lt hx hw, hy, and_true, hexRow]
  have hS := row_count (y % 2 = 0) (x + 1 < T.width) (1 ≤ x) (y + 1 < T.height)
  have hN := row_count (y % 2 = 0) (x + 1 < T.width) (1 ≤ x) (1 ≤ y)
  omega

/-- the hexagon formula of the pinned tree, read additively: from 6 it takes off, for a missing side
column, the cells that lie in it (3 on the side the adjacent rows are shifted to, else 1), and, if an
adjacent row is missing, `x == 0 ? 1 : 2` -/
theorem countDirectionsOrig_hexagon {T : Topo} (hg : T.geom = .hexagon) {src x y : Nat} (hA : GridCell T src x y) :
    countDirectionsOrig T src + (if y = 0 ∨ y + 1 = T.height then (if 1 ≤ x then 2 else 1) else 0) +
      ((if x = 0 then (if y % 2 = 0 then 3 else 1) else 0) +
       (if x + 1 = T.width then (if y % 2 = 0 then 1 else 3) else 0)) = 6 := by
  have ⟨hc, hx, hy, hw, hh⟩ := hA
  have k0 : (if x = 0 then 1 else 2) = (if 1 ≤ x then 2 else 1) := by
    by_cases hL : x = 0
    · rw [if_pos hL, if_neg (by omega)]
    · rw [if_neg hL, if_pos (by omega)]
  have kL : (3 + U32 - 2 * (y % 2)) % U32 = if y % 2 = 0 then 3 else 1 := by
    rcases Nat.mod_two_eq_zero_or_one y with h | h <;> rw [h] <;> rfl
  have kR : (3 + U32 - 2 * (1 - y % 2)) % U32 = if y % 2 = 0 then 1 else 3 := by
    rcases Nat.mod_two_eq_zero_or_one y with h | h <;> rw [h] <;> rfl
  simp only [countDirectionsOrig, hg, hc, pred32_eq hx hw, pred32_eq hy hh, kL, kR, k0]
  clear kL kR k0 hw hh hc hg
  -- the subtractions never wrap: at most 5 of the 6 neighbours are taken off
  have h0 : (if 1 ≤ x then 2 else 1) + (if x = 0 then (if y % 2 = 0 then 3 else 1) else 0) +
      (if y % 2 = 0 then 1 else 3) ≤ 5 ∧ (if 1 ≤ x then 2 else 1) ≤ 2 ∧
      (if y % 2 = 0 then 3 else 1) ≤ 3 := by
    have hL : x = 0 ↔ ¬ 1 ≤ x := by omega
    by_cases hb : 1 ≤ x <;> by_cases hp : y % 2 = 0 <;>
      simp only [hb, hp, hL, if_true, if_false, not_true_eq_false, not_false_eq_true] <;> decide
  have h1 := sub64_step (c := y = 0 ∨ y + 1 = T.height) (n := 6) (k := if 1 ≤ x then 2 else 1) (by omega) (by decide)
  generalize (if y = 0 ∨ y + 1 = T.height then sub64 6 (if 1 ≤ x then 2 else 1) else 6) = n1 at h1 ⊢
  have hn1 : n1 ≤ 6 := Nat.le.intro h1.1
  have h2 := sub64_step (c := x = 0) (n := n1) (k := if y % 2 = 0 then 3 else 1) (by omega)
    (Nat.lt_of_le_of_lt hn1 (by decide))
  generalize (if x = 0 then sub64 n1 (if y % 2 = 0 then 3 else 1) else n1) = n2 at h2 ⊢
  have h3 := sub64_step (c := x + 1 = T.width) (n := n2) (k := if y % 2 = 0 then 1 else 3) (by omega)
    (Nat.lt_of_le_of_lt (Nat.le_trans (Nat.le.intro h2.1) hn1) (by decide))
  omega

/-- with both adjacent rows present the column terms of the formula are right -/
theorem hex_columns {w x y : Nat} (hx : x < w) :
    (if x + 1 < w then 1 else 0) + (if 1 ≤ x then 1 else 0) + 2 * hexRow w x y +
      ((if x = 0 then (if y % 2 = 0 then 3 else 1) else 0) +
       (if x + 1 = w then (if y % 2 = 0 then 1 else 3) else 0)) = 6 := by
  have hL : x = 0 ↔ ¬ 1 ≤ x := by omega
  have hR : x + 1 = w ↔ ¬ x + 1 < w := by omega
  simp only [hexRow, hL, hR]
  by_cases hp : y % 2 = 0 <;> by_cases hb : 1 ≤ x <;> by_cases ha : x + 1 < w <;>
    simp only [hp, hb, ha, if_true, if_false, not_true_eq_false, not_false_eq_true]

/-- how far the hexagon formula is off: a missing adjacent row costs `hexRow` neighbours, once per
missing row; the formula takes off `x == 0 ? 1 : 2`, once even if both rows are missing -/
theorem count_hexagon_orig {T : Topo} (hg : T.geom = .hexagon) {src x y : Nat} (hA : GridCell T src x y) :
    countDirectionsOrig T src + (if y = 0 ∨ y + 1 = T.height then (if 1 ≤ x then 2 else 1) else 0) =
      validDirs T src + ((if y = 0 ∨ y + 1 = T.height then hexRow T.width x y else 0) +
        (if T.height = 1 then hexRow T.width x y else 0)) := by
  have ho := countDirectionsOrig_hexagon hg hA
  have hv := validDirs_hexagon hg hA
  have hcol := hex_columns (y := y) hA.x_lt
  have hrow := axis_count hA.y_lt (hexRow T.width x y)
  omega

theorem validDirs_pos {T : Topo} {src : Nat} :
    0 < validDirs T src ↔ ∃ d ∈ fixedDirs T.geom, recvFixed T src d ≠ none := by
  simp only [validDirs, List.countP_pos_iff, Option.isSome_iff_ne_none]

theorem validDirs_eq_zero {T : Topo} {src : Nat} :
    validDirs T src = 0 ↔ ∀ d ∈ fixedDirs T.geom, recvFixed T src d = none := by
  simp only [validDirs, List.countP_eq_zero, Option.not_isSome_iff_eq_none]

theorem fixedDirs_ne (g : Geom) : ∀ d ∈ fixedDirs g, d ≠ dRANDOM := by cases g <;> decide

/-- the contract of the draws of a grid geometry: one in-range draw per step of the Fisher-Yates pass -/
theorem RinOK.grid_iff {sf : Bool} {T : Topo} {src : Nat} {rin : List Nat}
    (hg : T.geom = .hexagon ∨ T.geom = .square ∨ T.geom = .torus) :
    RinOK sf T src rin ↔ (fixedDirs T.geom).length - 1 ≤ rin.length ∧
      ∀ j ∈ rin.take ((fixedDirs T.geom).length - 1), j < (fixedDirs T.geom).length := by
  rcases hg with hg | hg | hg <;> rw [RinOK, hg] <;> exact Iff.rfl

/-- the file-scope array that `DIRECTION_RANDOM` shuffles on a grid of geometry `g` -/
def Arrays.of (st : Arrays) (g : Geom) : List Nat := if g = .hexagon then st.hex else st.sq

theorem Arrays.OK.of {st : Arrays} (h : st.OK) {g : Geom} (hg : g = .hexagon ∨ g = .square ∨ g = .torus) :
    (st.of g).Perm (fixedDirs g) := by
  rcases hg with rfl | rfl | rfl
  · exact h.1
  · exact h.2
  · exact h.2

theorem Arrays.exists_of {g : Geom} (hg : g = .hexagon ∨ g = .square ∨ g = .torus) {arr : List Nat}
    (hp : arr.Perm (fixedDirs g)) : ∃ st : Arrays, st.OK ∧ st.of g = arr := by
  rcases hg with rfl | rfl | rfl
  · exact ⟨⟨arr, sqDirs⟩, ⟨hp, .refl _⟩, rfl⟩
  · exact ⟨⟨hexDirs, arr⟩, ⟨.refl _, hp⟩, rfl⟩
  · exact ⟨⟨hexDirs, arr⟩, ⟨.refl _, hp⟩, rfl⟩

theorem getNeighborBidring_random_exists (R src b : Nat) (rest : List Nat) :
    ∃ r, getNeighborBidring R src dRANDOM (b :: rest) = .region r := by
  unfold getNeighborBidring
  by_cases hb : b = 0
  · exact ⟨((src + R + U64 - 1) % U64) % R, by
      simp only [hb, ne_eq, not_true_eq_false, if_true, if_false, Nat.reduceEqDiff]⟩
  · exact ⟨((src + 1) % U64) % R, by simp only [hb, ne_eq, not_false_eq_true, if_true]⟩

/-- `DIRECTION_RANDOM` on a grid is `get_random_neighbor` of the geometry's fixed-direction function on the
geometry's array -/
theorem getReceiverV_grid_random_eq (sf hf : Bool) {T : Topo} (st : Arrays) {src : Nat} (rin : List Nat)
    (hg : T.geom = .hexagon ∨ T.geom = .square ∨ T.geom = .torus) (hs : src < T.regions) :
    (getReceiverV sf hf T st src dRANDOM rin).1 =
      (gridRandom hf (recvFixed T src) (fixedDirs T.geom) (st.of T.geom) rin).1 := by
  unfold getReceiverV
  rw [if_neg (by omega)]
  have e (F : Nat → Option Nat) (h : ∀ d, recvFixed T src d = F d) : recvFixed T src = F := funext h
  rcases hg with hg | hg | hg <;> simp only [hg, if_true, fixedDirs, Arrays.of, reduceCtorEq, if_false]
  · rw [e (hexFixed T.width T.height src) fun d => by simp only [recvFixed, hg]]
  · rw [e (sqFixed T.width T.height src) fun d => by simp only [recvFixed, hg]]
  · rw [e (torFixed T.width T.height src) fun d => by simp only [recvFixed, hg]]

/-- with in-contract draws: the scan over some permutation of the direction array of the geometry
(the array holds a permutation of its initialiser in every reachable state) -/
theorem getReceiverV_grid_random {sf hf : Bool} {T : Topo} {st : Arrays} {src : Nat} {rin : List Nat}
    (hg : T.geom = .hexagon ∨ T.geom = .square ∨ T.geom = .torus) (hs : src < T.regions)
    (hst : hf = true ∨ st.OK) (hrin : RinOK sf T src rin) :
    ∃ a, a.Perm (fixedDirs T.geom) ∧
      (getReceiverV sf hf T st src dRANDOM rin).1 = firstValid (recvFixed T src) a := by
  rw [getReceiverV_grid_random_eq sf hf st rin hg hs]
  exact gridRandom_eq (recvFixed T src) (hst.imp_right (·.of hg)) ((RinOK.grid_iff hg).1 hrin).1
    ((RinOK.grid_iff hg).1 hrin).2

theorem getReceiverV_fixed (sf hf : Bool) {T : Topo} {st : Arrays} {src d : Nat} (rin : List Nat)
    (hs : src < T.regions) (hd : d ∈ fixedDirs T.geom) :
    getReceiverV sf hf T st src d rin = (.ofOption (recvFixed T src d), st) := by
  have hne := fixedDirs_ne _ d hd
  unfold getReceiverV
  rw [if_neg (by omega)]
  cases hg : T.geom <;> rw [hg] at hd
  case hexagon | square | torus => simp only [recvFixed, hg, hne, if_false]
  case star | fcmesh | graph => exact absurd hd List.not_mem_nil
  case ring =>
    simp only [fixedDirs, List.mem_cons, List.not_mem_nil, or_false] at hd
    simp only [recvFixed, hg, hd, if_true]
  case bidring =>
    simp only [fixedDirs, List.mem_cons, List.not_mem_nil, or_false] at hd
    rcases hd with rfl | rfl
    · simp only [recvFixed, hg, bidFixed_E, getNeighborBidring, Nat.reduceEqDiff, if_false, if_true, Recv.ofOption]
    · simp only [recvFixed, hg, bidFixed_W, getNeighborBidring, Nat.reduceEqDiff, if_false, if_true, Recv.ofOption]

theorem ofOption_ne_invalid (o : Option Nat) : (Recv.ofOption o ≠ .invalid) ↔ o.isSome = true := by
  cases o <;> simp [Recv.ofOption]

/-- `validDirs` is what the property text says: the number of fixed directions `d` for which
`GetReceiver(from, d)` is not `INVALID_DIRECTION` -/
theorem validDirs_spec (sf hf : Bool) {T : Topo} (st : Arrays) {src : Nat} (rin : List Nat) (hs : src < T.regions) :
    validDirs T src =
      (fixedDirs T.geom).countP (fun d => decide ((getReceiverV sf hf T st src d rin).1 ≠ .invalid)) := by
  unfold validDirs
  apply List.countP_congr
  intro d hd
  rw [getReceiverV_fixed sf hf rin hs hd]
  simp only [decide_eq_true_eq, ofOption_ne_invalid]

theorem count_eq_validDirs {T : Topo} {src : Nat}
    (hg : T.geom = .hexagon ∨ T.geom = .square ∨ T.geom = .torus ∨ T.geom = .ring ∨ T.geom = .bidring) :
    countDirections T src = validDirs T src := by
  have range8 : List.range 8 = [0, 1, 2, 3, 4, 5, 6, 7] := by decide
  have range4 : List.range 4 = [0, 1, 2, 3] := by decide
  rcases hg with hg | hg | hg | hg | hg
  · simp only [countDirections, validDirs, hg, fixedDirs, recvFixed, range8, List.countP_cons, List.countP_nil]
    rw [hexFixed_none (d := dN) (by decide), hexFixed_none (d := dS) (by decide)]
    simp only [Option.isSome_none, Bool.false_eq_true, if_false]
    omega
  · simp only [countDirections, validDirs, hg, fixedDirs, recvFixed, range4]
  · simp only [countDirections, countDirectionsOrig, validDirs, hg, fixedDirs, recvFixed, List.countP_cons,
      List.countP_nil, torFixed, Nat.reduceEqDiff, if_true, if_false, Option.isSome_some]
  · simp only [countDirections, countDirectionsOrig, validDirs, hg, fixedDirs, recvFixed, List.countP_cons,
      List.countP_nil, ringFixed, if_true, true_or, Option.isSome_some]
  · simp only [countDirections, countDirectionsOrig, validDirs, hg, fixedDirs, recvFixed, List.countP_cons,
      List.countP_nil, bidFixed_E, bidFixed_W, Option.isSome_some, if_true]

theorem addLink_graph {T T' : Topo} {s t : Nat} {b : Bool} (hg : T.geom = .graph)
    (h : addLink T s t true = some (T', b)) :
    ∃ l, T.adj[s]? = some l ∧ b = true ∧
      T' = { T with adj := T.adj.set s (if t ∈ l then l else l ++ [t]) } := by
  unfold addLink at h
  rw [if_neg (by simp [hg])] at h
  simp only [Bool.not_true, Bool.false_eq_true, if_false] at h
  split at h
  · cases h
  · rename_i l hl
    simp only [Option.some.injEq, Prod.mk.injEq] at h
    exact ⟨l, hl, h.2.symm, h.1.symm⟩

theorem addLink_nbrs {T T' : Topo} {s t : Nat} {b : Bool} (hg : T.geom = .graph)
    (h : addLink T s t true = some (T', b)) :
    s < T.adj.length ∧ T'.geom = .graph ∧ T'.regions = T.regions ∧ T'.adj.length = T.adj.length ∧
    ∀ u, T'.nbrs u = if u = s then (if t ∈ T.nbrs s then T.nbrs s else T.nbrs s ++ [t]) else T.nbrs u := by
  obtain ⟨l, hl, _, rfl⟩ := addLink_graph hg h
  have hlt : s < T.adj.length := (List.getElem?_eq_some_iff.mp hl).1
  refine ⟨hlt, hg, rfl, by simp, ?_⟩
  intro u
  simp only [Topo.nbrs, List.getElem?_set, hl, Option.getD_some]
  by_cases hu : u = s
  · subst hu; simp [hlt]
  · have : ¬ s = u := fun h => hu h.symm
    simp [hu, this]

/-- one accepted `AddTopologyLink(from = s, to = t)`: the list of `s` gains `t` unless it holds it already -/
theorem addLink_spec {T T' : Topo} {s t : Nat} {b : Bool} (hg : T.geom = .graph)
    (h : addLink T s t true = some (T', b)) (u : Nat) :
    ((T.nbrs u).Nodup → (T'.nbrs u).Nodup) ∧ ∀ t', t' ∈ T'.nbrs u ↔ (t' ∈ T.nbrs u ∨ (u, t') = (s, t)) := by
  rw [(addLink_nbrs hg h).2.2.2.2 u]
  by_cases hu : u = s
  · subst hu
    by_cases ht : t ∈ T.nbrs u
    · simp only [ht, if_true, Prod.mk.injEq, true_and]
      exact ⟨id, fun t' => ⟨Or.inl, fun h => h.elim id (· ▸ ht)⟩⟩
    · simp only [ht, if_true, if_false, Prod.mk.injEq, true_and, List.mem_append, List.mem_singleton]
      refine ⟨fun hnd => List.nodup_append.mpr ⟨hnd, List.pairwise_singleton _ _, ?_⟩, fun _ => trivial⟩
      intro a ha b hb
      rw [List.mem_singleton.mp hb]
      exact fun hab => ht (hab ▸ ha)
  · simp only [hu, if_false, Prod.mk.injEq, false_and, or_false]
    exact ⟨id, fun _ => trivial⟩

theorem addLinks_spec {T T' : Topo} {ops : List (Nat × Nat)} (hg : T.geom = .graph)
    (h : addLinks T ops = some T') :
    T'.geom = .graph ∧ T'.regions = T.regions ∧ T'.adj.length = T.adj.length ∧
    ∀ s, ((T.nbrs s).Nodup → (T'.nbrs s).Nodup) ∧ ∀ t, t ∈ T'.nbrs s ↔ (t ∈ T.nbrs s ∨ (s, t) ∈ ops) := by
  induction ops generalizing T with
  | nil =>
    cases h
    exact ⟨hg, rfl, rfl, fun s => ⟨id, fun t => by simp only [List.not_mem_nil, or_false]⟩⟩
  | cons op ops ih =>
    obtain ⟨s0, t0⟩ := op
    simp only [addLinks] at h
    split at h
    · cases h
    · rename_i T1 b h1
      obtain ⟨_, hg1, hr1, hl1, _⟩ := addLink_nbrs hg h1
      obtain ⟨hg', hr', hl', hn'⟩ := ih hg1 h
      refine ⟨hg', hr'.trans hr1, hl'.trans hl1, fun s => ?_⟩
      obtain ⟨hnd1, hm1⟩ := addLink_spec hg h1 s
      obtain ⟨hnd', hm'⟩ := hn' s
      exact ⟨hnd' ∘ hnd1, fun t => by rw [hm' t, hm1 t, List.mem_cons, or_assoc]⟩

/-- draws `i, i+1, …` make every swap of the Fisher-Yates pass a no-op -/
theorem shuffleLoop_id (a : List Nat) (i k : Nat) (h : i + k ≤ a.length) :
    shuffleLoop a i k (List.range' i k) = some a := by
  induction k generalizing i with
  | zero => simp [shuffleLoop]
  | succ k ih =>
    have hi : i < a.length := by omega
    have hsw : swapAt a i i = some a := by
      unfold swapAt
      simp only [List.getElem?_eq_getElem hi]
      simp
    simp only [List.range'_succ, shuffleLoop, hsw]
    exact ih (i + 1) (by omega)

theorem shuffle_id (a : List Nat) : shuffle a (List.range' 0 (a.length - 1)) = some a := by
  unfold shuffle
  split
  · exact shuffleLoop_id a 0 _ (by omega)
  · rfl

/-- the original code: if all valid fixed directions lead to the same region, the array contents
cannot matter … -/
theorem getRandomNeighborOrig_coincide {fixed : Nat → Option Nat} {dirs arr arr' js : List Nat}
    (hp : arr.Perm dirs) (hp' : arr'.Perm dirs) (hnr : ∀ d ∈ dirs, d ≠ dRANDOM)
    (hlen : dirs.length - 1 ≤ js.length) (hj : ∀ j ∈ js.take (dirs.length - 1), j < dirs.length)
    (hco : ∀ d1 ∈ dirs, ∀ d2 ∈ dirs, ∀ r1 r2, fixed d1 = some r1 → fixed d2 = some r2 → r1 = r2) :
    (getRandomNeighborOrig fixed arr js).1 = (getRandomNeighborOrig fixed arr' js).1 := by
  obtain ⟨a, hpa, e⟩ := getRandomNeighborOrig_eq fixed hp hlen hj
  obtain ⟨a', hpa', e'⟩ := getRandomNeighborOrig_eq fixed hp' hlen hj
  rw [e, e']
  by_cases hex : ∃ d ∈ dirs, fixed d ≠ none
  · obtain ⟨r, hr⟩ := firstValid_exists hpa hnr hex
    obtain ⟨r', hr'⟩ := firstValid_exists hpa' hnr hex
    obtain ⟨d, hd, _, hfd⟩ := firstValid_region hr
    obtain ⟨d', hd', _, hfd'⟩ := firstValid_region hr'
    simp only [hr, hr', hco d (hpa.mem_iff.mp hd) d' (hpa'.mem_iff.mp hd') r r' hfd hfd']
  · have hno : ∀ d ∈ dirs, fixed d = none := fun d hd =>
      Decidable.byContradiction fun h => hex ⟨d, hd, h⟩
    simp only [firstValid_none hpa hnr hno, firstValid_none hpa' hnr hno]

/-- … and if two valid fixed directions lead to different regions, there are two reachable array
contents on which the same draws give different receivers -/
theorem getRandomNeighborOrig_differ {fixed : Nat → Option Nat} {dirs : List Nat} {d1 d2 r1 r2 : Nat}
    (hnr : ∀ d ∈ dirs, d ≠ dRANDOM) (h1 : d1 ∈ dirs) (h2 : d2 ∈ dirs)
    (hf1 : fixed d1 = some r1) (hf2 : fixed d2 = some r2) (hne : r1 ≠ r2) :
    ∃ arr arr' js, arr.Perm dirs ∧ arr'.Perm dirs ∧ dirs.length - 1 ≤ js.length ∧
      (∀ j ∈ js.take (dirs.length - 1), j < dirs.length) ∧
      (getRandomNeighborOrig fixed arr js).1 ≠ (getRandomNeighborOrig fixed arr' js).1 := by
  have hp1 : (d1 :: dirs.erase d1).Perm dirs := (List.perm_cons_erase h1).symm
  have hp2 : (d2 :: dirs.erase d2).Perm dirs := (List.perm_cons_erase h2).symm
  have hl1 : (d1 :: dirs.erase d1).length = dirs.length := hp1.length_eq
  have hl2 : (d2 :: dirs.erase d2).length = dirs.length := hp2.length_eq
  refine ⟨d1 :: dirs.erase d1, d2 :: dirs.erase d2, List.range' 0 (dirs.length - 1), hp1, hp2, by simp, ?_, ?_⟩
  · intro j hj
    have := List.mem_of_mem_take hj
    simp only [List.mem_range'_1] at this
    omega
  · have e1 := shuffle_id (d1 :: dirs.erase d1)
    have e2 := shuffle_id (d2 :: dirs.erase d2)
    rw [hl1] at e1
    rw [hl2] at e2
    simp only [getRandomNeighborOrig, e1, e2, firstValid, hnr d1 h1, hnr d2 h2, if_false, hf1, hf2]
    intro h
    exact hne (by simpa using h)

end RootSim.Topo
