import RootSim.Model.SpecV2
import RootSim.Proofs.Spec
/-! Prefix uniqueness, from the hypothesis `Spec.Progress`.

Strict causality is needed in exactly one place to tie every run of the sequential relation to a global
history `G` with `Spec.Hist` (`Phase1.minimal_rem_pending` of `Proofs/Spec.lean`: a minimal not-yet-dispatched
event of the history is pending, because its cause is strictly before it, hence dispatched). Under V2 alone that
step is FALSE for an arbitrary history with H1–H3 (`PrefixUnique.v2_only_counterexample`). The development
below takes it as a hypothesis, `Spec.Progress M G g`: whenever a sequential run has so far followed the history and some event
of the history below `g` has not been dispatched yet, then some not-yet-dispatched event of the history
that is minimal among those is pending. Everything else needs only that destinations exist and that time
stamps do not decrease (`Followable`). `Progress` follows from V2s (`progress_of_V2s`), and — the point —
from the ghost creation order of the instrumented Time Warp machine under V2 alone
(`Proofs/TimeWarpGProgress.lean`). -/
namespace RootSim.Spec
open RootSim List

variable {σ : Type}

theorem V2s.toV2 {M : SimModel σ} (V : V2s M) : V2 M :=
  fun ℓ s c o ho => ⟨Event.before_asymm (V ℓ s c o ho).1, (V ℓ s c o ho).2⟩

theorem V2.timeMono {M : SimModel σ} (V : V2 M) : TimeMono M :=
  fun ℓ s c o ho => Event.t_le_of_not_before (V ℓ s c o ho).1

theorem v2Check_sound {M : SimModel σ} {ℓ : Nat} {s : σ} {c : Event} (h : v2Check M ℓ s c = true) :
    M.validStep ℓ s c := by
  intro o ho
  unfold v2Check at h
  have := List.all_eq_true.mp h o ho
  simp only [Bool.and_eq_true, Bool.not_eq_true', decide_eq_true_eq] at this
  exact ⟨this.1.1, this.1.2, this.2⟩

/-- what the machine must supply under V2: the sequential run can always continue along the history -/
def Progress (M : SimModel σ) (G : Nat → List Event) (g : Nat) : Prop :=
  ∀ s : SeqState σ, Phase1 M G g s → remAll M G g s ≠ [] →
    ∃ y ∈ remAll M G g s, (∀ z ∈ remAll M G g s, Event.before z y = false) ∧ y ∈ s.pending

section
variable {M : SimModel σ} {G G' : Nat → List Event} {g g' : Nat} {s : SeqState σ}

theorem progress_of_V2s (H : Hist M G g) (V : V2sBelow M G g) (T : TimeMono M) : Progress M G g := by
  intro s P hne
  obtain ⟨y, hyR, hymin⟩ := Event.exists_minimal (remAll M G g s) hne
  exact ⟨y, hyR, hymin, P.minimal_rem_pending H V T hyR hymin⟩

theorem Progress.mono (hg : g' ≤ g) (W : Progress M G g) : Progress M G g' := by
  intro s P hne
  have hsub : ∀ z ∈ remAll M G g' s, z ∈ remAll M G g s := fun z hz => by
    obtain ⟨ℓ, hℓ, hr, ht⟩ := mem_remAll.mp hz
    exact mem_remAll.mpr ⟨ℓ, hℓ, hr, Nat.lt_of_lt_of_le ht hg⟩
  obtain ⟨a, ha⟩ := List.exists_mem_of_ne_nil _ hne
  obtain ⟨y, hyR, hymin, hyp⟩ := W s (P.mono hg) (List.ne_nil_of_mem (hsub a ha))
  -- `y` is not after the remainder event `a` below `g'`, hence below `g'` itself
  obtain ⟨ℓy, hℓy, hyr, _⟩ := mem_remAll.mp hyR
  obtain ⟨_, _, _, hat⟩ := mem_remAll.mp ha
  have hyt : y.t < g' := Nat.lt_of_le_of_lt (Event.t_le_of_not_before (hymin a (hsub a ha))) hat
  exact ⟨y, mem_remAll.mpr ⟨ℓy, hℓy, hyr, hyt⟩, fun z hz => hymin z (hsub z hz), hyp⟩

/-- what the sequential runs need of a history `G` at `g` in order to follow it: H1–H3, existing
destination LPs for what they have pending below `g`, `Progress`, and time stamps that do not decrease
from cause to effect -/
structure Followable (M : SimModel σ) (G : Nat → List Event) (g : Nat) : Prop where
  hist     : Hist M G g
  /-- while a sequential run follows the history (`Phase1`), what it has pending below `g` goes to existing
  LPs; both contracts give this for every scheduled event (`of_V2`, `of_V2sBelow`) -/
  dest     : ∀ s : SeqState σ, Phase1 M G g s → ∀ e ∈ s.pending, e.t < g → e.dest < M.nLps
  progress : Progress M G g
  timeMono : TimeMono M

theorem Followable.of_V2 (H : Hist M G g) (V : V2 M) (W : Progress M G g) : Followable M G g :=
  ⟨H, fun _ P e he _ => by
      obtain ⟨ℓ, _, _, c, _, _, ho⟩ := P.pending_sent he
      exact (V ℓ _ c e ho).2.1,
    W, V.timeMono⟩

theorem Followable.of_V2sBelow (H : Hist M G g) (V : V2sBelow M G g) (T : TimeMono M) :
    Followable M G g :=
  ⟨H, fun s P e he hlt => by
      obtain ⟨ℓ, hℓ, P0, c, S, hl, ho⟩ := P.pending_sent he
      have hct : c.t < g := P.disp_low H hℓ (Nat.lt_of_le_of_lt (Nat.zero_le _) hlt) (by rw [hl]; simp)
      have hG : G ℓ = P0 ++ c :: (S ++ remOf G s ℓ) := by rw [P.split hℓ, hl]; simp
      exact (V ℓ hℓ P0 c _ hG hct e ho).2,
    progress_of_V2s H V T, T⟩

theorem Followable.of_V2s (H : Hist M G g) (V : V2s M) : Followable M G g :=
  .of_V2sBelow H (V.below G g) V.timeMono

theorem Followable.mono (hg : g' ≤ g) (F : Followable M G g) : Followable M G g' :=
  ⟨F.hist.mono hg, fun s P e he hlt => F.dest s (P.mono hg) e he (Nat.lt_of_lt_of_le hlt hg),
    F.progress.mono hg, F.timeMono⟩

/-- **Key lemma**: in phase 1, a minimal pending event below `g` is (equal to) the next event of its
destination LP's history. -/
theorem Phase1.next_of_minimal (F : Followable M G g) (P : Phase1 M G g s) {e : Event}
    (he : e ∈ s.pending) (hmin : Minimal e s.pending) (hlt : e.t < g) :
    e.dest < M.nLps ∧ ∃ S, remOf G s e.dest = e :: S := by
  have H := F.hist
  have hd := F.dest s P e he hlt
  have her := P.pending_in_rem H he hlt hd
  refine ⟨hd, ?_⟩
  have heR : e ∈ remAll M G g s := mem_remAll.mpr ⟨_, hd, her, hlt⟩
  -- some minimal remainder event `y` is pending, hence not before `e`: `e` is minimal among the
  -- remainder events too
  obtain ⟨y, _, hymin, hyp⟩ := F.progress s P (List.ne_nil_of_mem heR)
  have heminR : ∀ z ∈ remAll M G g s, Event.before z e = false := fun z hz =>
    Event.not_before_trans (hymin z hz) (hmin y hyp)
  -- the first remainder event `x` of LP `e.dest` is not after `e` either
  cases hrem : remOf G s e.dest with
  | nil => rw [hrem] at her; simp at her
  | cons x S =>
    rw [hrem] at her
    have hsorted := H.sorted _ hd
    rw [P.tail_split hd, hrem, List.pairwise_append, List.pairwise_cons] at hsorted
    have hex : Event.before e x = false := by
      rcases List.mem_cons.mp her with rfl | h
      · exact Event.before_irrefl _
      · exact hsorted.2.1.1 e h
    have hxt : x.t < g := Nat.lt_of_le_of_lt (Event.t_le_of_not_before hex) hlt
    have hxR : x ∈ remAll M G g s := mem_remAll.mpr ⟨_, hd, by rw [hrem]; simp, hxt⟩
    have hxd : x.dest = e.dest := P.rem_dest H hd (by rw [hrem]; simp)
    rw [Event.eq_of_incomp (heminR x hxR) hex hxd]
    exact ⟨S, rfl⟩

theorem Phase1.step (F : Followable M G g) (P : Phase1 M G g s) {e : Event} (he : e ∈ s.pending)
    (hmin : Minimal e s.pending) (hlt : e.t < g) :
    Phase1 M G g (dispatch M { s with pending := s.pending.erase e } e) := by
  obtain ⟨hd, S, hS⟩ := P.next_of_minimal F he hmin hlt
  exact P.step_of_next he hlt hd hS

theorem Phase1.remAll_nil (W : Progress M G g) (P : Phase1 M G g s)
    (hlate : ∀ x ∈ s.pending, g ≤ x.t) : remAll M G g s = [] :=
  Decidable.byContradiction fun hne => by
    obtain ⟨y, hyR, _, hyp⟩ := W s P hne
    obtain ⟨_, _, _, hyt⟩ := mem_remAll.mp hyR
    exact Nat.not_lt.mpr (hlate y hyp) hyt

theorem Phase1.toPhase2_of_late (H : Hist M G g) (W : Progress M G g)
    (P : Phase1 M G g s) (hlate : ∀ x ∈ s.pending, g ≤ x.t) : Phase2 M G g s := by
  refine ⟨hlate, fun ℓ hℓ => ⟨[], ?_, by simp⟩⟩
  have hrem : (remOf G s ℓ).filter (below g) = [] :=
    List.flatMap_eq_nil_iff.mp (P.remAll_nil W hlate) ℓ (List.mem_range.mpr hℓ)
  have hd : (s.disp ℓ).tail.filter (below g) = (s.disp ℓ).tail :=
    List.filter_eq_self.mpr fun a ha => decide_eq_true (P.low ℓ hℓ a ha)
  rw [P.tail_split hℓ, List.filter_append, hrem, hd, List.append_nil, List.append_nil]
  exact P.disp_cons H hℓ

theorem reachable_phase (F : Followable M G g) (hr : Reachable M s) :
    Phase1 M G g s ∨ Phase2 M G g s := by
  induction hr with
  | init => exact Or.inl (phase1_init F.hist)
  | @step s _ _ hs ih =>
    cases hs with
    | mk e hmem hmin =>
      rcases ih with P | P
      · by_cases hlt : e.t < g
        · exact Or.inl (P.step F hmem hmin hlt)
        · -- the minimal pending event is not below `g`, so none is
          have hlate : ∀ x ∈ s.pending, g ≤ x.t := fun x hx =>
            Nat.le_trans (Nat.le_of_not_lt hlt) (Event.t_le_of_not_before (hmin x hx))
          exact Or.inr ((P.toPhase2_of_late F.hist F.progress hlate).step F.timeMono hmem)
      · exact Or.inr (P.step F.timeMono hmem)

theorem Followable.phase2 (F : Followable M G g) (hr : Reachable M s)
    (hl : ∀ x ∈ s.pending, g ≤ x.t) : Phase2 M G g s := by
  rcases reachable_phase F hr with P | P
  · exact P.toPhase2_of_late F.hist F.progress hl
  · exact P

theorem Followable.exists_run (F : Followable M G g) :
    ∃ s, Reachable M s ∧ Phase1 M G g s ∧ ∀ x ∈ s.pending, g ≤ x.t := by
  -- as long as something below `g` is pending, a step dispatches one more event of the history
  suffices ∀ n (s : SeqState σ), Reachable M s → Phase1 M G g s →
      (restAll M.nLps G).length < (restAll M.nLps s.disp).length + n →
      ∃ s', Reachable M s' ∧ Phase1 M G g s' ∧ ∀ x ∈ s'.pending, g ≤ x.t from
    this ((restAll M.nLps G).length + 1) _ Reachable.init (phase1_init F.hist)
      (Nat.lt_of_lt_of_le (Nat.lt_succ_self _) (Nat.le_add_left _ _))
  intro n
  induction n with
  | zero => intro s _ P hn; exact absurd hn (Nat.not_lt.mpr P.rest_length_le)
  | succ n ih =>
    intro s hr P hn
    by_cases hx : ∃ x ∈ s.pending, x.t < g
    · obtain ⟨x, hx, hxt⟩ := hx
      obtain ⟨e, he, hmin⟩ := Event.exists_minimal s.pending (List.ne_nil_of_mem hx)
      have het : e.t < g := Nat.lt_of_le_of_lt (Event.t_le_of_not_before (hmin x hx)) hxt
      obtain ⟨hd, S, hS⟩ := P.next_of_minimal F he hmin het
      refine ih _ (hr.step (Step.mk s e he hmin)) (P.step_of_next he het hd hS) ?_
      have := restAll_snoc additive_length hd (P.ne _ hd) e
      rw [dispatch_disp, this, List.length_singleton, Nat.add_assoc, Nat.add_comm 1]
      exact hn
    · exact ⟨s, hr, P, fun x hx' => Nat.le_of_not_lt fun hxt => hx ⟨x, hx', hxt⟩⟩

/-- **Prefix uniqueness.** What a sequential run has dispatched to LP `ℓ` below `g` is a prefix of the
history of `ℓ` below `g`, and all of it once the run has nothing below `g` pending. -/
theorem Followable.prefix_unique (F : Followable M G g) (hr : Reachable M s) {ℓ : Nat}
    (hℓ : ℓ < M.nLps) :
    (s.disp ℓ).filter (below g) <+: (G ℓ).filter (below g) ∧
    ((∀ x ∈ s.pending, g ≤ x.t) → (s.disp ℓ).filter (below g) = (G ℓ).filter (below g)) := by
  refine ⟨?_, fun hl => (F.phase2 hr hl).filter_eq F.hist hℓ⟩
  rcases reachable_phase F hr with P | P
  · exact (P.pre ℓ hℓ).filter _
  · rw [P.filter_eq F.hist hℓ]; exact List.prefix_rfl

/-- two histories at the same `g` agree below `g`: both are what the same sequential run dispatches -/
theorem Followable.history_unique (F : Followable M G g) (F' : Followable M G' g) {ℓ : Nat}
    (hℓ : ℓ < M.nLps) : (G ℓ).filter (below g) = (G' ℓ).filter (below g) := by
  obtain ⟨s, hr, _, hl⟩ := F.exists_run
  exact ((F.phase2 hr hl).filter_eq F.hist hℓ).symm.trans ((F'.phase2 hr hl).filter_eq F'.hist hℓ)

theorem Followable.committed_prefix (hg : g' ≤ g) (F' : Followable M G' g') (F : Followable M G g)
    {ℓ : Nat} (hℓ : ℓ < M.nLps) : (G' ℓ).filter (below g') <+: (G ℓ).filter (below g) := by
  rw [F'.history_unique (F.mono hg) hℓ]
  exact tsorted_filter_prefix hg _ (F.hist.tsorted hℓ)

/-- histories that the sequential runs can follow at every bound, and that have processed exactly what they
have sent, are the dispatch sequences of a finished sequential run -/
theorem quiescent_sequential (F : ∀ g, Followable M G g)
    (hcnt : ∀ x : Event, (restAll M.nLps G).count x = (outsAll M G).count x) :
    ∃ q, Reachable M q ∧ q.pending = [] ∧ ∀ ℓ, ℓ < M.nLps → q.disp ℓ = G ℓ := by
  obtain ⟨g, hg⟩ := exists_time_bound ((List.range M.nLps).flatMap G)
  have hg' : ∀ ℓ, ℓ < M.nLps → ∀ x ∈ G ℓ, x.t < g := fun ℓ hℓ x hx =>
    hg x (List.mem_flatMap.mpr ⟨ℓ, List.mem_range.mpr hℓ, hx⟩)
  obtain ⟨q, hq, P, hl⟩ := (F g).exists_run
  have hdisp : ∀ ℓ, ℓ < M.nLps → q.disp ℓ = G ℓ := by
    intro ℓ hℓ
    have h1 := ((F g).phase2 hq hl).filter_eq (F g).hist hℓ
    rwa [filter_below_self (hg' ℓ hℓ),
      filter_below_self (fun x hx => hg' ℓ hℓ x ((P.pre ℓ hℓ).subset hx))] at h1
  refine ⟨q, hq, List.eq_nil_iff_forall_not_mem.mpr fun x hx => ?_, hdisp⟩
  -- the bag equation of the run speaks of the same tables
  have hr : (restAll M.nLps q.disp).count x = (restAll M.nLps G).count x :=
    add_flatMap_congr (additive_count x) _ fun ℓ hℓ => by rw [hdisp ℓ (List.mem_range.mp hℓ)]
  have ho : (outsAll M q.disp).count x = (outsAll M G).count x :=
    add_flatMap_congr (additive_count x) _ fun ℓ hℓ => by rw [hdisp ℓ (List.mem_range.mp hℓ)]
  have hc := P.cnt x
  rw [hr, ho, ← hcnt x] at hc
  have : 0 < q.pending.count x := List.count_pos_iff.mpr hx
  omega

theorem and_lpState_eq {ℓ : Nat} {a b : List Event} (h : a = b) :
    a = b ∧ lpState M ℓ a = lpState M ℓ b := ⟨h, congrArg _ h⟩

end

end RootSim.Spec
