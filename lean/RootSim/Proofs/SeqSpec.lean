import RootSim.Model.SeqSpec
import RootSim.Props.C15Heap
import RootSim.Proofs.EventOrder
/-!
Helper lemmas for the reference semantics (C10): more about the event order (`Proofs/EventOrder.lean`), permutation
invariance of `Step`, persistence of minimal events, the diamond property for equal-content events with
different destinations.
-/
namespace RootSim
open RootSim.C15.Heap

theorem Event.toMsg_toEvent (e : Event) : e.toMsg.toEvent = e := by
  cases e; simp [Event.toMsg, Msg.toEvent, Msg.body]

theorem Event.before_congr_left (a b x : Event) (h : a.t = b.t ∧ a.type = b.type ∧ a.payload = b.payload) :
    Event.before a x = Event.before b x :=
  C16.content_only _ _ _ _ (Event.toMsg_content_congr h.1 h.2.1 h.2.2) rfl

theorem Event.before_congr_right (a b x : Event) (h : a.t = b.t ∧ a.type = b.type ∧ a.payload = b.payload) :
    Event.before x a = Event.before x b :=
  C16.content_only _ _ _ _ rfl (Event.toMsg_content_congr h.1 h.2.1 h.2.2)

theorem Event.before_eq_false_of_type_lt {o e : Event} (ht : o.t = e.t) (h : o.type < e.type) :
    Event.before o e = false := by
  have h1 : ¬ o.type = e.type := Nat.ne_of_lt h
  have h2 : ¬ o.type > e.type := Nat.lt_asymm h
  simp only [Event.before, isBefore, isBeforeExt, Event.toMsg, Msg.anti, ht, Nat.lt_irrefl, ne_eq, not_true, h1, h2,
    if_false, not_false_eq_true, if_true, decide_false, decide_true, Bool.true_and, Bool.false_or]

section Steps
variable {σ : Type} {M : SimModel σ}

def Cfg.Equiv (c d : Cfg σ) : Prop := c.st = d.st ∧ c.ended = d.ended ∧ c.pend.Perm d.pend

theorem Cfg.Equiv.refl (c : Cfg σ) : c.Equiv c := ⟨rfl, rfl, .refl _⟩
theorem Cfg.Equiv.symm {c d : Cfg σ} (h : c.Equiv d) : d.Equiv c := ⟨h.1.symm, h.2.1.symm, h.2.2.symm⟩
theorem Cfg.Equiv.trans {c d e : Cfg σ} (h1 : c.Equiv d) (h2 : d.Equiv e) : c.Equiv e :=
  ⟨h1.1.trans h2.1, h1.2.1.trans h2.2.1, h1.2.2.trans h2.2.2⟩

theorem initStep_equiv {c d : Cfg σ} (h : c.Equiv d) (lp : Nat) : (initStep M c lp).Equiv (initStep M d lp) :=
  ⟨congrArg (fun st => st.set lp (M.handler lp (M.init lp) (initEvent lp)).1) h.1, h.2.1, h.2.2.append_right _⟩

theorem minIn_perm {e : Event} {l l' : List Event} (hp : l.Perm l') (h : e.minIn l) : e.minIn l' :=
  ⟨hp.mem_iff.1 h.1, fun x hx => h.2 x (hp.mem_iff.2 hx)⟩

theorem Step.congr {c d c' : Cfg σ} {e : Event} (h : Step M c e c') (hd : d.Equiv c) : Step M d e c' := by
  obtain ⟨s, b, hmin, hs, hb, h1, h2, h3⟩ := h
  refine ⟨s, b, minIn_perm hd.2.2.symm hmin, by rw [hd.1]; exact hs, by rw [hd.2.1]; exact hb,
    by rw [hd.1]; exact h1, by rw [hd.2.1]; exact h2, ?_⟩
  exact h3.trans ((hd.2.2.symm.erase e).append_right _)

theorem Step.congr_right {c c' d' : Cfg σ} {e : Event} (h : Step M c e c') (hd : d'.Equiv c') : Step M c e d' := by
  obtain ⟨s, b, hmin, hs, hb, h1, h2, h3⟩ := h
  exact ⟨s, b, hmin, hs, hb, by rw [hd.1]; exact h1, by rw [hd.2.1]; exact h2, hd.2.2.trans h3⟩

theorem Step.result_equiv {c c1 c2 : Cfg σ} {e : Event} (h1 : Step M c e c1) (h2 : Step M c e c2) :
    c1.Equiv c2 := by
  obtain ⟨s, b, _, hs, hb, a1, a2, a3⟩ := h1
  obtain ⟨s', b', _, hs', hb', b1, b2, b3⟩ := h2
  rw [hs] at hs'; rw [hb] at hb'
  simp only [Option.some.injEq] at hs' hb'
  subst hs' hb'
  exact ⟨a1.trans b1.symm, a2.trans b2.symm, a3.trans b3.symm⟩

theorem Steps.append {c c' c'' : Cfg σ} {t1 t2 : List Event} (h1 : Steps M c t1 c') (h2 : Steps M c' t2 c'') :
    Steps M c (t1 ++ t2) c'' := by
  induction h1 with
  | nil => exact h2
  | cons hs _ ih => exact .cons hs (ih h2)

theorem Steps.congr {c d c' : Cfg σ} {tr : List Event} (h : Steps M c tr c') (hd : d.Equiv c) :
    ∃ d', Steps M d tr d' ∧ d'.Equiv c' := by
  cases h with
  | nil => exact ⟨d, .nil d, hd⟩
  | cons hs ht => exact ⟨c', .cons (hs.congr hd) ht, .refl _⟩

theorem step_minIn {c c' : Cfg σ} {e : Event} (h : Step M c e c') : e.minIn c.pend := by
  obtain ⟨_, _, h, _⟩ := h; exact h

/-- what no pending event is before stays so across a step: the scheduled events are not before the dispatched
one (contract V2), which is not before it -/
theorem step_lower_bound {c c' : Cfg σ} {g e : Event} (hs : Step M c g c')
    (hv : ∀ s, c.st[g.dest]? = some s → M.validStep g.dest s g) (hp : ∀ x ∈ c.pend, Event.before x e = false) :
    ∀ x ∈ c'.pend, Event.before x e = false := by
  obtain ⟨s, b, hmin, hst, _, _, _, h3⟩ := hs
  intro x hx
  rcases List.mem_append.1 (h3.mem_iff.1 hx) with hx | hx
  · exact hp x (List.mem_of_mem_erase hx)
  · exact Event.not_before_trans (hv s hst x hx).1 (hp g hmin.1)

theorem minIn_after_step {c c2 : Cfg σ} {a g : Event} (ha : a.minIn c.pend) (hne : a ≠ g)
    (hs : Step M c g c2) (hv : ∀ s, c.st[g.dest]? = some s → M.validStep g.dest s g) : a.minIn c2.pend := by
  refine ⟨?_, step_lower_bound hs hv ha.2⟩
  obtain ⟨_, _, _, _, _, _, _, h3⟩ := hs
  exact h3.mem_iff.2 (List.mem_append_left _ ((List.mem_erase_of_ne hne).2 ha.1))

/-- **diamond**: two minimal events for different LPs commute -/
theorem step_diamond {c c1 c2 c3 : Cfg σ} {a b : Event} (hd : a.dest ≠ b.dest)
    (ha : Step M c a c1) (hb : Step M c b c2) (hba : Step M c2 a c3)
    (hv : ∀ s, c.st[a.dest]? = some s → M.validStep a.dest s a) : Step M c1 b c3 := by
  have hne : a ≠ b := fun h => hd (congrArg Event.dest h)
  have hbmin1 : b.minIn c1.pend := minIn_after_step (step_minIn hb) hne.symm ha hv
  obtain ⟨sa, ba, hmina, hsa, hea, a1, a2, a3⟩ := ha
  obtain ⟨sb, bb, hminb, hsb, heb, b1, b2, b3⟩ := hb
  obtain ⟨sa', ba', hmina', hsa', hea', c1', c2', c3'⟩ := hba
  rw [b1, List.getElem?_set_ne (fun h => hd h.symm)] at hsa'
  rw [b2, List.getElem?_set_ne (fun h => hd h.symm)] at hea'
  rw [hsa] at hsa'; rw [hea] at hea'
  simp only [Option.some.injEq] at hsa' hea'
  subst hsa' hea'
  have hb_in : b ∈ c.pend.erase a := (List.mem_erase_of_ne hne.symm).2 hminb.1
  have ha_in : a ∈ c.pend.erase b := (List.mem_erase_of_ne hne).2 hmina.1
  refine ⟨sb, bb, hbmin1, ?_, ?_, ?_, ?_, ?_⟩
  · rw [a1, List.getElem?_set_ne hd]; exact hsb
  · rw [a2, List.getElem?_set_ne hd]; exact heb
  · rw [c1', b1, a1, List.set_comm _ _ (fun h => hd h.symm)]
  · rw [c2', b2, a2, List.set_comm _ _ (fun h => hd h.symm)]
  · refine c3'.trans ?_
    refine ((b3.erase a).append_right _).trans ?_
    refine List.Perm.trans ?_ (((a3.erase b).append_right _)).symm
    rw [List.erase_append_left _ ha_in, List.erase_append_left _ hb_in, List.erase_comm]
    simp only [List.append_assoc]
    exact List.Perm.append_left _ List.perm_append_comm

/-! ### confluence: per-LP dispatch sequences do not depend on the choices among minimal events -/

/-- every handler call that can be made from `c` on satisfies the contract -/
def GoodFrom (M : SimModel σ) (c : Cfg σ) : Prop :=
  ∀ tr c', Steps M c tr c' → ∀ e s, e.minIn c'.pend → c'.st[e.dest]? = some s → M.validStep e.dest s e

theorem GoodFrom.here {c : Cfg σ} (h : GoodFrom M c) {e : Event} (he : e.minIn c.pend) :
    ∀ s, c.st[e.dest]? = some s → M.validStep e.dest s e := fun s hs => h [] c (.nil c) e s he hs

theorem GoodFrom.step {c c' : Cfg σ} {e : Event} (h : GoodFrom M c) (hs : Step M c e c') : GoodFrom M c' :=
  fun tr c'' ht => h (e :: tr) c'' (.cons hs ht)

theorem GoodFrom.congr {c d : Cfg σ} (h : GoodFrom M c) (hd : d.Equiv c) : GoodFrom M d := by
  intro tr d' ht e s he hs
  obtain ⟨c', hc', heq⟩ := ht.congr hd.symm
  exact h tr c' hc' e s (minIn_perm heq.2.2.symm he) (by rw [heq.1]; exact hs)

/-- the events dispatched at LP `lp`, in order -/
def perLp (lp : Nat) (tr : List Event) : List Event := tr.filter (fun e => e.dest == lp)

/-- one list is a prefix of the other -/
def Comparable {α : Type} (l1 l2 : List α) : Prop := l1 <+: l2 ∨ l2 <+: l1

theorem Comparable.cons {α : Type} (a : α) {l1 l2 : List α} (h : Comparable l1 l2) :
    Comparable (a :: l1) (a :: l2) := by
  rcases h with h | h
  · exact .inl ((List.prefix_cons_inj a).2 h)
  · exact .inr ((List.prefix_cons_inj a).2 h)

theorem perLp_nil_of_ne (lp : Nat) (l : List Event) (h : ∀ x ∈ l, x.dest ≠ lp) : perLp lp l = [] := by
  unfold perLp
  rw [List.filter_eq_nil_iff]
  intro x hx; simpa using h x hx

theorem step_exists {c : Cfg σ} {e : Event} {s : σ} {b : Bool} (h : e.minIn c.pend)
    (hs : c.st[e.dest]? = some s) (hb : c.ended[e.dest]? = some b) : ∃ c', Step M c e c' :=
  ⟨⟨c.st.set e.dest (M.handler e.dest s e).1, c.ended.set e.dest (b || M.canEnd e.dest (M.handler e.dest s e).1),
    c.pend.erase e ++ (M.handler e.dest s e).2⟩, s, b, h, hs, hb, rfl, rfl, .refl _⟩

/-- a minimal event `a` can be moved to the front of any run: it commutes with everything dispatched before it -/
theorem pull_front {a : Event} : ∀ (B : List Event) (c c1 cB : Cfg σ), GoodFrom M c → Step M c a c1 →
    Steps M c B cB →
    (∃ B1 B2, B = B1 ++ a :: B2 ∧ (∀ x ∈ B1, x.dest ≠ a.dest ∧ x.content = a.content) ∧
      ∃ cB', Steps M c1 (B1 ++ B2) cB') ∨
    ((∀ x ∈ B, x.dest ≠ a.dest ∧ x.content = a.content) ∧ ∃ cB', Steps M c1 B cB') := by
  intro B
  induction B with
  | nil => intro c c1 cB _ _ _; exact .inr ⟨by simp, c1, .nil c1⟩
  | cons b B' ih =>
    intro c c1 cB hg ha hB
    cases hB with
    | cons hb hB' =>
      rename_i c2
      by_cases hab : b = a
      · subst hab
        obtain ⟨d, hd, _⟩ := hB'.congr (ha.result_equiv hb)
        exact .inl ⟨[], B', rfl, by simp, d, hd⟩
      · have hamin := step_minIn ha
        have hbmin := step_minIn hb
        have hdest : b.dest ≠ a.dest := fun hd =>
          hab (Event.eq_of_incomp (hamin.2 b hbmin.1) (hbmin.2 a hamin.1) hd)
        have hamin2 : a.minIn c2.pend := minIn_after_step hamin (Ne.symm hab) hb (hg.here hbmin)
        obtain ⟨c3, hc3⟩ : ∃ c3, Step M c2 a c3 := by
          obtain ⟨sa, ba, _, hsa, hea, _⟩ := ha
          obtain ⟨sb, bb, _, _, _, b1, b2, _⟩ := hb
          exact step_exists hamin2 (by rw [b1, List.getElem?_set_ne hdest]; exact hsa)
            (by rw [b2, List.getElem?_set_ne hdest]; exact hea)
        have hdia : Step M c1 b c3 := step_diamond hdest.symm ha hb hc3 (hg.here hamin)
        have hcont := Event.incomp_content b a (hamin.2 b hbmin.1) (hbmin.2 a hamin.1)
        rcases ih c2 c3 cB (hg.step hb) hc3 hB' with ⟨B1, B2, rfl, hB1, d, hd⟩ | ⟨hall, d, hd⟩
        · exact .inl ⟨b :: B1, B2, rfl, List.forall_mem_cons.2 ⟨⟨hdest, hcont⟩, hB1⟩, d, .cons hdia hd⟩
        · exact .inr ⟨List.forall_mem_cons.2 ⟨⟨hdest, hcont⟩, hall⟩, d, .cons hdia hd⟩

theorem const_middle {β : Type} {c : β} : ∀ (l r : List β), (∀ x ∈ l, x = c) → l ++ c :: r = c :: (l ++ r)
  | [], _, _ => rfl
  | x :: xs, r, h => by
    rw [List.cons_append, const_middle xs r (fun y hy => h y (List.mem_cons_of_mem _ hy)), h x List.mem_cons_self,
      List.cons_append]

theorem comparable_cons_const {β : Type} (c : β) : ∀ (B X : List β), (∀ x ∈ B, x = c) →
    Comparable X B → Comparable (c :: X) B := by
  intro B
  induction B with
  | nil => intro X _ _; exact .inr List.nil_prefix
  | cons b B' ih =>
    intro X hB hc
    obtain rfl : b = c := hB b List.mem_cons_self
    cases X with
    | nil => exact .inl ((List.prefix_cons_inj b).2 List.nil_prefix)
    | cons x X' =>
      obtain ⟨rfl, hc'⟩ : x = b ∧ Comparable X' B' := by
        rcases hc with h | h
        · exact ⟨(List.cons_prefix_cons.1 h).1, .inl (List.cons_prefix_cons.1 h).2⟩
        · exact ⟨(List.cons_prefix_cons.1 h).1.symm, .inr (List.cons_prefix_cons.1 h).2⟩
      exact (ih X' (fun y hy => hB y (List.mem_cons_of_mem _ hy)) hc').cons x

/-- **confluence**: two runs from the same configuration, seen through any view `g` of the events that cannot
tell in which order two equal-content events for different LPs are dispatched (it hides one of them, or
shows the same of both), are prefix-comparable. -/
theorem steps_confluent_view {β : Type} (g : Event → Option β)
    (hcomm : ∀ a x : Event, x.dest ≠ a.dest → x.content = a.content → g a = none ∨ g x = none ∨ g x = g a)
    {c cA : Cfg σ} {A : List Event} (hA : Steps M c A cA) :
    ∀ {B : List Event} {cB : Cfg σ}, GoodFrom M c → Steps M c B cB →
      Comparable (A.filterMap g) (B.filterMap g) := by
  induction hA with
  | nil => exact fun _ _ => .inl List.nil_prefix
  | @cons c c1 cA a A' ha _ ih =>
    intro B cB hgood hB
    -- when `a` is visible as `v`, the events that were pulled behind it are hidden or visible as `v` too
    have hview : ∀ {v : β} {l : List Event}, g a = some v →
        (∀ x ∈ l, x.dest ≠ a.dest ∧ x.content = a.content) → ∀ y ∈ l.filterMap g, y = v := by
      intro v l hv hl y hy
      obtain ⟨x, hx, hxy⟩ := List.mem_filterMap.1 hy
      rcases hcomm a x (hl x hx).1 (hl x hx).2 with h | h | h
      · exact nomatch hv.symm.trans h
      · exact nomatch hxy.symm.trans h
      · exact Option.some.inj (hxy.symm.trans (h.trans hv))
    rcases pull_front B c c1 cB hgood ha hB with ⟨B1, B2, rfl, hB1, d, hd⟩ | ⟨hall, d, hd⟩
    · have hc := ih (hgood.step ha) hd
      rw [List.filterMap_append] at hc ⊢
      cases hv : g a with
      | none => rwa [List.filterMap_cons_none hv, List.filterMap_cons_none hv]
      | some v =>
        rw [List.filterMap_cons_some hv, List.filterMap_cons_some hv, const_middle _ _ (hview hv hB1)]
        exact hc.cons v
    · have hc := ih (hgood.step ha) hd
      cases hv : g a with
      | none => rwa [List.filterMap_cons_none hv]
      | some v =>
        rw [List.filterMap_cons_some hv]
        exact comparable_cons_const v _ _ (hview hv hall) hc

theorem steps_confluent {c cA cB : Cfg σ} {A B : List Event} (hg : GoodFrom M c) (hA : Steps M c A cA)
    (hB : Steps M c B cB) (lp : Nat) : Comparable (perLp lp A) (perLp lp B) := by
  have := steps_confluent_view (Option.guard fun e => e.dest == lp) (fun a x hd _ => ?_) hA hg hB
  · rwa [List.filterMap_eq_filter] at this
  · by_cases h : a.dest = lp
    · exact .inr (.inl (Option.guard_eq_none_iff.2 (beq_eq_false_iff_ne.2 (h ▸ hd))))
    · exact .inl (Option.guard_eq_none_iff.2 (beq_eq_false_iff_ne.2 h))

/-- globally: the sequences of dispatched contents `(t, type, payload)` — everything the event order can see —
are prefix-comparable: runs differ only in the order in which equal-content events for different LPs are
dispatched. -/
theorem steps_confluent_content {c cA cB : Cfg σ} {A B : List Event} (hg : GoodFrom M c) (hA : Steps M c A cA)
    (hB : Steps M c B cB) : Comparable (A.map Event.content) (B.map Event.content) := by
  have := steps_confluent_view (some ∘ Event.content) (fun a x _ hc => .inr (.inr (congrArg some hc))) hA hg hB
  rwa [List.filterMap_eq_map] at this

theorem steps_length {c c' : Cfg σ} {tr : List Event} (h : Steps M c tr c') : c'.st.length = c.st.length := by
  induction h with
  | nil => rfl
  | cons hs _ ih =>
    obtain ⟨_, _, _, _, _, h1, _, _⟩ := hs
    rw [ih, h1]; simp

/-- the state of an LP is a function of the events it has processed -/
def runLp (M : SimModel σ) (lp : Nat) (s : σ) (es : List Event) : σ :=
  es.foldl (fun s e => (M.handler lp s e).1) s

theorem steps_state {c c' : Cfg σ} {tr : List Event} (h : Steps M c tr c') (lp : Nat) (s : σ)
    (hs : c.st[lp]? = some s) : c'.st[lp]? = some (runLp M lp s (perLp lp tr)) := by
  induction h generalizing s with
  | nil => simpa [perLp, runLp] using hs
  | @cons c c1 c2 e tr hstep _ ih =>
    obtain ⟨se, be, _, hse, _, h1, _, _⟩ := hstep
    by_cases hlp : e.dest = lp
    · subst hlp
      cases hse.symm.trans hs
      obtain ⟨hlt, _⟩ := List.getElem?_eq_some_iff.1 hs
      simpa [perLp, runLp] using ih _ (by rw [h1, List.getElem?_set_self hlt])
    · simpa [perLp, runLp, hlp] using ih s (by rw [h1, List.getElem?_set_ne hlp]; exact hs)

theorem Reachable.congr {c d : Cfg σ} (h : Reachable M c) (hd : d.Equiv c) : Reachable M d := by
  cases h with
  | init h1 h2 h3 => exact .init (hd.1.trans h1) (hd.2.1.trans h2) (hd.2.2.trans h3)
  | step hr hs => exact .step hr (hs.congr_right hd)

theorem Reachable.steps {c c' : Cfg σ} {tr : List Event} (h : Reachable M c) (ht : Steps M c tr c') :
    Reachable M c' := by
  induction ht with
  | nil => exact h
  | cons hs _ ih => exact ih (h.step hs)

theorem SimModel.Valid.goodFrom (hv : M.Valid) {c : Cfg σ} (h : Reachable M c) : GoodFrom M c :=
  fun _ c' ht e s he hs => hv.step c' (h.steps ht) e s he hs

theorem initStep_fold_st (l : List Nat) (c : Cfg σ) :
    ((l.foldl (initStep M) c).st.length = c.st.length) ∧ ((l.foldl (initStep M) c).ended = c.ended) := by
  induction l generalizing c with
  | nil => exact ⟨rfl, rfl⟩
  | cons x xs ih =>
    simp only [List.foldl_cons]
    obtain ⟨h1, h2⟩ := ih (initStep M c x)
    exact ⟨by rw [h1]; simp [initStep], by rw [h2]; simp [initStep]⟩

theorem initStep_fold_pend (hv : M.Valid) (l : List Nat) (hl : ∀ lp ∈ l, lp < M.nLps) (c : Cfg σ)
    (hc : ∀ x ∈ c.pend, x.dest < M.nLps) : ∀ x ∈ (l.foldl (initStep M) c).pend, x.dest < M.nLps := by
  induction l generalizing c with
  | nil => exact hc
  | cons y ys ih =>
    simp only [List.foldl_cons]
    apply ih (fun lp h => hl lp (List.mem_cons_of_mem _ h))
    intro x hx
    simp only [initStep, List.mem_append] at hx
    rcases hx with hx | hx
    · exact hc x hx
    · exact (hv.init y (hl y List.mem_cons_self) x hx).2.1

/-- shape invariant of reachable configurations: one state and one flag per LP, destinations exist (V4) -/
theorem Reachable.shape (hv : M.Valid) {c : Cfg σ} (h : Reachable M c) :
    c.st.length = M.nLps ∧ c.ended.length = M.nLps ∧ ∀ x ∈ c.pend, x.dest < M.nLps := by
  induction h with
  | init h1 h2 h3 =>
    have a := initStep_fold_st (M := M) (List.range M.nLps) (initCfg0 M)
    have b := initStep_fold_pend hv (List.range M.nLps) (fun lp h => List.mem_range.1 h) (initCfg0 M)
      (fun _ hx => nomatch hx)
    refine ⟨?_, ?_, ?_⟩
    · rw [h1]; unfold initCfg; rw [a.1]; simp [initCfg0]
    · rw [h2]; unfold initCfg; rw [a.2]; simp [initCfg0]
    · exact fun x hx => b x (h3.mem_iff.1 hx)
  | @step c c' e hr hs ih =>
    obtain ⟨s, b, hmin, hst, _, h1, h2, h3⟩ := hs
    refine ⟨by rw [h1]; simpa using ih.1, by rw [h2]; simpa using ih.2.1, ?_⟩
    intro x hx
    rcases List.mem_append.1 (h3.mem_iff.1 hx) with hx | hx
    · exact ih.2.2 x (List.mem_of_mem_erase hx)
    · exact ((hv.step c hr e s hmin hst) x hx).2.1

theorem MainRun.steps {termT : Nat} {timer : Nat → Bool} {k : Nat} {c c' : Cfg σ} {tr : List Event} {fin : Bool}
    (h : MainRun M termT timer k c tr c' fin) : Steps M c tr c' := by
  induction h with
  | cut => exact .nil _
  | empty => exact .nil _
  | stop hs _ => exact .cons hs (.nil _)
  | step hs _ _ ih => exact .cons hs ih

theorem MainRun.congr {termT : Nat} {timer : Nat → Bool} {k : Nat} {c d c' : Cfg σ} {tr : List Event} {fin : Bool}
    (h : MainRun M termT timer k c tr c' fin) (hd : d.Equiv c) :
    ∃ d', MainRun M termT timer k d tr d' fin ∧ d'.Equiv c' := by
  cases h with
  | cut => exact ⟨d, .cut k d, hd⟩
  | empty _ _ he => exact ⟨d, .empty k d (by have h2 := hd.2.2; rw [he] at h2; exact h2.eq_nil), hd⟩
  | stop hs hst => exact ⟨c', .stop (hs.congr hd) hst, .refl _⟩
  | step hs hst hr => exact ⟨c', .step (hs.congr hd) hst hr, .refl _⟩

/-- An executable main loop `run fuel k S` over states with a configuration `cfg` and a reversed trace `trace`
yields a `MainRun` if every iteration from a state satisfying `Inv` either finds nothing pending and finishes, or
dispatches an event `e`: a step of the reference semantics to the configuration of the state `S'` from which the
loop goes on, unless the stop rule holds there; then the loop ends in a state `S1` with the trace and the LP
states of `S'`.  (`S1` need not be `S'`: `serial_simulation_run` breaks out of its loop before `heap_extract`, so
its final queue still holds the dispatched message.) -/
theorem mainLoop_refines {τ : Type} (cfg : τ → Cfg σ) (trace : τ → List Event) (Inv : τ → Prop)
    {termT : Nat} {timer : Nat → Bool} (run : Nat → Nat → τ → τ × Outcome)
    (h0 : ∀ k S, run 0 k S = (S, .outOfFuel))
    (hs : ∀ f k S, Inv S → Reachable M (cfg S) →
      ((cfg S).pend = [] ∧ run (f + 1) k S = (S, .finished)) ∨
      ∃ e S' S1,
        run (f + 1) k S = (if stopNow termT timer k (cfg S') e then (S1, .finished) else run f (k + 1) S') ∧
        Step M (cfg S) e (cfg S') ∧ trace S' = e :: trace S ∧
        (stopNow termT timer k (cfg S') e = false → Inv S') ∧
        trace S1 = trace S' ∧ (cfg S1).st = (cfg S').st) :
    ∀ f k S, Inv S → Reachable M (cfg S) →
      ∃ tr c' fin, trace (run f k S).1 = tr.reverse ++ trace S ∧ (cfg (run f k S).1).st = c'.st ∧
        (run f k S).2 = (if fin then .finished else .outOfFuel) ∧ MainRun M termT timer k (cfg S) tr c' fin := by
  intro f
  induction f with
  | zero => exact fun k S _ _ => ⟨[], cfg S, false, by rw [h0]; rfl, by rw [h0], by rw [h0]; rfl, .cut _ _⟩
  | succ f ih =>
    intro k S hi hr
    rcases hs f k S hi hr with ⟨he, hrun⟩ | ⟨e, S', S1, hrun, hstep, htr, hi', htr1, hst1⟩
    · exact ⟨[], cfg S, true, by rw [hrun]; rfl, by rw [hrun], by rw [hrun]; rfl, .empty _ _ he⟩
    · rw [hrun]
      cases hst : stopNow termT timer k (cfg S') e
      · obtain ⟨tr, c', fin, t1, t2, t3, hm⟩ := ih (k + 1) S' (hi' hst) (hr.step hstep)
        refine ⟨e :: tr, c', fin, ?_, t2, t3, .step hstep hst hm⟩
        rw [if_neg Bool.false_ne_true, t1, htr, List.reverse_cons, List.append_assoc]; rfl
      · exact ⟨[e], cfg S', true, htr1.trans htr, hst1, rfl, .stop hstep hst⟩

/-- the two cases of `IsSpecRun` (complete run, unfinished prefix) as one, indexed by `fin` -/
theorem isSpecRun_iff {termT : Nat} {timer : Nat → Bool} {r : RunResult σ} : IsSpecRun M termT timer r ↔
    ∃ main c fin, MainRun M termT timer 0 (initCfg M) main c fin ∧
      r.trace = initTrace M ++ main ++ (if fin then finiTrace M else []) ∧
      r.states = (if fin then finiStates M c.st else c.st) ∧
      r.outcome = (if fin then .finished else .outOfFuel) := by
  constructor
  · rintro ⟨main, c, h | h⟩
    · exact ⟨main, c, true, h.2.1, h.2.2.1, h.2.2.2, h.1⟩
    · exact ⟨main, c, false, h.2.1, h.2.2.1.trans (List.append_nil _).symm, h.2.2.2, h.1⟩
  · rintro ⟨main, c, fin, hm, ht, hs, ho⟩
    cases fin
    · exact ⟨main, c, .inr ⟨ho, hm, ht.trans (List.append_nil _), hs⟩⟩
    · exact ⟨main, c, .inl ⟨ho, hm, ht, hs⟩⟩

theorem isSpecRun_of_main {termT : Nat} {timer : Nat → Bool} {c0 c' : Cfg σ} {tr : List Event} {fin : Bool}
    (he : c0.Equiv (initCfg M)) (hm : MainRun M termT timer 0 c0 tr c' fin) {r : RunResult σ}
    (hr : r = ⟨initTrace M ++ tr ++ (if fin then finiTrace M else []),
      if fin then finiStates M c'.st else c'.st, if fin then .finished else .outOfFuel⟩) :
    IsSpecRun M termT timer r := by
  obtain ⟨d', hd', hde⟩ := hm.congr he.symm
  exact isSpecRun_iff.2 ⟨tr, d', fin, hd', hr ▸ rfl, hde.1 ▸ hr ▸ rfl, hr ▸ rfl⟩

theorem steps_lower_bound {d d' : Cfg σ} {t : List Event} {e : Event} (ht : Steps M d t d') (hg : GoodFrom M d)
    (hp : ∀ x ∈ d.pend, Event.before x e = false) :
    (∀ y ∈ t, Event.before y e = false) ∧ ∀ x ∈ d'.pend, Event.before x e = false := by
  induction ht with
  | nil => exact ⟨nofun, hp⟩
  | cons hs _ ih =>
    obtain ⟨r1, r2⟩ := ih (hg.step hs) (step_lower_bound hs (hg.here (step_minIn hs)) hp)
    exact ⟨List.forall_mem_cons.2 ⟨hp _ (step_minIn hs).1, r1⟩, r2⟩

theorem steps_sorted {c c' : Cfg σ} {tr : List Event} (h : Steps M c tr c') (hg : GoodFrom M c) :
    tr.Pairwise (fun a b => Event.before b a = false) ∧ ∀ e ∈ tr, ∀ x ∈ c'.pend, Event.before x e = false := by
  induction h with
  | nil => exact ⟨.nil, nofun⟩
  | cons hs hrest ih =>
    obtain ⟨ih1, ih2⟩ := ih (hg.step hs)
    have hmin := step_minIn hs
    -- nothing pending is before the dispatched event; this persists
    obtain ⟨k1, k2⟩ := steps_lower_bound hrest (hg.step hs) (step_lower_bound hs (hg.here hmin) hmin.2)
    exact ⟨.cons k1 ih1, List.forall_mem_cons.2 ⟨k2, ih2⟩⟩

/-- replay of the handler calls of a dispatch sequence: final states and all events scheduled on the way -/
def replay (M : SimModel σ) : List σ → List Event → List σ × List Event
  | st, [] => (st, [])
  | st, e :: tr =>
    match st[e.dest]? with
    | some s =>
      let r := M.handler e.dest s e
      let rest := replay M (st.set e.dest r.1) tr
      (rest.1, r.2 ++ rest.2)
    | none => (st, [])

/-- **exactly once**: (initially pending) + (scheduled during the run) = (dispatched) + (still pending),
as multisets. -/
theorem steps_accounting {c c' : Cfg σ} {tr : List Event} (h : Steps M c tr c') :
    c'.st = (replay M c.st tr).1 ∧ (c.pend ++ (replay M c.st tr).2).Perm (tr ++ c'.pend) := by
  induction h with
  | nil => simp [replay]
  | @cons c c1 c2 e tr hs _ ih =>
    obtain ⟨s, b, hmin, hst, _, h1, _, h3⟩ := hs
    simp only [replay, hst]
    rw [h1] at ih
    refine ⟨ih.1, ?_⟩
    have p1 : c.pend.Perm (e :: c.pend.erase e) := List.perm_cons_erase hmin.1
    have p2 := ih.2
    -- c.pend ++ (outs ++ R) ~ e :: (erase ++ outs) ++ R ~ e :: c1.pend ++ R ~ e :: tr ++ c2.pend
    refine (List.Perm.append_right _ p1).trans ?_
    simp only [List.cons_append]
    refine List.Perm.cons e ?_
    rw [← List.append_assoc]
    exact (List.Perm.append_right _ h3.symm).trans p2

/-! ### models without simultaneous minimal events: the semantics is a function -/

/-- no two distinct events are ever simultaneously minimal: the model never has equal-content events for
different LPs at the front of the event list -/
def UniqueMin (M : SimModel σ) : Prop :=
  ∀ c, Reachable M c → ∀ a b : Event, a.minIn c.pend → b.minIn c.pend → a = b

theorem step_pend_ne_nil {c c' : Cfg σ} {e : Event} (h : Step M c e c') : c.pend ≠ [] :=
  List.ne_nil_of_mem (step_minIn h).1

theorem stopNow_congr {c d : Cfg σ} (h : c.Equiv d) (termT : Nat) (timer : Nat → Bool) (k : Nat) (e : Event) :
    stopNow termT timer k c e = stopNow termT timer k d e := by
  simp only [stopNow, Cfg.allEnded, h.2.1]

theorem step_unique (hu : UniqueMin M) {c d c' d' : Cfg σ} {e e' : Event} (hr : Reachable M c) (hd : d.Equiv c)
    (hs : Step M c e c') (hs' : Step M d e' d') : e = e' ∧ c'.Equiv d' := by
  have hs'' := hs'.congr hd.symm
  obtain rfl := hu c hr e e' (step_minIn hs) (step_minIn hs'')
  exact ⟨rfl, hs.result_equiv hs''⟩

/-- without simultaneous minimal events the reference semantics is a function: complete runs with the same
timer oracle dispatch literally the same sequence -/
theorem mainRun_unique (hu : UniqueMin M) {termT : Nat} {timer : Nat → Bool} :
    ∀ {k : Nat} {c : Cfg σ} {A : List Event} {cA : Cfg σ}, MainRun M termT timer k c A cA true →
    ∀ {d : Cfg σ} {B : List Event} {cB : Cfg σ}, MainRun M termT timer k d B cB true → d.Equiv c → Reachable M c →
    A = B ∧ cA.st = cB.st := by
  intro k c A cA hA
  generalize hfin : true = fin at hA
  induction hA with
  | cut => cases hfin
  | empty k c he =>
    intro d B cB hB hd _
    have hdp : d.pend = [] := (he ▸ hd.2.2).eq_nil
    cases hB with
    | empty => exact ⟨rfl, hd.1.symm⟩
    | stop hs _ => exact absurd hdp (step_pend_ne_nil hs)
    | step hs _ _ => exact absurd hdp (step_pend_ne_nil hs)
  | stop hs hst =>
    intro d B cB hB hd hr
    cases hB with
    | empty _ _ he => exact absurd (he ▸ hd.2.2.symm).eq_nil (step_pend_ne_nil hs)
    | stop hs' _ =>
      obtain ⟨rfl, heq⟩ := step_unique hu hr hd hs hs'
      exact ⟨rfl, heq.1⟩
    | step hs' hst' _ =>
      obtain ⟨rfl, heq⟩ := step_unique hu hr hd hs hs'
      exact nomatch (hst.symm.trans (stopNow_congr heq ..)).trans hst'
  | step hs hst _ ih =>
    intro d B cB hB hd hr
    subst hfin
    cases hB with
    | empty _ _ he => exact absurd (he ▸ hd.2.2.symm).eq_nil (step_pend_ne_nil hs)
    | stop hs' hst' =>
      obtain ⟨rfl, heq⟩ := step_unique hu hr hd hs hs'
      exact nomatch (hst.symm.trans (stopNow_congr heq ..)).trans hst'
    | step hs' _ hrestB =>
      obtain ⟨rfl, heq⟩ := step_unique hu hr hd hs hs'
      obtain ⟨i1, i2⟩ := ih rfl hrestB heq.symm (hr.step hs)
      exact ⟨i1 ▸ rfl, i2⟩

theorem uniqueMin_of_single_lp (hv : M.Valid) (h1 : M.nLps = 1) : UniqueMin M := by
  intro c hr a b ha hb
  obtain ⟨_, _, sh⟩ := hr.shape hv
  have hda := sh a ha.1
  have hdb := sh b hb.1
  exact Event.eq_of_incomp (hb.2 a ha.1) (ha.2 b hb.1) (by omega)

end Steps
end RootSim
