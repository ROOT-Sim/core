import RootSim.Model.Float
import Mathlib.Tactic.Positivity
import Mathlib.Algebra.Order.Field.Basic
/-!
The cross-multiplied order `FVal.leFin` on dyadic pairs is the order of the rational numbers
they denote (only this file and `Props/C18Rat.lean` use Mathlib; nothing executable depends on them).
-/
namespace RootSim.Float

/-- the rational number denoted by `fin m s` -/
def dyQ (m : Int) (s : Nat) : ℚ := (m : ℚ) / 2 ^ s

theorem leFin_iff_rat (a : Int) (s : Nat) (b : Int) (t : Nat) :
    FVal.leFin a s b t ↔ dyQ a s ≤ dyQ b t := by
  have hs : (0 : ℚ) < 2 ^ s := by positivity
  have ht : (0 : ℚ) < 2 ^ t := by positivity
  unfold FVal.leFin dyQ
  rw [div_le_div_iff₀ hs ht, ← Int.cast_le (R := ℚ), Int.cast_mul, Int.cast_mul, Int.cast_pow,
    Int.cast_pow, Int.cast_ofNat]

end RootSim.Float
