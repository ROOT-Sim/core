/-!
# Replacing the element at index `i` of a list

What the step proofs of the thread- and node-level models need to know about `l.set i b` when `l[i]? = some a`:
how a count moves, what stays true of all elements, which elements are there, what `getElem?` returns.
Core Lean only.
-/
namespace RootSim

variable {α : Type} {l : List α} {i : Nat} {a b : α}

/-- overwriting one element moves a count by the difference of what the two elements contribute
(`List.countP_set` of core without the truncated subtraction) -/
theorem countP_set_add (h : l[i]? = some a) (b : α) (p : α → Bool) :
    (l.set i b).countP p + (if p a then 1 else 0) = l.countP p + (if p b then 1 else 0) := by
  obtain ⟨hi, rfl⟩ := List.getElem?_eq_some_iff.mp h
  rw [List.countP_set hi]
  by_cases hp : p l[i] = true
  · have : 0 < l.countP p := List.countP_pos_iff.mpr ⟨_, List.getElem_mem hi, hp⟩
    rw [if_pos hp, Nat.add_right_comm, Nat.sub_add_cancel this]
  · rw [if_neg hp]; rfl

theorem countP_set_same {p : α → Bool} (h : l[i]? = some a) (hp : p b = p a) :
    (l.set i b).countP p = l.countP p := by
  have := countP_set_add h b p
  rw [hp] at this
  exact Nat.add_right_cancel this

theorem countP_set_succ {p : α → Bool} (h : l[i]? = some a) (h0 : p a = false) (h1 : p b = true) :
    (l.set i b).countP p = l.countP p + 1 := by
  have := countP_set_add h b p
  rw [h0, h1] at this
  exact this

theorem forall_mem_set {P : α → Prop} (h : ∀ x ∈ l, P x) (ha : P a) : ∀ x ∈ l.set i a, P x := by
  intro x hx
  rcases List.mem_or_eq_of_mem_set hx with hx | rfl
  · exact h x hx
  · exact ha

/-- an element of `l` is the one at index `i` or survives `l.set i b`;
through indices, so that it holds when elements are equal -/
theorem mem_set_or_eq {x : α} (h : l[i]? = some a) (hx : x ∈ l) : x = a ∨ x ∈ l.set i b := by
  obtain ⟨j, hj⟩ := List.mem_iff_getElem?.mp hx
  by_cases hij : i = j
  · left; subst hij; rw [h] at hj; exact (Option.some.inj hj).symm
  · right; exact List.mem_of_getElem? (by rw [List.getElem?_set_ne hij]; exact hj)

theorem getElem?_set_cases {j : Nat} {x : α} (h : (l.set i b)[j]? = some x) :
    (j = i ∧ x = b) ∨ (j ≠ i ∧ l[j]? = some x) := by
  by_cases e : i = j
  · subst e
    rw [List.getElem?_set_self (List.length_set ▸ (List.getElem?_eq_some_iff.1 h).1)] at h
    exact .inl ⟨rfl, (Option.some.inj h).symm⟩
  · rw [List.getElem?_set_ne e] at h; exact .inr ⟨fun e' => e e'.symm, h⟩

/-- a map that does not see the difference between the old and the new element does not see the replacement -/
theorem map_set_same {β : Type} {f : α → β} (h : l[i]? = some a) (hf : f b = f a) : (l.set i b).map f = l.map f := by
  obtain ⟨hi, rfl⟩ := List.getElem?_eq_some_iff.mp h
  rw [List.map_set, hf, ← List.getElem_map f (h := by simpa using hi), List.set_getElem_self]

end RootSim
