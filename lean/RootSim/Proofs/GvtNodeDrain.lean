import RootSim.Proofs.GvtNodeCount
/-! Consequences of the counting invariant once a thread reads `0` in `node_sent_wait`: the old colour is
drained and stays so, `total_msg_received` stays `0`, and `total_sent` is cleared slice by slice by the
threads that pass. `step_thr` and `step_node` say once what a step can do to the thread and to a node. -/
namespace RootSim.GvtNode

theorem mem_two_set {α} (p : Two (List α)) (b c : Bool) (l : List α) (d : α)
    (h : d ∈ (p.set b l).get c) : d ∈ l ∨ d ∈ p.get c := by
  by_cases e : c = b
  · subst e; rw [Two.get_set_same] at h; exact .inl h
  · rw [Two.get_set_ne e] at h; exact .inr h

/-- what a step (action `a` of thread `t`) does to the thread it replaces -/
structure ThrFrame (s s' : St) (a : Action) (t : Nat) (th th' : Thr) : Prop where
  get : s.thr[t]? = some th
  thr : s'.thr = s.thr.set t th'
  node : th'.node = th.node
  rid : th'.rid = th.rid
  N : s'.N = s.N
  len : s'.nodes.length = s.nodes.length
  /-- `node_phase_redux_second` is entered only by a `poll` that read `0` -/
  pass : th'.stage = .redux2 → th.stage = .redux2 ∨
    (a = .poll t ∧ th.stage = .wait ∧ ∀ nd, s.nodes[th.node]? = some nd → nd.totalRecv = 0)
  /-- after its flip a thread keeps its colour and never returns to `node_phase_redux_first` -/
  flipped : th.stage ≠ .redux1 → th'.stage ≠ .redux1 ∧ th'.colour = th.colour
  /-- a new message in flight carries the colour of its sender -/
  flight : ∀ m ∈ s'.flight, m ∈ s.flight ∨ m.colour = th.colour
  /-- only `send` adds to the bags of unreported sends, and only a valid destination -/
  unrep : ∀ c d, d ∈ th'.unrep.get c → d ∈ th.unrep.get c ∨ d < s.nodes.length

theorem step_thr {s s' : St} {a : Action} (hs : step s a = some s') : ∃ t th th', ThrFrame s s' a t th th' := by
  cases a with
  | send t d ts =>
    obtain ⟨th, h, hd, rfl⟩ := send_some hs
    refine ⟨t, th, _, h, rfl, rfl, rfl, rfl, rfl, .inl, fun e => ⟨e, rfl⟩, fun m hm => ?_, fun c d' hm => ?_⟩
    · exact (List.mem_append.1 hm).imp_right fun h1 => by rw [List.mem_singleton.1 h1]
    · rcases mem_two_set _ _ _ _ _ hm with h1 | h1
      · rcases List.mem_cons.1 h1 with rfl | h1
        · exact .inr hd
        · by_cases hc : c = th.colour
          · exact .inl (hc ▸ h1)
          · exact .inl (Two.get_set_ne hc ▸ hm)
      · exact .inl h1
  | deliver i t =>
    obtain ⟨m, th, -, h, -, rfl⟩ := deliver_some hs
    exact ⟨t, th, _, h, rfl, rfl, rfl, rfl, rfl, .inl, fun e => ⟨e, rfl⟩,
      fun m hm => .inl (List.mem_of_mem_eraseIdx hm), fun _ _ => .inl⟩
  | flip t =>
    obtain ⟨th, h, hst, rfl⟩ := flip_some hs
    exact ⟨t, th, _, h, rfl, rfl, rfl, rfl, rfl, Stage.noConfusion, fun e => absurd hst e, fun _ => .inl,
      fun _ _ => .inl⟩
  | report t =>
    obtain ⟨th, nd, h, -, -, -, rfl⟩ := report_some hs
    refine ⟨t, th, _, h, rfl, rfl, rfl, rfl, List.length_set, fun e => ?_, fun _ => ⟨fun e => ?_, rfl⟩,
      fun _ => .inl, fun c d hm => .inl ((mem_two_set _ _ _ _ _ hm).resolve_left List.not_mem_nil)⟩ <;>
    · dsimp only at e; split at e <;> cases e
  | collective t =>
    obtain ⟨th, nd, h, -, -, -, rfl⟩ := collective_some hs
    exact ⟨t, th, _, h, rfl, rfl, rfl, rfl, List.length_set, Stage.noConfusion,
      fun _ => ⟨Stage.noConfusion, rfl⟩, fun _ => .inl, fun _ _ => .inl⟩
  | poll t =>
    obtain ⟨th, nd, h, hnd, hst, rfl⟩ := poll_some hs
    refine ⟨t, th, _, h, rfl, rfl, rfl, rfl, List.length_set, fun e => .inr ⟨rfl, hst, fun nd1 h1 => ?_⟩,
      fun _ => ⟨fun e => ?_, rfl⟩, fun _ => .inl, fun _ _ => .inl⟩
    · cases hnd.symm.trans h1
      dsimp only at e; split at e
      · assumption
      · cases e
    · dsimp only at e; split at e <;> cases e

/-- `d` lies in the slice of `total_sent` that the thread with this `rid` clears -/
def inSlice (K N rid d : Nat) : Prop := rid * (K / N + 1) ≤ d ∧ d < rid * (K / N + 1) + (K / N + 1)

theorem mem_cleanup (K N rid : Nat) (l : List Nat) (d : Nat) (h : d ∈ cleanup K N rid l) :
    d ∈ l ∧ ¬ inSlice K N rid d := by
  simp only [cleanup, List.mem_filter, Bool.not_eq_true', Bool.and_eq_false_iff, decide_eq_false_iff_not] at h
  exact ⟨h.1, fun hin => h.2.elim (absurd hin.1) (absurd hin.2)⟩

/-- what a step (action `a`) does to node `k` (`nd` before, `nd'` after) -/
structure NodeFrame (s : St) (a : Action) (k : Nat) (nd nd' : Node) : Prop where
  /-- `total_msg_received` is changed only by a thread in `node_sent_reduce`, or by a thread of `k` in
  `node_sent_reduce_wait` or in `node_sent_wait` (which adds what it received) -/
  recv : nd'.totalRecv = nd.totalRecv ∨ ∃ (t : Nat) (th : Thr), s.thr[t]? = some th ∧
    (th.stage = .reduce ∨ (th.stage = .reduceWait ∧ th.node = k) ∨
     (th.stage = .wait ∧ th.node = k ∧ nd'.totalRecv = nd.totalRecv + (th.recv.get (!th.colour) : Int)))
  sent : ∀ d ∈ nd'.totalSent, d ∈ nd.totalSent ∨
    ∃ (t : Nat) (th : Thr), s.thr[t]? = some th ∧ th.stage = .reduce ∧ d ∈ th.unrep.get (!th.colour)
  /-- a thread of `k` that reads `0` clears its slice -/
  slice : ∀ t th, a = .poll t → s.thr[t]? = some th → th.node = k → nd.totalRecv = 0 →
    ∀ d ∈ nd'.totalSent, ¬ inSlice s.nodes.length s.N th.rid d

theorem NodeFrame.same {s : St} {a : Action} {k : Nat} {nd : Node}
    (hp : ∀ t th, a = .poll t → s.thr[t]? = some th → th.node ≠ k) : NodeFrame s a k nd nd :=
  ⟨.inl rfl, fun _ => .inl, fun t th ha ht hk => absurd hk (hp t th ha ht)⟩

theorem step_node {s s' : St} {a : Action} {k : Nat} {nd' : Node} (hs : step s a = some s')
    (hk : s'.nodes[k]? = some nd') : ∃ nd, s.nodes[k]? = some nd ∧ NodeFrame s a k nd nd' := by
  cases a with
  | send t d ts =>
    obtain ⟨th, -, -, rfl⟩ := send_some hs
    exact ⟨nd', hk, .same fun _ _ e => Action.noConfusion e⟩
  | deliver i t =>
    obtain ⟨m, th, -, -, -, rfl⟩ := deliver_some hs
    exact ⟨nd', hk, .same fun _ _ e => Action.noConfusion e⟩
  | flip t =>
    obtain ⟨th, -, -, rfl⟩ := flip_some hs
    exact ⟨nd', hk, .same fun _ _ e => Action.noConfusion e⟩
  | report t =>
    obtain ⟨th, nd, h, hnd, hst, -, rfl⟩ := report_some hs
    rcases getElem?_set_cases hk with ⟨rfl, rfl⟩ | ⟨-, hk⟩
    · refine ⟨nd, hnd, .inr ⟨t, th, h, .inl hst⟩, fun d hd => ?_, fun _ _ e => Action.noConfusion e⟩
      exact (List.mem_append.1 hd).imp_right fun h1 => ⟨t, th, h, hst, h1⟩
    · exact ⟨nd', hk, .same fun _ _ e => Action.noConfusion e⟩
  | collective t =>
    obtain ⟨th, nd, h, hnd, hst, -, rfl⟩ := collective_some hs
    rcases getElem?_set_cases hk with ⟨rfl, rfl⟩ | ⟨-, hk⟩
    · exact ⟨nd, hnd, .inr ⟨t, th, h, .inr (.inl ⟨hst, rfl⟩)⟩, fun _ => .inl, fun _ _ e => Action.noConfusion e⟩
    · exact ⟨nd', hk, .same fun _ _ e => Action.noConfusion e⟩
  | poll t =>
    obtain ⟨th, nd, h, hnd, hst, rfl⟩ := poll_some hs
    rcases getElem?_set_cases hk with ⟨rfl, rfl⟩ | ⟨hne, hk⟩
    · refine ⟨nd, hnd, .inr ⟨t, th, h, .inr (.inr ⟨hst, rfl, rfl⟩)⟩, fun d hd => ?_,
        fun t' th' ha ht' _ hz d hd => ?_⟩
      · dsimp only at hd; split at hd
        · exact .inl (mem_cleanup _ _ _ _ _ hd).1
        · exact .inl hd
      · cases ha; cases h.symm.trans ht'
        dsimp only at hd; rw [if_pos hz] at hd
        exact (mem_cleanup _ _ _ _ _ hd).2
    · refine ⟨nd', hk, .same fun t' th' ha ht' => ?_⟩
      cases ha; cases h.symm.trans ht'; exact fun e => hne e.symm

theorem all_reported (old : Bool) {s : St} (hinv : Inv old s) (ha : allContrib s = true) :
    ∀ (t : Nat) th, s.thr[t]? = some th → th.stage.reported = true := by
  intro t th ht
  have T := hinv.thr t th ht
  have hnd := List.getElem?_eq_getElem T.node_lt
  have I := hinv.node _ _ hnd
  have heq : nReported s th.node = nThr s th.node := by
    rw [← I.cc_eq, I.contrib_iff.1 (allContrib_get hnd ha), I.nthr]
  exact countP_and_eq_all (fun x : Thr => decide (x.node = th.node)) (fun x => x.stage.reported) s.thr heq
    th (List.mem_of_getElem? ht) (decide_eq_true rfl)

theorem scatter_eq_reportedTo {s : St} (ha : allContrib s = true) (k : Nat) :
    scatter s k = reportedTo s k :=
  sumBy_congr _ _ _ fun nd hnd => congrArg (List.count k) (getD_of_isSome (List.all_eq_true.1 ha nd hnd) _ _)

/-- core of `old_colour_drained`: a reported thread of node `k` sees `total_msg_received == 0` -/
theorem drained_of_zero (old : Bool) {s : St} (hinv : Inv old s) {t : Nat} {th : Thr} {nd : Node}
    (h : s.thr[t]? = some th) (hnd : s.nodes[th.node]? = some nd) (hr : th.stage.reported = true)
    (hz : nd.totalRecv = 0) :
    nd.subtracted = true ∧
    (∀ (t1 : Nat) th1, s.thr[t1]? = some th1 → th1.stage.reported = true) ∧
    unreportedTo old s th.node = 0 ∧ unpolledAt old s th.node = 0 ∧ flightTo old s th.node = 0 := by
  have hsub := subtracted_of_zero old hinv h hnd hr hz
  have I := hinv.node _ nd hnd
  obtain ⟨hall, htr⟩ := I.sub hsub
  have hrep := all_reported old hinv hall
  have hun : unreportedTo old s th.node = 0 := by
    refine (sumBy_eq_zero_iff _ _).2 fun th1 hth1 => ?_
    obtain ⟨t1, ht1⟩ := List.getElem?_of_mem hth1
    rw [(hinv.thr t1 th1 ht1).unrep_nil (hrep t1 th1 ht1), List.count_nil]
  have hcc : nd.cc = s.N := I.contrib_iff.1 (allContrib_get hnd hall)
  have h1 := I.recv_eq
  have h2 := I.balance
  have h3 := scatter_eq_reportedTo hall th.node
  simp only [hsub, htr, hz, hcc, if_true, Option.getD_some] at h1
  -- `polled = scatter = reportedTo` and nothing is unreported: the right side of the balance is `polled`
  have : unpolledAt old s th.node = 0 ∧ flightTo old s th.node = 0 := by omega
  exact ⟨hsub, hrep, hun, this⟩

/-- every thread has left the first reduction and carries the new colour: nobody stamps `old` any more -/
def AllFlipped (old : Bool) (s : St) : Prop := ∀ th ∈ s.thr, th.stage ≠ .redux1 ∧ th.colour = !old

/-- no old-colour message can reach node `k` any more: none is in flight to it and none can be sent; kept by every
step (`quiet_step`) -/
def Quiet (old : Bool) (s : St) (k : Nat) : Prop := AllFlipped old s ∧ flightTo old s k = 0

theorem quiet_step (old : Bool) (s s' : St) (k : Nat) (a : Action) (hq : Quiet old s k)
    (hs : step s a = some s') : Quiet old s' k := by
  obtain ⟨t, th, th', F⟩ := step_thr hs
  have hth := hq.1 th (List.mem_of_getElem? F.get)
  have hth' := F.flipped hth.1
  constructor
  · intro x hx
    rw [F.thr] at hx
    rcases List.mem_or_eq_of_mem_set hx with hx | rfl
    · exact hq.1 x hx
    · exact ⟨hth'.1, hth'.2.trans hth.2⟩
  · refine List.countP_eq_zero.2 fun m hm => ?_
    rcases F.flight m hm with h1 | h1
    · exact List.countP_eq_zero.1 hq.2 m h1
    · rw [h1, hth.2]; cases old <;> nofun

theorem quiet_run (old : Bool) (k : Nat) (as : List Action) (s s' : St) (hq : Quiet old s k)
    (hs : run s as = some s') : Quiet old s' k :=
  run_induction (fun s s' a => quiet_step old s s' k a) as s s' hq hs

theorem allFlipped_of_reported (old : Bool) {s : St} (hinv : Inv old s)
    (h : ∀ (t1 : Nat) th1, s.thr[t1]? = some th1 → th1.stage.reported = true) : AllFlipped old s := by
  intro th hth
  obtain ⟨t1, ht1⟩ := List.getElem?_of_mem hth
  have hr := h t1 th ht1
  have hne : th.stage ≠ .redux1 := by intro h1; rw [h1] at hr; cases hr
  exact ⟨hne, (hinv.thr t1 th ht1).col_post hne⟩

theorem poll_spec (s s' : St) (t : Nat) (hs : poll s t = some s') :
    ∃ th nd th', s.thr[t]? = some th ∧ s.nodes[th.node]? = some nd ∧ th.stage = .wait ∧
      s'.thr[t]? = some th' ∧ th'.node = th.node ∧
      th'.stage = if nd.totalRecv = 0 then .redux2 else .wait := by
  obtain ⟨th, nd, h, hnd, hst, rfl⟩ := poll_some hs
  exact ⟨th, nd, _, h, hnd, hst, List.getElem?_set_self (List.getElem?_eq_some_iff.1 h).1, rfl, rfl⟩

/-- once a reported thread of node `k` has seen `total_msg_received == 0`, it stays `0` -/
theorem recv_zero_step (old : Bool) {s s' : St} {a : Action} (hinv : Inv old s) (hs : step s a = some s')
    {t0 : Nat} {th0 : Thr} {nd nd' : Node} (h0 : s.thr[t0]? = some th0) (hr0 : th0.stage.reported = true)
    (hnd : s.nodes[th0.node]? = some nd) (hz : nd.totalRecv = 0) (hnd' : s'.nodes[th0.node]? = some nd') :
    nd'.totalRecv = 0 := by
  obtain ⟨d1, d2, _, d4, _⟩ := drained_of_zero old hinv h0 hnd hr0 hz
  obtain ⟨nd1, hnd1, F⟩ := step_node hs hnd'
  cases hnd.symm.trans hnd1
  rcases F.recv with hc | ⟨t, th, ht, hst | ⟨hst, hk⟩ | ⟨hst, hk, hv⟩⟩
  · rw [hc, hz]
  · -- every thread has reported: no `report` is enabled
    have := d2 t th ht; rw [hst] at this; cases this
  · -- the collective has been consumed: no thread of the node waits for it
    have h1 := nRedWait_pos ht hst
    rw [hk, (hinv.node _ nd hnd).redwait, d1] at h1
    simp at h1
  · -- nothing of the old colour is left to poll
    have hcol : th.colour = !old := (hinv.thr t th ht).col_post (hst ▸ Stage.noConfusion)
    have := (sumBy_eq_zero_iff _ _).1 d4 th (List.mem_of_getElem? ht)
    rw [if_pos hk] at this
    rw [hv, hz, hcol, Bool.not_not, this]; rfl

/-- a thread in `node_phase_redux_second` implies `total_msg_received == 0` on its node -/
def PassedZero (s : St) : Prop :=
  ∀ (t : Nat) th nd, s.thr[t]? = some th → th.stage = .redux2 → s.nodes[th.node]? = some nd → nd.totalRecv = 0

/-- a thread that is in `node_phase_redux_second` after a step was, before it, a reported thread on a node
with `total_msg_received == 0`: it had passed already, or it passes by this step -/
theorem passed_before {s s' : St} {a : Action} (hp : PassedZero s) (hs : step s a = some s') {t1 : Nat}
    {th1 : Thr} {nd : Node} (h1 : s'.thr[t1]? = some th1) (hst1 : th1.stage = .redux2)
    (hnd : s.nodes[th1.node]? = some nd) :
    ∃ th0, s.thr[t1]? = some th0 ∧ th0.node = th1.node ∧ th0.rid = th1.rid ∧ th0.stage.reported = true ∧
      nd.totalRecv = 0 ∧ (th0.stage = .redux2 ∨ a = .poll t1) := by
  obtain ⟨t, th, th', F⟩ := step_thr hs
  rw [F.thr] at h1
  rcases getElem?_set_cases h1 with ⟨rfl, rfl⟩ | ⟨_, h1⟩
  · rw [F.node] at hnd
    rcases F.pass hst1 with hb | ⟨rfl, hw, hz⟩
    · exact ⟨th, F.get, F.node.symm, F.rid.symm, by rw [hb]; rfl, hp _ th nd F.get hb hnd, .inl hb⟩
    · exact ⟨th, F.get, F.node.symm, F.rid.symm, by rw [hw]; rfl, hz nd hnd, .inr rfl⟩
  · exact ⟨th1, h1, rfl, rfl, by rw [hst1]; rfl, hp _ th1 nd h1 hst1 hnd, .inl hst1⟩

theorem passedZero_step (old : Bool) (s s' : St) (a : Action) (hinv : Inv old s) (hp : PassedZero s)
    (hs : step s a = some s') : PassedZero s' := by
  intro t1 th1 nd1 h1 hst1 hnd1
  obtain ⟨nd, hnd, -⟩ := step_node hs hnd1
  obtain ⟨th0, h0, hk, -, hr0, hz, -⟩ := passed_before hp hs h1 hst1 hnd
  rw [← hk] at hnd hnd1
  exact recv_zero_step old hinv hs h0 hr0 hnd hz hnd1

structure Clean (s : St) : Prop where
  unrep_lt : ∀ (t : Nat) th c, s.thr[t]? = some th → ∀ d ∈ th.unrep.get c, d < s.nodes.length
  sent_lt : ∀ (k : Nat) nd, s.nodes[k]? = some nd → ∀ d ∈ nd.totalSent, d < s.nodes.length
  /-- a thread that passed has cleared its slice, and nothing is added to it afterwards -/
  slice : ∀ (t : Nat) th nd, s.thr[t]? = some th → th.stage = .redux2 → s.nodes[th.node]? = some nd →
    ∀ d ∈ nd.totalSent, ¬ inSlice s.nodes.length s.N th.rid d

theorem clean_step (old : Bool) (s s' : St) (a : Action) (hinv : Inv old s) (hp : PassedZero s)
    (hc : Clean s) (hs : step s a = some s') : Clean s' := by
  obtain ⟨t, th, th', F⟩ := step_thr hs
  refine ⟨fun t1 th1 c h1 d hd => ?_, fun k nd' hk d hd => ?_, fun t1 th1 nd' h1 hst1 hk d hd => ?_⟩
  · rw [F.len]; rw [F.thr] at h1
    rcases getElem?_set_cases h1 with ⟨rfl, rfl⟩ | ⟨_, h1⟩
    · exact (F.unrep c d hd).elim (hc.unrep_lt _ th c F.get d) id
    · exact hc.unrep_lt _ th1 c h1 d hd
  · obtain ⟨nd, hnd, G⟩ := step_node hs hk
    rw [F.len]
    rcases G.sent d hd with h | ⟨t0, th0, h0, -, hm⟩
    · exact hc.sent_lt k nd hnd d h
    · exact hc.unrep_lt t0 th0 _ h0 d hm
  · obtain ⟨nd, hnd, G⟩ := step_node hs hk
    obtain ⟨th0, h0, hk0, hr0, hrep, hz, hcase⟩ := passed_before hp hs h1 hst1 hnd
    rw [F.len, F.N, ← hr0]
    rw [← hk0] at hnd
    obtain ⟨-, d2, -⟩ := drained_of_zero old hinv h0 hnd hrep hz
    rcases G.sent d hd with h | ⟨t2, th2, h2, hst2, -⟩
    · rcases hcase with hb | rfl
      · exact hc.slice t1 th0 nd h0 hb hnd d h
      · exact G.slice t1 th0 rfl h0 hk0 hz d hd
    · -- every thread has reported: no `report` adds to `total_sent`
      have := d2 t2 th2 h2; rw [hst2] at this; cases this

/-- static well-formedness: `N > 0` and the threads of every node are numbered `0 .. N-1` -/
def RidCover (s : St) : Prop :=
  0 < s.N ∧ ∀ k, k < s.nodes.length → ∀ r, r < s.N → ∃ th ∈ s.thr, th.node = k ∧ th.rid = r

theorem ridCover_step (s s' : St) (a : Action) (h : RidCover s) (hs : step s a = some s') : RidCover s' := by
  obtain ⟨t, th, th', F⟩ := step_thr hs
  refine ⟨F.N ▸ h.1, fun k hk r hr => ?_⟩
  obtain ⟨th0, hm, h1, h2⟩ := h.2 k (F.len ▸ hk) r (F.N ▸ hr)
  obtain ⟨t0, ht0⟩ := List.getElem?_of_mem hm
  rw [F.thr]
  by_cases he : t = t0
  · subst he
    cases F.get.symm.trans ht0
    exact ⟨th', List.mem_of_getElem? (List.getElem?_set_self (List.getElem?_eq_some_iff.1 ht0).1),
      F.node ▸ h1, F.rid ▸ h2⟩
  · exact ⟨th0, List.mem_of_getElem? ((List.getElem?_set_ne he).trans ht0), h1, h2⟩

/-- everything that is carried along a round -/
structure Full (old : Bool) (s : St) : Prop where
  inv : Inv old s
  passed : PassedZero s
  clean : Clean s
  rids : RidCover s

theorem full_step (old : Bool) (s s' : St) (a : Action) (h : Full old s) (hs : step s a = some s') :
    Full old s' :=
  ⟨inv_step old s s' a h.inv hs, passedZero_step old s s' a h.inv h.passed hs,
   clean_step old s s' a h.inv h.passed h.clean hs, ridCover_step s s' a h.rids hs⟩

theorem full_run (old : Bool) (as : List Action) (s s' : St) (h : Full old s) (hs : run s as = some s') :
    Full old s' :=
  run_induction (full_step old) as s s' h hs

theorem full_of_roundStart (old : Bool) (s : St) (h : RoundStart old s) : Full old s := by
  have hst : ∀ (t : Nat) th, s.thr[t]? = some th → th.stage ≠ .redux2 := fun t th ht e => by
    rw [(h.thr th (List.mem_of_getElem? ht)).2.2] at e; cases e
  refine ⟨inv_of_roundStart old s h, fun t th nd ht e => absurd e (hst t th ht), ⟨?_, ?_, ?_⟩,
    ⟨h.npos, h.rids⟩⟩
  · intro t th c ht d hd
    exact h.dest th (List.mem_of_getElem? ht) c d hd
  · intro k nd hk d hd
    rw [h.node nd (List.mem_of_getElem? hk)] at hd; cases hd
  · exact fun t th nd ht e => absurd e (hst t th ht)

/-- the slices `[r*q, r*q+q)`, `r < N`, `q = K/N + 1`, cover `0 .. K-1` -/
theorem slice_cover (K N d : Nat) (hN : 0 < N) (hd : d < K) :
    d / (K / N + 1) < N ∧ inSlice K N (d / (K / N + 1)) d := by
  have hq : 0 < K / N + 1 := Nat.succ_pos _
  have h1 : K < N * (K / N + 1) := Nat.lt_mul_div_succ K hN
  refine ⟨?_, Nat.div_mul_le_self d _, Nat.lt_div_mul_add hq⟩
  rw [Nat.div_lt_iff_lt_mul hq]; exact Nat.lt_trans hd h1

end RootSim.GvtNode
