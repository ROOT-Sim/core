import RootSim.Proofs.AllocCkpt
/-! `rs_calloc`, `rs_realloc` as compositions of allocation, store and free; the frame relation shared by
all user-level operations. -/
namespace RootSim.Alloc

/-- What every user-level operation (malloc/calloc/realloc/free/store) preserves; `tgt` is the start
address of the one block it may free or overwrite. -/
structure Frame (c : Cfg) (s s' : MM) (tgt : Option (Nat × Nat)) : Prop where
  inv : Inv0 c s'
  logs : s'.logs = s.logs
  sub : (ids s.arenas).Sublist (ids s'.arenas)
  keep : ∀ b ∈ s.live c, tgt ≠ some (b.1, b.2.1) → b ∈ s'.live c ∧ s'.bytes b = s.bytes b

theorem Frame.refl {c : Cfg} {s : MM} (h : Inv0 c s) (tgt : Option (Nat × Nat)) : Frame c s s tgt :=
  ⟨h, rfl, List.Sublist.refl _, fun _ hb _ => ⟨hb, rfl⟩⟩

theorem Frame.trans {c : Cfg} {s1 s2 s3 : MM} {tgt : Option (Nat × Nat)} (h1 : Frame c s1 s2 none)
    (h2 : Frame c s2 s3 tgt) : Frame c s1 s3 tgt :=
  ⟨h2.inv, h2.logs.trans h1.logs, h1.sub.trans h2.sub, fun b hb hne =>
    have q1 := h1.keep b hb nofun
    have q2 := h2.keep b q1.1 hne
    ⟨q2.1, q2.2.trans q1.2⟩⟩

theorem AllocRes.toFrame {c s s' p e} (hI : Inv0 c s) (h : AllocRes c s s' p e) : Frame c s s' none :=
  ⟨h.inv, h.logs, h.sub, fun b hb _ => ⟨(h.live b).2 (Or.inr hb), bytes_of_mem hI h.inv h.mem hb⟩⟩

theorem FreeRes.toFrame {c s s' p j} (hI : Inv0 c s) (h : FreeRes c s s' p j) :
    Frame c s s' (some (p.aid, p.off)) :=
  ⟨h.inv, h.logs, by rw [h.ids]; exact List.Sublist.refl _, fun b hb hne =>
    ⟨(h.live b).2 ⟨hb, fun e => hne (by rw [e])⟩, bytes_of_mem hI h.inv h.mem hb⟩⟩

theorem PokeRes.keep {c : Cfg} {s s' : MM} {aid o : Nat} {bs : List Nat} (hI : Inv0 c s)
    (h : PokeRes c s s' aid o bs) {ob kb : Nat} (hblk : (aid, ob, kb) ∈ s.live c) (h1 : ob ≤ o)
    (h2 : o + bs.length ≤ ob + 2 ^ kb) {b : Nat × Nat × Nat} (hb : b ∈ s.live c) (hne : b ≠ (aid, ob, kb)) :
    b ∈ s'.live c ∧ s'.bytes b = s.bytes b := by
  refine ⟨h.live ▸ hb, h.frame _ _ _ ?_⟩
  obtain ⟨b1, b2, b3⟩ := b
  by_cases he : b1 = aid
  · subst he
    have := live_disjoint hI hb hblk fun e => hne (by rw [Prod.mk.injEq] at e; rw [e.1, e.2])
    exact Or.inr (this.imp (fun q => Nat.le_trans q h1) (fun q => Nat.le_trans h2 q))
  · exact Or.inl he

theorem PokeRes.toFrame {c : Cfg} {s s' : MM} {aid o : Nat} {bs : List Nat} (hI : Inv0 c s)
    (h : PokeRes c s s' aid o bs) {ob kb : Nat} (hblk : (aid, ob, kb) ∈ s.live c) (h1 : ob ≤ o)
    (h2 : o + bs.length ≤ ob + 2 ^ kb) : Frame c s s' (some (aid, ob)) :=
  ⟨h.inv, h.logs, by rw [h.ids]; exact List.Sublist.refl _, fun _ hb hne =>
    h.keep hI hblk h1 h2 hb fun e => hne (by rw [e])⟩

/-- an allocation followed by a store into the new block (`rs_calloc`, the copy of `rs_realloc`) -/
theorem Frame.alloc_poke {c : Cfg} {s s1 s2 : MM} {p : Ptr} {e : Nat} {bs : List Nat} (hI : Inv0 c s)
    (hA : AllocRes c s s1 p e) (hP : PokeRes c s1 s2 p.aid p.off bs) (hlen : bs.length ≤ 2 ^ e) :
    Frame c s s2 none :=
  ⟨hP.inv, hP.logs.trans hA.logs, hP.ids ▸ hA.sub, fun b hb _ =>
    have q := hP.keep hA.inv ((hA.live _).2 (Or.inl rfl)) (Nat.le_refl _) (Nat.add_le_add_left hlen _)
      ((hA.live b).2 (Or.inr hb)) fun e => hA.fresh (e ▸ hb)
    ⟨q.1, q.2.trans (bytes_of_mem hI hA.inv hA.mem hb)⟩⟩

theorem peek_take (s : MM) (id o len m : Nat) : (s.peek id o len).take m = s.peek id o (min m len) := by
  unfold MM.peek
  split
  · simp only [readAt, List.take_take]
  · exact List.take_nil

theorem PokeRes.bytes_take {c : Cfg} {s s' : MM} {aid o : Nat} {bs : List Nat} (h : PokeRes c s s' aid o bs)
    {e : Nat} (hle : bs.length ≤ 2 ^ e) : (s'.bytes (aid, o, e)).take bs.length = bs := by
  unfold MM.bytes
  rw [peek_take, Nat.min_eq_left hle]
  exact h.same

theorem peek_length {c : Cfg} {s : MM} (hI : Inv0 c s) {a : Arena} (ha : a ∈ s.arenas) {o len : Nat}
    (h : o + len ≤ 2 ^ c.T) : (s.peek a.id o len).length = len := by
  unfold MM.peek
  rw [findArena_of_mem hI.nodup ha]
  exact readAt_length (by rw [(hI.ok a ha).2]; exact h)

theorem add_add_le_of_le {o i len m : Nat} (h : i + len ≤ m) : o + i + len ≤ o + m :=
  Nat.add_assoc o i len ▸ Nat.add_le_add_left h o

theorem poke_live {c : Cfg} {s : MM} (hI : Inv0 c s) {p : Ptr} {k : Nat} (hp : (p.aid, p.off, k) ∈ s.live c)
    {i : Nat} {bs : List Nat} (h : i + bs.length ≤ 2 ^ k) :
    PokeRes c s (s.poke p.aid (p.off + i) bs) p.aid (p.off + i) bs := by
  obtain ⟨a, ha, he⟩ := mem_arena_of_live hp
  have := (live_bounds hI hp).2.2.1
  rw [← show a.id = p.aid from he]
  exact poke_spec hI ha _ bs (Nat.le_trans (add_add_le_of_le h) this)

/-! ### `rs_malloc` -/

theorem rsMalloc_frame {c : Cfg} {s s' : MM} {n ins : Nat} {r : Ret} (hc : c.ok) (hI : Inv0 c s)
    (h : rsMalloc c s n ins = (s', r)) : Frame c s s' none := by
  rcases rsMalloc_spec hc hI n ins with ⟨_, h2⟩ | ⟨_, h2⟩ | ⟨_, _, s'', p, h2, hA, _⟩ <;> rw [h2] at h <;> cases h
  · exact Frame.refl hI _
  · exact Frame.refl hI _
  · exact hA.toFrame hI

/-- `rs_malloc` creates a new arena only when no existing one can satisfy the request -/
theorem rsMalloc_no_grow {c : Cfg} {s s' : MM} {n ins : Nat} {r : Ret} (hc : c.ok) (hI : Inv0 c s)
    {a : Arena} (ha : a ∈ s.arenas) (hl : blockExp c.B n ≤ a.tree.longest c.T)
    (h : rsMalloc c s n ins = (s', r)) : s'.arenas.length = s.arenas.length := by
  rcases rsMalloc_spec hc hI n ins with ⟨_, h2⟩ | ⟨_, h2⟩ | ⟨_, _, s'', p, h2, _, hg⟩ <;> rw [h2] at h <;> cases h
  · rfl
  · rfl
  · exact hg.resolve_right fun hall => Nat.lt_irrefl _ (Nat.lt_of_lt_of_le (hall a ha) hl)

/-! ### `rs_calloc` -/

/-- the outcomes of `rs_calloc`, `tot` being the product in `size_t`: the overflow check of the patched
variant, the failures of `rs_malloc`, or an allocation followed by zeroing -/
theorem rsCalloc_spec {c : Cfg} {s : MM} (hc : c.ok) (hI : Inv0 c s) (nm sz ins : Nat) {tot : Nat}
    (htot : nm * sz % 2 ^ 64 = tot) :
    (c.callocChecked = true ∧ 2 ^ 64 ≤ nm * sz ∧ rsCalloc c s nm sz ins = (s, .enomem)) ∨
    (tot = 0 ∧ rsCalloc c s nm sz ins = (s, .null)) ∨
    (2 ^ c.T < tot ∧ rsCalloc c s nm sz ins = (s, .enomem)) ∨
    ∃ s1 s2 p, rsCalloc c s nm sz ins = (s2, .ptr p) ∧ AllocRes c s s1 p (blockExp c.B tot) ∧
      PokeRes c s1 s2 p.aid p.off (List.replicate tot 0) := by
  by_cases hck : c.callocChecked = true ∧ 2 ^ 64 ≤ nm * sz
  · exact Or.inl ⟨hck.1, hck.2, by simp only [rsCalloc, hck, and_self, if_true]⟩
  rcases rsMalloc_spec hc hI tot ins with ⟨h1, h2⟩ | ⟨h1, h2⟩ | ⟨_, _, s1, p, h2, hA, _⟩
  · exact Or.inr (Or.inl ⟨h1, by simp only [rsCalloc, hck, if_false, htot, h2]⟩)
  · exact Or.inr (Or.inr (Or.inl ⟨h1, by simp only [rsCalloc, hck, if_false, htot, h2]⟩))
  · refine Or.inr (Or.inr (Or.inr ⟨s1, s1.poke p.aid p.off (List.replicate tot 0), p,
      by simp only [rsCalloc, hck, if_false, htot, h2], hA, ?_⟩))
    have := poke_live hA.inv ((hA.live _).2 (Or.inl rfl)) (i := 0) (bs := List.replicate tot 0)
      (by rw [List.length_replicate, Nat.zero_add]; exact (blockExp_spec c.B tot).2.1)
    rwa [Nat.add_zero] at this

theorem rsCalloc_frame {c : Cfg} {s s' : MM} {nm sz ins : Nat} {r : Ret} (hc : c.ok) (hI : Inv0 c s)
    (h : rsCalloc c s nm sz ins = (s', r)) : Frame c s s' none := by
  rcases rsCalloc_spec hc hI nm sz ins rfl with ⟨_, _, h2⟩ | ⟨_, h2⟩ | ⟨_, h2⟩ | ⟨s1, s2, q, h2, hA, hP⟩ <;>
    rw [h2] at h <;> cases h
  · exact Frame.refl hI _
  · exact Frame.refl hI _
  · exact Frame.refl hI _
  · exact Frame.alloc_poke hI hA hP (by rw [List.length_replicate]; exact (blockExp_spec c.B _).2.1)

/-! ### `rs_realloc` -/

/-- the three outcomes of `rs_realloc(p, n)` for a live `p` of order `j` and `n > 0`; a move is an allocation,
a copy of the first `min n (old size)` bytes and a free of the old block -/
theorem rsRealloc_spec {c : Cfg} {s : MM} (hc : c.ok) (hI : Inv0 c s) {p : Ptr} {j : Nat}
    (hp : (p.aid, p.off, j) ∈ s.live c) (n ins : Nat) (hn : 0 < n) :
    (j = blockExp c.B n ∧ rsRealloc c s (some p) n ins = some (s, .ptr p)) ∨
    (j ≠ blockExp c.B n ∧ 2 ^ c.T < n ∧ rsRealloc c s (some p) n ins = some (s, .enomem)) ∨
    (j ≠ blockExp c.B n ∧ n ≤ 2 ^ c.T ∧ ∃ s1 s2 s3 q,
      rsRealloc c s (some p) n ins = some (s3, .ptr q) ∧
      AllocRes c s s1 q (blockExp c.B n) ∧
      PokeRes c s1 s2 q.aid q.off (s1.peek p.aid p.off (min n (2 ^ j))) ∧
      (s1.peek p.aid p.off (min n (2 ^ j))).length = min n (2 ^ j) ∧
      FreeRes c s2 s3 p j) := by
  have hb := live_bounds hI hp
  obtain ⟨a, ha, h1⟩ := mem_arena_of_live hp
  simp only at h1
  have hord := BT.orderAt_spec (base := 0) (d := p.off) (o := p.off) hc.1 (hI.ok a ha).1
    (by rw [Nat.zero_add, ← mem_live_of_mem hI ha, h1]; exact hp) (Nat.le_refl _) (lt_add_two_pow p.off j)
  have hoff : ¬ 2 ^ c.T ≤ p.off := Nat.not_le.2 (live_off_lt hI hp)
  have hfa : findArena s.arenas p.aid = some a := by rw [← h1]; exact findArena_of_mem hI.nodup ha
  by_cases hj : j = blockExp c.B n
  · left; exact ⟨hj, by simp only [rsRealloc, Nat.ne_of_gt hn, if_false, hfa, hoff, hord, if_pos hj]⟩
  right
  rcases rsMalloc_spec hc hI n ins with ⟨h0, _⟩ | ⟨hT, hm⟩ | ⟨_, hT, s1, q, hm, hA, _⟩
  · exact absurd h0 (Nat.ne_of_gt hn)
  · left; exact ⟨hj, hT, by simp only [rsRealloc, Nat.ne_of_gt hn, if_false, hfa, hoff, hord, if_neg hj, hm]⟩
  · right
    have hpl1 : (p.aid, p.off, j) ∈ s1.live c := (hA.live _).2 (Or.inr hp)
    obtain ⟨ap, hap, hep⟩ := mem_arena_of_live hpl1
    have hlen : (s1.peek p.aid p.off (min n (2 ^ j))).length = min n (2 ^ j) := by
      rw [← show ap.id = p.aid from hep]; exact peek_length hA.inv hap (Nat.le_trans (Nat.add_le_add_left (Nat.min_le_right _ _) _) hb.2.2.1)
    have hP := poke_live hA.inv ((hA.live _).2 (Or.inl rfl)) (i := 0)
      (bs := s1.peek p.aid p.off (min n (2 ^ j)))
      (by rw [Nat.zero_add, hlen]; exact Nat.le_trans (Nat.min_le_left _ _) (blockExp_spec c.B n).2.1)
    rw [Nat.add_zero] at hP
    obtain ⟨s3, hf, hF⟩ := rsFree_spec hc hP.inv (hP.live ▸ hpl1)
    refine ⟨hj, hT, s1, _, s3, q, ?_, hA, hP, hlen, hF⟩
    simp only [rsRealloc, Nat.ne_of_gt hn, if_false, hfa, hoff, hord, if_neg hj, hm, hf, Option.map_some]

theorem legal_some {c : Cfg} {s : MM} (hI : Inv0 c s) {p : Ptr} (h : s.legal c (some p) = true) :
    ∃ j, (p.aid, p.off, j) ∈ s.live c := by
  obtain ⟨j, hj⟩ := Option.isSome_iff_exists.1 h
  exact ⟨j, (blockAt_iff hI p j).1 hj⟩

theorem rsRealloc_frame {c : Cfg} {s s' : MM} {p : Option Ptr} {n ins : Nat} {r : Ret} (hc : c.ok)
    (hI : Inv0 c s) (hl : s.legal c p = true) (h : rsRealloc c s p n ins = some (s', r)) :
    Frame c s s' (p.map fun p => (p.aid, p.off)) := by
  by_cases hn : n = 0
  · simp only [rsRealloc, hn, if_true, Option.some.injEq, Prod.mk.injEq] at h
    exact h.1 ▸ Frame.refl hI _
  cases p with
  | none =>
    simp only [rsRealloc, hn, if_false, Option.some.injEq] at h
    exact rsMalloc_frame hc hI h
  | some p =>
    obtain ⟨j, hj⟩ := legal_some hI hl
    rcases rsRealloc_spec hc hI hj n ins (Nat.pos_of_ne_zero hn) with ⟨_, h1⟩ | ⟨_, _, h1⟩ |
      ⟨_, _, s1, s2, s3, q, h1, hA, hP, hlen, hF⟩ <;> rw [h1] at h <;> cases h
    · exact Frame.refl hI _
    · exact Frame.refl hI _
    · have hle : (s1.peek p.aid p.off (min n (2 ^ j))).length ≤ 2 ^ blockExp c.B n := by
        rw [hlen]; exact Nat.le_trans (Nat.min_le_left _ _) (blockExp_spec c.B n).2.1
      exact (Frame.alloc_poke hI hA hP hle).trans (hF.toFrame hP.inv)

/-! ### `rs_free`, stores -/

theorem rsFree_frame {c : Cfg} {s s' : MM} {p : Option Ptr} (hc : c.ok) (hI : Inv0 c s)
    (hl : s.legal c p = true) (h : rsFree c s p = some s') : Frame c s s' (p.map fun p => (p.aid, p.off)) := by
  cases p with
  | none => cases h; exact Frame.refl hI _
  | some p =>
    obtain ⟨j, hj⟩ := legal_some hI hl
    obtain ⟨s3, h1, h2⟩ := rsFree_spec hc hI hj
    rw [h1] at h; cases h
    exact h2.toFrame hI

theorem write_frame {c : Cfg} {s : MM} (hI : Inv0 c s) {p : Ptr} {k i : Nat} {bs : List Nat}
    (hk : s.blockAt c p = some k) (hle : i + bs.length ≤ 2 ^ k) :
    Frame c s (s.poke p.aid (p.off + i) bs) (some (p.aid, p.off)) :=
  have hl := (blockAt_iff hI p k).1 hk
  (poke_live hI hl hle).toFrame hI hl (Nat.le_add_right _ _) (add_add_le_of_le hle)

end RootSim.Alloc
