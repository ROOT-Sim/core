import RootSim.Proofs.LP
import RootSim.Props.C16
import RootSim.Props.C01
/-! The history of an LP stays sorted by the event order (hypothesis H1 of the prefix-uniqueness
theorem): straggler detection + rollback + forward execution preserve sortedness. -/
namespace RootSim.Refine
open RootSim RootSim.LP

/-- layout `[sent* past]*`: empty, or the last entry is a processed message -/
def EndsPast (l : List Entry) : Prop := ∀ e, l.getLast? = some e → e.isPast = true

end RootSim.Refine

namespace RootSim.LP
open RootSim

variable {σ : Type}

/-- sortedness of the processed messages of a history: no later one is before an earlier one -/
def Sorted (look : Nat → Msg) (hist : List Entry) : Prop :=
  (pastMsgs hist).Pairwise (fun a b => isBefore (look b) (look a) = false)

/-- what straggler detection relies on -/
structure SInv (look : Nat → Msg) (lp : LPState σ) : Prop where
  sorted : Sorted look lp.hist
  /-- `bound` is an upper bound of the time stamps in the history (it is `none` only when empty) -/
  bound_ok : ∀ m ∈ pastMsgs lp.hist, ∃ b, lp.bound = some b ∧ (look m).destT ≤ b
  /-- layout: the history ends with a processed message -/
  last_past : ∀ e, lp.hist.getLast? = some e → e.isPast = true
  wf : ∀ m ∈ pastMsgs lp.hist, (look m).WF

theorem pastMsgs_take_sub (hist : List Entry) (k : Nat) : (pastMsgs (hist.take k)).Sublist (pastMsgs hist) := by
  unfold pastMsgs
  exact (List.take_sublist k hist).filterMap _

theorem isBefore_of_lt (a b : Msg) (h : a.destT < b.destT) : isBefore a b = true := by
  simp [isBefore, h]

theorem not_before_of_lt (a b : Msg) (h : a.destT < b.destT) : isBefore b a = false := by
  have := isBefore_of_lt a b h
  exact C16.asymm a b this

theorem pastMsgs_last (hist : List Entry) (e : Entry) (h : hist.getLast? = some e) (hp : e.isPast = true) :
    ∃ pre, pastMsgs hist = pre ++ [e.msg] := by
  obtain ⟨pre, rfl⟩ := List.getLast?_eq_some_iff.mp h
  refine ⟨pastMsgs pre, ?_⟩
  rw [pastMsgs_append]
  cases e with
  | past m => rfl
  | sent m => cases hp
  | rsent m => cases hp

theorem getLast?_past_mem (hist : List Entry) (e : Entry) (h : hist.getLast? = some e) (hp : e.isPast = true) :
    e.msg ∈ pastMsgs hist := by
  obtain ⟨pre, hpre⟩ := pastMsgs_last hist e h hp
  exact hpre ▸ List.mem_append_right _ (List.mem_singleton_self _)

theorem forward_sorted (look : Nat → Msg) (lp : LPState σ) (h : σ → Event → σ × List Event)
    (m : Nat) (e : Event) (outs : List Nat) (hI : SInv look lp)
    (hnb : ∀ x ∈ pastMsgs lp.hist, isBefore (look m) (look x) = false)
    (hwf : (look m).WF) (ht : (look m).destT = e.t) :
    SInv look (forward h lp m e outs).1 := by
  have hh := forward_hist (h := h) lp m e outs
  have hp : pastMsgs (forward h lp m e outs).1.hist = pastMsgs lp.hist ++ [m] := by
    rw [hh]; simp only [pastMsgs_append, pastMsgs_sent, List.append_nil]; rfl
  refine ⟨?_, ?_, ?_, ?_⟩
  · unfold Sorted; rw [hp, List.pairwise_append]
    refine ⟨hI.sorted, List.pairwise_singleton _ _, ?_⟩
    intro a ha b hb; cases List.mem_singleton.mp hb; exact hnb a ha
  · intro x hx
    rw [hp] at hx
    refine ⟨e.t, by simp [forward], ?_⟩
    rcases List.mem_append.mp hx with h1 | h1
    · -- x is not after m: x.t ≤ m.t
      have := hnb x h1
      by_cases hlt : (look m).destT < (look x).destT
      · rw [isBefore_of_lt _ _ hlt] at this; exact Bool.noConfusion this
      · exact ht ▸ Nat.le_of_not_lt hlt
    · cases List.mem_singleton.mp h1; exact Nat.le_of_eq ht
  · intro e' he'
    rw [hh, List.getLast?_concat] at he'
    cases he'; rfl
  · intro x hx; rw [hp] at hx
    rcases List.mem_append.mp hx with h1 | h1
    · exact hI.wf x h1
    · cases List.mem_singleton.mp h1; exact hwf

theorem not_before_all {look : Nat → Msg} {l : List Entry} {e : Entry} {a : Msg} (hs : Sorted look l)
    (hwf : ∀ x ∈ pastMsgs l, (look x).WF) (ha : a.WF) (hl : l.getLast? = some e) (hp : e.isPast = true)
    (hnb : isBefore a (look e.msg) = false) : ∀ x ∈ pastMsgs l, isBefore a (look x) = false := by
  obtain ⟨pre, hpre⟩ := pastMsgs_last l e hl hp
  unfold Sorted at hs
  rw [hpre] at hs hwf ⊢
  intro x hx
  have hwe := hwf e.msg (List.mem_append_right _ (List.mem_singleton_self _))
  rcases List.mem_append.mp hx with h1 | h1
  · exact C16.ntrans _ _ _ ha hwe (hwf x hx) hnb
      ((List.pairwise_append.mp hs).2.2 x h1 e.msg (List.mem_singleton_self _))
  · cases List.mem_singleton.mp h1; exact hnb

/-- the entry in front of the rollback index of `match_straggler_msg`, if there is one: a processed message that the straggler is
not before -/
theorem matchStraggler_last {look : Nat → Msg} {hist : List Entry} {sm : Msg} {e : Entry}
    (he : (hist.take (matchStraggler look hist sm)).getLast? = some e) :
    e.isPast = true ∧ isBefore sm (look e.msg) = false := by
  have hspec := C01.matchStraggler_spec look hist sm
  rw [List.getLast?_take] at he
  split at he
  · cases he
  · rename_i hk0
    obtain ⟨e', he', hp, hnb⟩ := hspec.2.1 (Nat.pos_of_ne_zero hk0)
    rw [he'] at he
    cases he
    exact ⟨hp, hnb⟩

theorem SInv.take {look : Nat → Msg} {lp lp' : LPState σ} (hI : SInv look lp) {k : Nat}
    (hh : lp'.hist = lp.hist.take k) (hb : lp'.bound = lp.bound)
    (hlast : Refine.EndsPast lp'.hist) : SInv look lp' := by
  have hsub := pastMsgs_take_sub lp.hist k
  rw [← hh] at hsub
  exact ⟨List.Pairwise.sublist hsub hI.sorted, fun x hx => hb ▸ hI.bound_ok x (hsub.subset hx), hlast,
    fun x hx => hI.wf x (hsub.subset hx)⟩

/-- **Sortedness is preserved by `process_msg`** (ordinary message): whatever the history, after the
straggler test, the rollback it may trigger, and the forward execution, the processed messages of the
LP are again sorted by the event order, with the comparisons the code actually performs. -/
theorem processPlain_sorted (h : σ → Event → σ × List Event) (ev : Nat → Event) (look : Nat → Msg)
    (lp : LPState σ) (m : Nat) (outs : List Nat) (hI : SInv look lp)
    (hwf : (look m).WF) (ht : (look m).destT = (ev m).t)
    {lp' : LPState σ} {evs : List Event}
    (hp : processPlain h ev look lp m (look m) outs = some (lp', evs)) : SInv look lp' := by
  unfold processPlain at hp
  split at hp
  · -- straggler: roll back to the index `match_straggler_msg` gives, then forward
    split at hp
    · rename_i o ho
      cases hp
      obtain ⟨_, hk1, hk2⟩ := rollback_some ho
      -- the kept history is empty or ends with a processed message that `m` is not before
      have hlast : ∀ e, o.lp.hist.getLast? = some e →
          e.isPast = true ∧ isBefore (look m) (look e.msg) = false := fun e he => matchStraggler_last (hk1 ▸ he)
      have hI' : SInv look o.lp := hI.take hk1 hk2 (fun e he => (hlast e he).1)
      refine forward_sorted look o.lp h m (ev m) outs hI' (fun x hx => ?_) hwf ht
      cases hl : o.lp.hist.getLast? with
      | none => rw [List.getLast?_eq_none_iff.mp hl] at hx; cases hx
      | some e => exact not_before_all hI'.sorted hI'.wf hwf hl (hlast e hl).1 (hlast e hl).2 x hx
    · cases hp
  · -- not a straggler: `bound` is below the time stamp of `m`, or `m` is not before the last processed message
    rename_i hs
    cases hp
    refine forward_sorted look lp h m (ev m) outs hI (fun x hx => ?_) hwf ht
    obtain ⟨b, hb, hxb⟩ := hI.bound_ok x hx
    cases hl : lp.hist.getLast? with
    | none => rw [List.getLast?_eq_none_iff.mp hl] at hx; cases hx
    | some last =>
      have hs' : (decide (b ≥ (look m).destT) && isBefore (look m) (look last.msg)) = false := by
        simpa [isStraggler, hb, hl] using hs
      rcases Bool.and_eq_false_iff.mp hs' with h1 | h1
      · exact not_before_of_lt _ _ (Nat.lt_of_le_of_lt hxb (Nat.not_le.mp (of_decide_eq_false h1)))
      · exact not_before_all hI.sorted hI.wf hwf hl (hI.last_past last hl) h1 x hx

end RootSim.LP
