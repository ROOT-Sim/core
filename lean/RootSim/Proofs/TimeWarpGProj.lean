import RootSim.Proofs.TimeWarpGProgress
/-! The instrumented machine (`Model/TimeWarpG.lean`) is a RESTRICTION of the content-level machine
(`Model/TimeWarp.lean`): erasing the ghost fields maps every step to a step, up to the order in which the
two bags (`pending`, `antis`) are kept as lists (erasing the first occurrence of a tagged message and
erasing the first occurrence of its content may remove different positions). The content-level machine
itself is insensitive to that order (`step_bagEq`). Hence every reachable state of the instrumented
machine projects onto a reachable state of the content-level machine with the same histories and the same
bags (`proj_reachable`). The converse is false under V2 (`Props/C01GlueV2.lean`). -/
namespace RootSim.TWG
open RootSim RootSim.Spec RootSim.TW List

variable {σ : Type}

/-- equality of content-level states up to the order of the two bags -/
def BagEq (t t' : TWState) : Prop :=
  t.past = t'.past ∧ t.pending.Perm t'.pending ∧ t.antis.Perm t'.antis

theorem BagEq.refl (t : TWState) : BagEq t t := ⟨rfl, List.Perm.refl _, List.Perm.refl _⟩

theorem BagEq.symm {t t' : TWState} (h : BagEq t t') : BagEq t' t := ⟨h.1.symm, h.2.1.symm, h.2.2.symm⟩

theorem BagEq.trans {t t' t'' : TWState} (h : BagEq t t') (h' : BagEq t' t'') : BagEq t t'' :=
  ⟨h.1.trans h'.1, h.2.1.trans h'.2.1, h.2.2.trans h'.2.2⟩

/-- the content-level machine does not depend on the order of its bags -/
theorem step_bagEq {M : SimModel σ} {t₁ t₁' t₂ : TWState} (h : TW.Step M t₁ t₁') (e : BagEq t₁ t₂) :
    ∃ t₂', TW.Step M t₂ t₂' ∧ BagEq t₁' t₂' := by
  obtain ⟨hpa, hpe, han⟩ := e
  cases h with
  | exec ℓ e h T hmem hdest hℓ htype hpast =>
    refine ⟨TW.execResult M t₂ ℓ e h T,
      TW.Step.exec t₂ ℓ e h T (hpe.mem_iff.mp hmem) hdest hℓ htype (by rw [← hpa]; exact hpast), ?_, ?_, ?_⟩
    · show upd t₁.past ℓ _ = upd t₂.past ℓ _
      rw [hpa]
    · exact ((hpe.erase e).append_right _).append_right _
    · exact han.append_right _
  | annihilate o hp ha =>
    exact ⟨TW.annihilateResult t₂ o, TW.Step.annihilate t₂ o (hpe.mem_iff.mp hp) (han.mem_iff.mp ha),
      hpa, hpe.erase o, han.erase o⟩
  | antiRollback ℓ o K U ha hpast hK =>
    refine ⟨TW.antiRollbackResult M t₂ ℓ o K U,
      TW.Step.antiRollback t₂ ℓ o K U (han.mem_iff.mp ha) (by rw [← hpa]; exact hpast) hK, ?_, ?_, ?_⟩
    · show upd t₁.past ℓ _ = upd t₂.past ℓ _
      rw [hpa]
    · exact hpe.append_right _
    · exact (han.erase o).append_right _

theorem map_erase_perm {α β : Type} [DecidableEq α] [DecidableEq β] (f : α → β) {l : List α} {m : α}
    (h : m ∈ l) : ((l.map f).erase (f m)).Perm ((l.erase m).map f) := by
  have h1 : (l.map f).Perm (f m :: (l.erase m).map f) := (List.perm_cons_erase h).map f
  have h2 : (l.map f).Perm (f m :: (l.map f).erase (f m)) :=
    List.perm_cons_erase (List.mem_map_of_mem h)
  exact List.Perm.cons_inv (h2.symm.trans h1)

theorem upd_comp {α β : Type} (f : α → β) (D : Nat → α) (i : Nat) (v : α) :
    (fun j => f (upd D i v j)) = upd (fun j => f (D j)) i (f v) := by
  funext j
  unfold upd
  split <;> rfl

theorem proj_past_apply (s : TWGState) (ℓ : Nat) : (proj s).past ℓ = evs (s.past ℓ) := rfl

theorem step_proj {M : SimModel σ} {s s' : TWGState} (h : TWG.Step M s s') :
    ∃ t', TW.Step M (proj s) t' ∧ BagEq t' (proj s') := by
  cases h with
  | exec ℓ m h T hmem hdest hℓ htype hpast =>
    refine ⟨TW.execResult M (proj s) ℓ m.ev h.ev (evs T),
      TW.Step.exec (proj s) ℓ m.ev h.ev (evs T) (List.mem_map_of_mem hmem) hdest hℓ htype
        (by rw [proj_past_apply, hpast]; rfl), ?_, ?_, ?_⟩
    · show upd _ ℓ _ = fun ℓ' => evs (upd s.past ℓ _ ℓ')
      rw [upd_comp evs, evs_append, evs_keepG]; rfl
    · show ((s.pending.map TMsg.ev).erase m.ev ++ undoOf m.ev (evs T) ++
          (M.handler ℓ (lpState M ℓ (keepOf m.ev h.ev (evs T))) m.ev).2).Perm
        ((s.pending.erase m ++ (undoG m.ev T).map TEntry.msg ++
          (M.handler ℓ (lpState M ℓ (evs (keepG m.ev h T))) m.ev).2.map
            (fun o => ({ ev := o, cr := s.now } : TMsg))).map TMsg.ev)
      rw [List.map_append, List.map_append, map_msg_ev, evs_undoG, evs_keepG, List.map_map]
      have hid : (TMsg.ev ∘ fun o => ({ ev := o, cr := s.now } : TMsg)) = id := rfl
      rw [hid, List.map_id]
      exact ((map_erase_perm TMsg.ev hmem).append_right _).append_right _
    · show (s.antis.map TMsg.ev ++
          outsFrom M ℓ (lpState M ℓ (keepOf m.ev h.ev (evs T))) (undoOf m.ev (evs T))).Perm
        ((s.antis ++ toutsFrom M ℓ (lpState M ℓ (evs (keepG m.ev h T))) (undoG m.ev T)).map TMsg.ev)
      rw [List.map_append, toutsFrom_ev, evs_undoG, evs_keepG]
  | annihilate m hp ha =>
    refine ⟨TW.annihilateResult (proj s) m.ev,
      TW.Step.annihilate (proj s) m.ev (List.mem_map_of_mem hp) (List.mem_map_of_mem ha), rfl, ?_, ?_⟩
    · exact map_erase_perm TMsg.ev hp
    · exact map_erase_perm TMsg.ev ha
  | antiRollback ℓ o K U ha hpast hK =>
    refine ⟨TW.antiRollbackResult M (proj s) ℓ o.ev (evs K) (evs U),
      TW.Step.antiRollback (proj s) ℓ o.ev (evs K) (evs U)
        (List.mem_map_of_mem (f := TMsg.ev) ha)
        (by rw [proj_past_apply, hpast, evs_append]; rfl)
        (by intro h0; apply hK; exact List.map_eq_nil_iff.mp h0), ?_, ?_, ?_⟩
    · show upd _ ℓ _ = fun ℓ' => evs (upd s.past ℓ _ ℓ')
      rw [upd_comp evs]; rfl
    · show (s.pending.map TMsg.ev ++ evs U).Perm ((s.pending ++ U.map TEntry.msg).map TMsg.ev)
      rw [List.map_append, map_msg_ev]
    · show ((s.antis.map TMsg.ev).erase o.ev ++
          outsFrom M ℓ (lpState M ℓ (evs K)) (o.ev :: evs U)).Perm
        ((s.antis.erase o.msg ++ toutsFrom M ℓ (lpState M ℓ (evs K)) (o :: U)).map TMsg.ev)
      rw [List.map_append, toutsFrom_ev, evs_cons]
      exact (map_erase_perm TMsg.ev ha).append_right _

theorem proj_init (M : SimModel σ) : proj (TWG.init M) = TW.init M := by
  have hp : (fun ℓ => evs (TWG.initPast M ℓ)) = TW.initPast M := by
    funext ℓ
    unfold TWG.initPast TW.initPast
    split <;> rfl
  show ({ past := fun ℓ => evs (TWG.initPast M ℓ),
          pending := (toutsAll M (TWG.initPast M)).map TMsg.ev, antis := [] } : TWState) = _
  rw [toutsAll_ev, hp]; rfl

/-- **Refinement.** Every reachable state of the instrumented machine, with the ghost fields erased, is
(up to the order of the bags) a reachable state of the content-level machine. -/
theorem proj_reachable {M : SimModel σ} {s : TWGState} (hr : TWG.Reachable M s) :
    ∃ t, TW.Reachable M t ∧ BagEq t (proj s) := by
  induction hr with
  | init => exact ⟨TW.init M, TW.Reachable.init, by rw [proj_init]; exact BagEq.refl _⟩
  | step _ hs ih =>
    obtain ⟨t, htr, hte⟩ := ih
    obtain ⟨t', hst, he'⟩ := step_proj hs
    obtain ⟨t'', hst', he''⟩ := step_bagEq hst hte.symm
    exact ⟨t'', TW.Reachable.step htr hst', he''.symm.trans he'⟩

end RootSim.TWG
