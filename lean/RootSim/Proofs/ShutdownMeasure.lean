import RootSim.Proofs.Shutdown
/-!
# Progress measure for the shutdown path (C08, part (i)) — all thread counts

For the variants WITHOUT `closeFix` (the pinned drain), after termination has been decided, every step of a
thread that changes the state strictly decreases `measure`, provided a GVT computation is recognised as
finished (`zeroFix`, or no time-stamp-0 message is queued). The measure is a sum of per-thread distances:
every thread runs through a straight-line program (rest of the loop iteration, flush loop, two
barriers, two forced GVT computations, barrier, `lp_fini`, barrier), and every guard only delays it.
-/
namespace RootSim.Shutdown

/-- remaining state-changing calls of `gvt_phase_run` until the current GVT computation is over for this thread,
counted backwards from the end of `gvt_node_phase_run`'s cycle: `node_done` 1 (back to idle, 0); the two waits
before it 2; `min_reduce` 3; the second reduction 4–7, one call per thread phase D, C, B, A (leaving D enters
`min_reduce`); `sent_wait` 8, `sent_reduce_wait` 9, `sent_reduce` 10 (it goes to 9 or straight to 8); the first
reduction 11–14. So `rho ≤ 14`. An idle thread is in no computation: 0 (idle in `redux_second` does not occur,
any value up to 14 would do there). -/
def rho (t : Th) : Nat :=
  match t.nph with
  | .done => 1 | .minReduceWait => 2 | .minWait => 2 | .minReduce => 3
  | .reduxSecond => (match t.tph with | .D => 4 | .C => 5 | .B => 6 | .A => 7 | .idle => 7)
  | .sentWait => 8 | .sentReduceWait => 9 | .sentReduce => 10
  | .reduxFirst => (match t.tph with | .D => 11 | .C => 12 | .B => 13 | .A => 14 | .idle => 0)

/-- the count for a forced round of the drain, which ends when `gvt_phase_run` REPORTS a finished computation: that
is the call made at `rho = 2` (the step into `node_done`), so inside a computation the count is `rho` itself and
the report comes at 2. A left-over `node_done` has its report behind it: one call back to idle, one to join
the forced computation (`psi` of an idle thread = 1 + that of the thread in phase A), then 14 down to 2:
16 = 14 + 2. Hence `psiA ≤ 16`, `psi ≤ 17`. -/
def psiA (t : Th) : Nat := if t.nph = .done then 16 else rho t
def psi (t : Th) : Nat := if t.tph = .idle then 1 + psiA { t with tph := .A } else psiA t

/-- distance of a thread from the end of `worker_thread_fini`, built backwards along the straight-line program:
every place gets one more than the largest value of the place that follows it.
`done` 0, last barrier 1 / 2 (inside / arriving), `lp_fini` 3, the barrier before it 4 / 5.
Second forced round `5 + psi`: a call that does not report lowers `psi`, the reporting one (`psi ≥ 2`) goes to 5.
First forced round `21 + psi`: the reporting call (`psi ≥ 2`) enters the second round with a fresh `psi ≤ 17`, and
21 is the least `c` with `5 + 17 < c + 2`. Second barrier of the drain 39 / 40 (`39 > 21 + 17`), first 41 / 42.
Flush loop `43 + rho`: every call lowers `rho`, an idle thread leaves for 42; so at most 57. Loop head `60 + rho`:
above the flush loop at the same `rho`, where the head sends the thread after the trigger. Loop body 80, above
`60 + 14`: whatever its `gvt_phase_run` call does, the thread is back at the head. -/
def dist (t : Th) : Nat :=
  match t.pc with
  | .done => 0
  | .barWait k => if 3 ≤ k then 1 else if k = 2 then 4 else if k = 1 then 39 else 41
  | .barArrive k => if 3 ≤ k then 2 else if k = 2 then 5 else if k = 1 then 40 else 42
  | .lpfini => 3
  | .forced k => (if k = 0 then 21 else 5) + psi t
  | .flush => 43 + rho t
  | .head => 60 + rho t
  | .body => 80

/-- the sum of the distances, and one more while a time-stamp-0 message is queued: the only other action that
changes the state after the trigger, `zero`, clears `zq` and moves no thread -/
def measure (s : St) : Nat := 2 * (s.ths.map dist).sum + (if s.zq then 1 else 0)

theorem sum_map_set_lt {α : Type} (f : α → Nat) (l : List α) (i : Nat) (a a' : α) (h : l[i]? = some a)
    (hlt : f a' < f a) : ((l.set i a').map f).sum < (l.map f).sum := by
  induction l generalizing i with
  | nil => cases h
  | cons x xs ih =>
    cases i with
    | zero =>
      cases h
      simp only [List.set_cons_zero, List.map_cons, List.sum_cons]; omega
    | succ i =>
      have := ih i h
      simp only [List.set_cons_succ, List.map_cons, List.sum_cons]; omega

theorem rho_le (t : Th) : rho t ≤ 14 := by
  unfold rho
  split
  all_goals try split
  all_goals decide

theorem psiA_le (t : Th) : psiA t ≤ 16 := by
  unfold psiA; split
  · exact Nat.le_refl _
  · have := rho_le t; omega

theorem psi_le (t : Th) : psi t ≤ 17 := by
  unfold psi; split
  · have := psiA_le { t with tph := .A }; omega
  · have := psiA_le t; omega

theorem psi_of_ne_idle {t : Th} (h : t.tph ≠ .idle) : psi t = psiA t := if_neg h

theorem ite_ind {α : Type} {P : α → Prop} {c : Prop} [Decidable c] {a b : α} (ha : P a) (hb : P b) :
    P (if c then a else b) := by
  split <;> assumption

/-! ### What a call of `gvt_phase_run` does: a spin, or one step along the cycle that `rho` and `psi` count -/

/-- what it leaves alone (as far as the measure and the `lp_fini` count are concerned): the other threads, `zq`,
`nodes_to_end`, and where the calling thread is -/
def GvtFrame (s s1 : St) (t t1 : Th) : Prop :=
  s1.ths = s.ths ∧ s1.zq = s.zq ∧ s1.nodesToEnd = s.nodesToEnd ∧ t1.pc = t.pc ∧ t1.fini = t.fini

theorem GvtFrame.refl (s : St) (t : Th) : GvtFrame s s t t := ⟨rfl, rfl, rfl, rfl, rfl⟩

/-- what `gvt_thread_phase_run` may do: a spin, or one phase forward; it reports `true` on leaving phase D -/
def ThreadStep (s : St) (t : Th) : St × Th × Bool → Prop
  | (s1, t1, r) => GvtFrame s s1 t t1 ∧
    ((s1, t1, r) = (s, t, false) ∨
     ∃ p, t1 = { t with tph := p } ∧
      (t.tph = .A ∧ p = .B ∧ r = false ∨ t.tph = .B ∧ p = .C ∧ r = false ∨
       t.tph = .C ∧ p = .D ∧ r = false ∨ t.tph = .D ∧ p = .idle ∧ r = true))

theorem threadPhase_cases (s : St) (t : Th) : ThreadStep s t (threadPhase s t) := by
  unfold threadPhase
  split
  case h_5 => exact ⟨.refl s t, Or.inl rfl⟩  -- `idle`
  all_goals exact ite_ind ⟨.refl s t, Or.inl rfl⟩ ⟨⟨rfl, rfl, rfl, rfl, rfl⟩, Or.inr ⟨_, rfl, by simp [*]⟩⟩

/-- what `gvt_node_phase_run` may do to a thread in a computation: the frame holds, and it is a spin or a step on
which `rho` decreases; as long as it does not report completion `psi` decreases too, and it reports completion
only from the last two waiting states (`psi = 2`) -/
def NodeStep (s : St) (t : Th) : St × Th × Bool → Prop
  | (s1, t1, r) => GvtFrame s s1 t t1 ∧
    ((s1, t1, r) = (s, t, false) ∨ (rho t1 < rho t ∧ (r = true → 2 ≤ psi t) ∧ (r = false → psi t1 < psi t)))

theorem NodeStep.spin (s : St) (t : Th) : NodeStep s t (s, t, false) := ⟨.refl s t, Or.inl rfl⟩

theorem nodePhase_cases {s : St} {t : Th} (hni : t.tph ≠ .idle) : NodeStep s t (nodePhase s t) := by
  unfold nodePhase
  split
  case h_1 hn | h_2 hn =>  -- `reduxFirst`, `reduxSecond`
    rcases hx : threadPhase s t with ⟨s', t', r'⟩
    obtain ⟨hf, hc⟩ := hx ▸ threadPhase_cases s t
    rcases hc with hsp | ⟨p, rfl, hp⟩
    · cases hsp; exact .spin s t
    · rcases hp with ⟨ha, rfl, rfl⟩ | ⟨ha, rfl, rfl⟩ | ⟨ha, rfl, rfl⟩ | ⟨ha, rfl, rfl⟩
      all_goals exact ⟨hf, Or.inr (by simp [rho, psi, psiA, hn, ha, NPh.next])⟩
  case h_3 hn =>  -- `sentReduce`
    exact ite_ind (.spin s t) (ite_ind ⟨⟨rfl, rfl, rfl, rfl, rfl⟩, Or.inr (by simp [rho, psi, psiA, hn, hni])⟩
      ⟨⟨rfl, rfl, rfl, rfl, rfl⟩, Or.inr (by simp [rho, psi, psiA, hn, hni])⟩)
  case h_4 hn =>  -- `sentReduceWait`
    exact ⟨⟨rfl, rfl, rfl, rfl, rfl⟩, Or.inr (by simp [rho, psi, psiA, hn, hni])⟩
  case h_5 hn =>  -- `sentWait`: `rho` of the second reduction depends on the thread phase
    exact ite_ind (.spin s t) ⟨⟨rfl, rfl, rfl, rfl, rfl⟩,
      Or.inr (by cases ht : t.tph <;> simp [rho, psi, psiA, hn, ht] at hni ⊢)⟩
  case h_6 hn =>  -- `minReduce`
    exact ite_ind ⟨⟨rfl, rfl, rfl, rfl, rfl⟩, Or.inr (by simp [rho, psi, psiA, hn, hni])⟩
      ⟨⟨rfl, rfl, rfl, rfl, rfl⟩, Or.inr (by simp [rho, psi, psiA, hn, hni])⟩
  case h_7 hn | h_8 hn =>  -- `minReduceWait`, `minWait`
    exact ite_ind (.spin s t) ⟨⟨rfl, rfl, rfl, rfl, rfl⟩, Or.inr (by simp [rho, psi, psiA, hn, hni])⟩
  case h_9 hn =>  -- `done`
    refine ⟨⟨?_, ?_, ?_, rfl, rfl⟩, Or.inr (by simp [rho, psi, psiA, hn, hni])⟩ <;> split <;> rfl

/-- what `gvt_phase_run` may do: the frame holds, and it is a spin; or an idle thread joins / starts a computation;
or the computation advances. `psi` counts the calls until completion is reported only if a finished computation
is recognised as such (`zeroFix`, or no time-stamp-0 message is queued). -/
def GvtStep (v : Variant) (s : St) (t : Th) : St × Th × Bool → Prop
  | (s1, t1, got) => GvtFrame s s1 t t1 ∧
    ((s1, t1, got) = (s, t, false) ∨
     ((t.tph ≠ .idle → rho t1 < rho t) ∧ (got = true → 2 ≤ psi t) ∧
      (got = false → v.zeroFix = true ∨ s.zq = false → psi t1 < psi t)))

theorem gvtPhaseRun_cases (v : Variant) (s : St) (i : Nat) (t : Th) (tm : Bool) :
    GvtStep v s t (gvtPhaseRun v s i t tm) := by
  unfold gvtPhaseRun
  split
  next hni =>
    rcases hx : nodePhase s t with ⟨s', t', r⟩
    obtain ⟨hf, hc⟩ := hx ▸ nodePhase_cases (s := s) hni
    rcases hc with hsp | ⟨h1, h2, h3⟩
    · cases hsp; exact ⟨hf, Or.inl rfl⟩
    · refine ⟨hf, Or.inr ⟨fun _ => h1, fun hg => h2 ?_, fun hg hz => h3 ?_⟩⟩
      · exact (Bool.and_eq_true _ _ ▸ hg).1
      · have hz' : (v.zeroFix || !s.zq) = true := by rcases hz with hz | hz <;> simp [hz]
        rw [hz', Bool.and_true] at hg; exact hg
  next hi =>
    have hi : t.tph = .idle := Decidable.not_not.mp hi
    have hjoin : psi { t with tph := .A } < psi t := by simp [psi, hi]
    have hA : ∀ s1, GvtFrame s s1 t { t with tph := .A } → GvtStep v s t (s1, { t with tph := .A }, false) :=
      fun s1 hf => ⟨hf, Or.inr ⟨fun h => absurd hi h, nofun, fun _ _ => hjoin⟩⟩
    split
    · exact ite_ind (hA _ ⟨rfl, rfl, rfl, rfl, rfl⟩) (hA _ ⟨rfl, rfl, rfl, rfl, rfl⟩)
    · exact ite_ind (hA _ ⟨rfl, rfl, rfl, rfl, rfl⟩) ⟨.refl s t, Or.inl rfl⟩

theorem setTh_self (s : St) (i : Nat) (t : Th) (h : s.ths[i]? = some t) : setTh s i t = s := by
  obtain ⟨hi, hg⟩ := List.getElem?_eq_some_iff.mp h
  unfold setTh
  rw [← hg, List.set_getElem_self hi]

/-- what a step of thread `i` (= `t` in `s`) may do for the measure to decrease: nothing; or move thread `i` to a
state of strictly smaller distance, leaving the other threads and `zq` alone and not increasing `nodes_to_end` -/
def DistStep (s : St) (i : Nat) (t : Th) (s' : St) : Prop :=
  s' = s ∨ ∃ s1 t1, s' = setTh s1 i t1 ∧ s1.ths = s.ths ∧ s1.zq = s.zq ∧
    s1.nodesToEnd ≤ s.nodesToEnd ∧ dist t1 < dist t

theorem DistStep.refl (s : St) (i : Nat) (t : Th) : DistStep s i t s := Or.inl rfl

theorem DistStep.set {s s1 : St} {i : Nat} {t t1 : Th} (h1 : s1.ths = s.ths) (h2 : s1.zq = s.zq)
    (h3 : s1.nodesToEnd ≤ s.nodesToEnd) (hlt : dist t1 < dist t) : DistStep s i t (setTh s1 i t1) :=
  Or.inr ⟨s1, t1, rfl, h1, h2, h3, hlt⟩

theorem DistStep.move {s : St} {i : Nat} {t t1 : Th} (hlt : dist t1 < dist t) : DistStep s i t (setTh s i t1) :=
  .set rfl rfl (Int.le_refl _) hlt

/-- **Per-thread progress**: after the trigger (pinned drain), every step of a thread is of this kind. -/
theorem runTh_dist (v : Variant) (hcf : v.closeFix = false) (s : St) (htr : triggered s = true)
    (hz : v.zeroFix = true ∨ s.zq = false) (i : Nat) (t : Th) (tm vo : Bool) (ht : s.ths[i]? = some t) :
    DistStep s i t (runTh v s i t tm vo) := by
  have hnte : ¬ s.nodesToEnd > 0 := by
    simp only [triggered, decide_eq_true_eq] at htr; omega
  unfold runTh
  split
  next hpc =>  -- `head`
    refine .move ?_
    simp only [dist, hpc, hnte, if_false, rho]; omega
  next hpc =>  -- `body`: whatever `gvt_phase_run` does, the thread is back at the loop head
    rcases he : gvtPhaseRun v s i t tm with ⟨s1, t1, got⟩
    obtain ⟨⟨h1, h2, h3, _⟩, _⟩ := he ▸ gvtPhaseRun_cases v s i t _
    have hd : ∀ u : Th, u.pc = .head → dist u < dist t := fun u hu => by
      have := rho_le u
      simp only [dist, hpc, hu]; omega
    refine ite_ind (.set ?_ ?_ ?_ (hd _ rfl)) (.set h1 h2 (by omega) (hd _ rfl))
    · split <;> exact h1
    · split <;> exact h2
    · split
      · show s1.nodesToEnd - 1 ≤ _; omega
      · show s1.nodesToEnd ≤ _; omega
  next hpc =>  -- `flush`
    rw [if_neg (by rw [hcf]; exact Bool.false_ne_true)]
    by_cases hni : t.tph ≠ .idle
    · rw [if_pos hni]
      rcases he : gvtPhaseRun v s i t tm with ⟨s1, t1, got⟩
      obtain ⟨⟨h1, h2, h3, h4, _⟩, hc⟩ := he ▸ gvtPhaseRun_cases v s i t _
      rcases hc with hsp | ⟨hlt, _⟩
      · cases hsp; exact Or.inl (setTh_self s i t ht)
      · refine .set h1 h2 (by omega) ?_
        have := hlt hni
        simp only [dist, hpc, h4]; omega
    · rw [if_neg hni]
      refine .move ?_
      simp only [dist, hpc]
      show 42 < 43 + rho t
      omega
  next k hpc =>  -- `barArrive k`
    refine .move ?_
    simp only [dist, hpc]
    match k with
    | 0 | 1 | 2 => decide
    | k + 3 => simp only [Nat.le_add_left, if_true]; decide
  next k hpc =>  -- `barWait k`
    refine ite_ind (.move ?_) (.refl s i t)
    have := psi_le { t with pc := .forced 0 }
    match k with
    | 0 | 2 => simp [dist, hpc, afterBarrier]
    | 1 => simp [dist, hpc, afterBarrier]; omega
    | k + 3 => simp [dist, hpc, afterBarrier]
  next k hpc =>  -- `forced k`: `psi` decreases until `gvt_phase_run` reports completion, which it does from `psi ≥ 2`
    rcases he : gvtPhaseRun v s i t true with ⟨s1, t1, got⟩
    obtain ⟨⟨h1, h2, h3, h4, _⟩, hc⟩ := he ▸ gvtPhaseRun_cases v s i t _
    rcases hc with hsp | ⟨_, hgot, hnot⟩
    · cases hsp; exact Or.inl (setTh_self s i t ht)
    · refine .set h1 h2 (by omega) ?_
      cases got
      · have := hnot rfl hz
        simp only [Bool.false_eq_true, if_false, dist, hpc, h4]; omega
      · have := hgot rfl
        have := psi_le { t1 with pc := .forced 1 }
        by_cases hk : k = 0 <;> simp [dist, hpc, hk] <;> omega
  next hpc =>  -- `lpfini`
    refine .move ?_
    simp only [dist, hpc]
    decide
  next => exact .refl s i t  -- `done`

theorem measure_setTh (s s1 : St) (i : Nat) (t t1 : Th) (ht : s.ths[i]? = some t) (h1 : s1.ths = s.ths)
    (h2 : s1.zq = s.zq) (hlt : dist t1 < dist t) : measure (setTh s1 i t1) < measure s := by
  have := sum_map_set_lt dist s.ths i t t1 ht hlt
  simp only [measure, setTh, h1, h2]; omega

/-- **(i) Progress measure, all thread counts** (variants without `closeFix`; `RootsimStop` is not called again):
after the trigger every step either leaves the state unchanged or strictly decreases `measure`; the
side conditions are stable. -/
theorem step_measure (v : Variant) (hcf : v.closeFix = false) (s : St) (htr : triggered s = true)
    (hz : v.zeroFix = true ∨ s.zq = false) (a : Act) (hns : ∀ i, a ≠ .stop i) :
    step v s a = s ∨
    (measure (step v s a) < measure s ∧ triggered (step v s a) = true ∧
      (v.zeroFix = true ∨ (step v s a).zq = false) ∧ (step v s a).n = s.n) := by
  cases a with
  | stop i => exact absurd rfl (hns i)
  | zero =>
    simp only [step]
    split
    · cases hzq : s.zq
      · left; rw [← hzq]
      · exact Or.inr ⟨by simp [measure, hzq], htr, hz.imp_right fun _ => rfl, rfl⟩
    · exact Or.inl rfl
  | run i tm vo =>
    simp only [step]
    split
    next t ht =>
      rcases runTh_dist v hcf s htr hz i t tm vo ht with h | ⟨s1, t1, he, h1, h2, h3, hlt⟩
      · exact Or.inl h
      · rw [he]
        refine Or.inr ⟨measure_setTh s s1 i t t1 ht h1 h2 hlt, ?_, h2 ▸ hz, ?_⟩
        · simp only [triggered, decide_eq_true_eq] at htr ⊢
          exact Int.le_trans h3 htr
        · simp only [St.n, setTh, h1, List.length_set]
    next => exact Or.inl rfl

theorem step_side (v : Variant) (hcf : v.closeFix = false) (s : St) (htr : triggered s = true)
    (hz : v.zeroFix = true ∨ s.zq = false) (a : Act) (hns : ∀ i, a ≠ .stop i) :
    triggered (step v s a) = true ∧ (v.zeroFix = true ∨ (step v s a).zq = false) ∧ (step v s a).n = s.n := by
  rcases step_measure v hcf s htr hz a hns with h | h
  · rw [h]; exact ⟨htr, hz, rfl⟩
  · exact h.2

/-! ### `LP_FINI` exactly once (all variants, all thread counts) -/

/-- the number of times `lp_fini()` has run at each program point: once iff the thread is past it; `none` for
barrier numbers that do not occur -/
def finiAt : Pc → Option Nat
  | .barArrive k | .barWait k => if k < 3 then some 0 else if k = 3 then some 1 else none
  | .done => some 1
  | _ => some 0

def finiOk (t : Th) : Prop := finiAt t.pc = some t.fini

/-- every thread of `s'` is a thread of `s` or satisfies the invariant: what a step of a thread that satisfies it
does to the list of threads -/
def FiniStep (s s' : St) : Prop := ∀ u ∈ s'.ths, u ∈ s.ths ∨ finiOk u

theorem FiniStep.refl (s : St) : FiniStep s s := fun _ hu => Or.inl hu

theorem FiniStep.set {s s1 : St} {i : Nat} {t1 : Th} (h1 : s1.ths = s.ths) (hok : finiOk t1) :
    FiniStep s (setTh s1 i t1) := by
  intro u hu
  rcases List.mem_or_eq_of_mem_set hu with hu | rfl
  · exact Or.inl (h1 ▸ hu)
  · exact Or.inr hok

/-- the thread as `gvt_phase_run` leaves it is at the same program point with the same count -/
theorem FiniStep.gvt {v : Variant} {s s1 : St} {i : Nat} {t t1 : Th} {tm got : Bool}
    (he : gvtPhaseRun v s i t tm = (s1, t1, got)) (hok : finiOk t) : FiniStep s (setTh s1 i t1) := by
  obtain ⟨⟨h1, _, _, h4, h6⟩, _⟩ := he ▸ gvtPhaseRun_cases v s i t _
  exact .set h1 (by unfold finiOk; rw [h4, h6]; exact hok)

theorem runTh_finiOk (v : Variant) (s : St) (i : Nat) (t : Th) (tm vo : Bool) (hok : finiOk t) :
    FiniStep s (runTh v s i t tm vo) := by
  unfold finiOk at hok
  unfold runTh
  split
  next hpc =>  -- `head`
    refine .set rfl ?_
    rw [hpc] at hok
    show finiAt (if _ then _ else _) = _
    split <;> exact hok
  next hpc =>  -- `body`
    rcases he : gvtPhaseRun v s i t tm with ⟨s1, t1, got⟩
    obtain ⟨⟨h1, _, _, _, h6⟩, _⟩ := he ▸ gvtPhaseRun_cases v s i t _
    have hhead : finiAt .head = some t1.fini := by rw [hpc] at hok; rw [h6]; exact hok
    exact ite_ind (.set (by split <;> exact h1) hhead) (.set h1 hhead)
  next hpc =>  -- `flush`: in every variant a call of `gvt_phase_run`, a spin, or on to the first barrier
    have hexit : FiniStep s (setTh s i { t with pc := .barArrive 0 }) :=
      .set rfl (by rw [hpc] at hok; exact hok)
    have hexit' : FiniStep s (setTh { s with closed := true } i { t with pc := .barArrive 0 }) :=
      .set rfl (by rw [hpc] at hok; exact hok)
    rcases he : gvtPhaseRun v s i t false with ⟨s1, t1, got⟩
    rcases he' : gvtPhaseRun v s i t tm with ⟨s1', t1', got'⟩
    refine ite_ind (ite_ind ?_ ?_) ?_
    · -- `closeFix`, thread 0: finish the own round; else wait while a round is open anywhere; else close, go on
      exact ite_ind (.gvt he hok) (ite_ind (.refl s) hexit')
    · -- `closeFix`, the other threads: take part in rounds until thread 0 has closed; then go on
      exact ite_ind (.gvt he hok) hexit
    · -- pinned drain: `while(thread_phase != idle) gvt_phase_run();`, then go on
      exact ite_ind (.gvt he' hok) hexit
  next k hpc =>  -- `barArrive k`
    refine .set rfl ?_
    rw [hpc] at hok; exact hok
  next k hpc =>  -- `barWait k`
    rw [hpc] at hok
    refine ite_ind (.set rfl ?_) (.refl s)
    show finiAt (afterBarrier k) = some t.fini
    match k with
    | 0 | 1 | 2 | 3 => exact hok
    | k + 4 => simp [finiAt] at hok; omega
  next k hpc =>  -- `forced k`
    rcases he : gvtPhaseRun v s i t true with ⟨s1, t1, got⟩
    obtain ⟨⟨h1, _, _, h4, h6⟩, _⟩ := he ▸ gvtPhaseRun_cases v s i t _
    refine .set h1 ?_
    rw [hpc] at hok
    unfold finiOk
    split
    · show finiAt (if k = 0 then _ else _) = some t1.fini
      rw [h6]
      split <;> exact hok
    · rw [h4, hpc, h6]; exact hok
  next hpc =>  -- `lpfini`
    refine .set rfl ?_
    rw [hpc] at hok
    show some 1 = some (t.fini + 1)
    rw [← Option.some.inj hok]
  next => exact .refl s  -- `done`

theorem step_finiOk (v : Variant) (s : St) (a : Act) (h : ∀ t ∈ s.ths, finiOk t) : ∀ t ∈ (step v s a).ths, finiOk t := by
  cases a with
  | stop i =>
    simp only [step]
    split
    · split <;> exact h
    · exact h
  | zero => simp only [step]; split <;> exact h
  | run i tm vo =>
    simp only [step]
    split
    next t ht =>
      intro u hu
      rcases runTh_finiOk v s i t tm vo (h t (List.mem_of_getElem? ht)) u hu with hu | hu
      · exact h u hu
      · exact hu
    next => exact h

theorem reach_finiOk (v : Variant) (n : Nat) (zq : Bool) (s : St) (h : Reach v n zq s) : ∀ t ∈ s.ths, finiOk t := by
  induction h with
  | init =>
    intro t ht
    rw [List.eq_of_mem_replicate ht]; rfl
  | step a _ ih => exact step_finiOk v _ a ih

theorem final_finiOnce (s : St) (h : ∀ t ∈ s.ths, finiOk t) (hf : final s = true) : finiOnce s = true := by
  simp only [final, List.all_eq_true, beq_iff_eq] at hf
  simp only [finiOnce, List.all_eq_true, beq_iff_eq]
  intro t ht
  have := h t ht
  unfold finiOk at this
  rw [hf t ht] at this
  exact (Option.some.inj this).symm

end RootSim.Shutdown
