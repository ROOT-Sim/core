import RootSim.Model.Refine
import RootSim.Proofs.LPSorted
/-! Lemmas about ONE step of the complete LP step function (`Model/LPFull.lean`): forward execution, rollback, the backward
scans, the dispatch as a relation (`StepCase`), preservation of the invariants, definedness.
Runs (sequences of steps) are in `Proofs/LPFullRun.lean`; the property statements in `Props/C06LP.lean`. -/
namespace RootSim.LPFull
open RootSim RootSim.LP

variable {σ : Type}

theorem outEntries_not_past (remote : Nat → Bool) (alloc : Nat → Nat) :
    ∀ (evs : List Event) (k : Nat), ∀ e ∈ outEntries remote alloc k evs, e.isPast = false
  | [], _, _, he => nomatch he
  | x :: xs, k, e, he => by
    rw [outEntries, List.mem_cons] at he
    rcases he with rfl | he
    · split <;> rfl
    · exact outEntries_not_past remote alloc xs (k + 1) e he

theorem pastMsgs_of_not_past (l : List Entry) (hl : ∀ e ∈ l, e.isPast = false) : pastMsgs l = [] :=
  List.filterMap_eq_nil_iff.mpr fun e he => by
    cases e with
    | past m => exact Bool.noConfusion (hl _ he)
    | _ => rfl

theorem pastMsgs_outEntries (remote : Nat → Bool) (alloc : Nat → Nat) (evs : List Event) (k : Nat) :
    pastMsgs (outEntries remote alloc k evs) = [] :=
  pastMsgs_of_not_past _ (outEntries_not_past remote alloc evs k)

theorem pastMsgs_mem {l : List Entry} {x : Nat} : x ∈ pastMsgs l ↔ Entry.past x ∈ l := by
  unfold pastMsgs
  rw [List.mem_filterMap]
  constructor
  · rintro ⟨e, he, hx⟩
    cases e <;> cases hx
    exact he
  · exact fun hx => ⟨_, hx, rfl⟩

theorem outEntries_local (alloc : Nat → Nat) : ∀ (evs : List Event) (k : Nat),
    outEntries (fun _ => false) alloc k evs = ((List.range' k evs.length).map alloc).map Entry.sent
  | [], _ => rfl
  | e :: es, k => by
    simp [outEntries, outEntries_local alloc es (k + 1), List.range'_succ]

/-- with no remote destination `stepFwd` is `LP.forward` (outputs numbered by the allocator) -/
theorem stepFwd_eq_forward (h : σ → Event → σ × List Event) (alloc : Nat → Nat) (s : St σ) (m : Nat) (e : Event) :
    (stepFwd h (fun _ => false) alloc s m e).1.lp =
      (forward h s.lp m e ((List.range (h s.lp.st e).2.length).map alloc)).1 := by
  simp [stepFwd, forward, outEntries_local, List.range_eq_range']

theorem stepFwd_hist (h : σ → Event → σ × List Event) (remote : Nat → Bool) (alloc : Nat → Nat) (s : St σ) (m : Nat) (e : Event) :
    (stepFwd h remote alloc s m e).1.lp.hist =
      s.lp.hist ++ outEntries remote alloc 0 (h s.lp.st e).2 ++ [Entry.past m] := rfl

theorem stepFwd_pastMsgs (h : σ → Event → σ × List Event) (remote : Nat → Bool) (alloc : Nat → Nat) (s : St σ) (m : Nat) (e : Event) :
    pastMsgs (stepFwd h remote alloc s m e).1.lp.hist = pastMsgs s.lp.hist ++ [m] := by
  rw [stepFwd_hist, pastMsgs_append, pastMsgs_append, pastMsgs_outEntries, List.append_nil]; rfl

theorem stepFwd_early (h : σ → Event → σ × List Event) (remote : Nat → Bool) (alloc : Nat → Nat) (s : St σ) (m : Nat) (e : Event) :
    (stepFwd h remote alloc s m e).1.earlyAntis = s.earlyAntis := rfl

variable {h : σ → Event → σ × List Event} {ev : Nat → Event} {init : σ} {base : List Nat}

theorem stepFwd_linv (remote : Nat → Bool) (alloc : Nat → Nat) {s : St σ} (hI : LInv h ev init base s.lp) (m : Nat) :
    LInv h ev init base (stepFwd h remote alloc s m (ev m)).1.lp := by
  refine ⟨fun x hx => ?_, hI.sorted, ?_⟩
  · obtain ⟨h1, h2⟩ := hI.log_ok x hx
    rw [stepFwd_hist, List.append_assoc, List.take_append_of_le_length h1]
    exact ⟨by rw [List.length_append]; omega, h2⟩
  · rw [stepFwd_pastMsgs, ← List.append_assoc, replay_append, ← hI.st_ok]
    rfl

/-- pushing a processed message that is not before any kept one keeps the history sorted (generalises `forward_sorted`) -/
theorem sinv_push (look : Nat → Msg) (lp lp' : LPState σ) (m t : Nat) (hI : SInv look lp)
    (hp : pastMsgs lp'.hist = pastMsgs lp.hist ++ [m]) (hb : lp'.bound = some t)
    (hl : lp'.hist.getLast? = some (.past m))
    (hnb : ∀ x ∈ pastMsgs lp.hist, isBefore (look m) (look x) = false)
    (hwf : (look m).WF) (ht : (look m).destT = t) : SInv look lp' := by
  have hmem : ∀ x ∈ pastMsgs lp'.hist, x ∈ pastMsgs lp.hist ∨ x = m := fun x hx => by
    rw [hp] at hx; simpa using hx
  refine ⟨?_, fun x hx => ⟨t, hb, ?_⟩, fun e' he' => ?_, fun x hx => ?_⟩
  · unfold Sorted; rw [hp, List.pairwise_append]
    refine ⟨hI.sorted, List.pairwise_singleton _ _, fun a ha b hb => ?_⟩
    cases List.mem_singleton.mp hb
    exact hnb a ha
  · rcases hmem x hx with h1 | rfl
    · -- a kept message with a later time stamp would be after `m`
      have := hnb x h1
      by_cases hlt : (look m).destT < (look x).destT
      · rw [isBefore_of_lt _ _ hlt] at this; exact Bool.noConfusion this
      · omega
    · omega
  · rw [hl] at he'; cases he'; rfl
  · rcases hmem x hx with h1 | rfl
    · exact hI.wf x h1
    · exact hwf

/-- what a successful `doRollback … lp k c` returns: the LP `lp'` and the actions `racts` -/
structure Rolled (h : σ → Event → σ × List Event) (ev : Nat → Event) (init : σ) (base : List Nat) (lp : LPState σ) (k : Nat)
    (c : Option Nat) (lp' : LPState σ) (racts : List Action) : Prop where
  hist : lp'.hist = lp.hist.take k
  bound : lp'.bound = lp.bound
  st : lp'.st = replay h ev init (base ++ pastMsgs (lp.hist.take k))
  linv : LInv h ev init base lp'
  acts : ∃ (ref : Nat) (sil : List (Nat × Nat)), racts = undoActions c (lp.hist.drop k) ++ [Action.rollback k ref] ++
      sil.map (fun im => Action.silent im.1 im.2) ++ [Action.rollbackDone k]

theorem doRollback_spec {lp lp' : LPState σ} {i : Nat} {c : Option Nat} {acts : List Action}
    (hI : LInv h ev init base lp) (hd : doRollback h ev lp i c = some (lp', acts)) :
    Rolled h ev init base lp i c lp' acts := by
  unfold doRollback at hd
  split at hd
  · cases hd
  · rename_i o ho
    obtain ⟨h1, h2, h3, h4⟩ := rollback_spec hI ho
    split at hd
    · cases hd
    · cases hd
      exact ⟨h1, (rollback_some ho).2.2, h3, h4, o.ref, o.silent, by rw [h2]⟩

/-! ### projections of the actions of a rollback

`frees`, `unprocs`, `antis` (and `Refine.sends`) are `filterMap`s: each ignores the rollback markers and the silent
re-executions, so on the actions of a rollback it sees `send_anti_messages` only. -/

theorem frees_append (a b : List Action) : frees (a ++ b) = frees a ++ frees b := List.filterMap_append
theorem unprocs_append (a b : List Action) : unprocs (a ++ b) = unprocs a ++ unprocs b := List.filterMap_append
theorem antis_append (a b : List Action) : antis (a ++ b) = antis a ++ antis b := List.filterMap_append

theorem filterMap_silent {β : Type} (g : Action → Option β) (hg : ∀ i m, g (.silent i m) = none) (sil : List (Nat × Nat)) :
    (sil.map (fun im => Action.silent im.1 im.2)).filterMap g = [] :=
  List.filterMap_eq_nil_iff.mpr fun a ha => by
    obtain ⟨im, _, rfl⟩ := List.mem_map.mp ha
    exact hg _ _

theorem frees_silent (sil : List (Nat × Nat)) : frees (sil.map (fun im => Action.silent im.1 im.2)) = [] :=
  filterMap_silent _ (fun _ _ => rfl) sil
theorem unprocs_silent (sil : List (Nat × Nat)) : unprocs (sil.map (fun im => Action.silent im.1 im.2)) = [] :=
  filterMap_silent _ (fun _ _ => rfl) sil
theorem antis_silent (sil : List (Nat × Nat)) : antis (sil.map (fun im => Action.silent im.1 im.2)) = [] :=
  filterMap_silent _ (fun _ _ => rfl) sil

theorem filterMap_rollbackActs {β : Type} (g : Action → Option β) (h1 : ∀ i r, g (.rollback i r) = none)
    (h2 : ∀ i m, g (.silent i m) = none) (h3 : ∀ i, g (.rollbackDone i) = none) (U : List Action) (i ref : Nat)
    (sil : List (Nat × Nat)) :
    (U ++ [Action.rollback i ref] ++ sil.map (fun im => Action.silent im.1 im.2) ++ [Action.rollbackDone i]).filterMap g =
      U.filterMap g := by
  simp only [List.filterMap_append, filterMap_silent g h2, List.filterMap_cons, List.filterMap_nil, h1, h3, List.append_nil]

theorem frees_undo (c : Option Nat) : ∀ es : List Entry, frees (undoActions c es) = []
  | [] => rfl
  | .past _ :: es | .sent _ :: es | .rsent _ :: es => frees_undo c es

theorem unprocs_undo (c : Option Nat) : ∀ es : List Entry,
    unprocs (undoActions c es) = (pastMsgs es).map (fun m => (m, c == some m))
  | [] => rfl
  | .past m :: es => congrArg ((m, c == some m) :: ·) (unprocs_undo c es)
  | .sent _ :: es | .rsent _ :: es => unprocs_undo c es

theorem antis_undo (c : Option Nat) : ∀ es : List Entry, antis (undoActions c es) = es.filter Entry.isSent
  | [] => rfl
  | .past _ :: es => antis_undo c es
  | .sent m :: es => congrArg (Entry.sent m :: ·) (antis_undo c es)
  | .rsent m :: es => congrArg (Entry.rsent m :: ·) (antis_undo c es)

section
variable {lp lp' : LPState σ} {k : Nat} {c : Option Nat} {racts : List Action}

theorem Rolled.frees (r : Rolled h ev init base lp k c lp' racts) : frees racts = [] := by
  obtain ⟨ref, sil, rfl⟩ := r.acts
  exact (filterMap_rollbackActs _ (fun _ _ => rfl) (fun _ _ => rfl) (fun _ => rfl) _ k ref sil).trans (frees_undo c _)

theorem Rolled.unprocs (r : Rolled h ev init base lp k c lp' racts) :
    unprocs racts = (pastMsgs (lp.hist.drop k)).map (fun m => (m, c == some m)) := by
  obtain ⟨ref, sil, rfl⟩ := r.acts
  exact (filterMap_rollbackActs _ (fun _ _ => rfl) (fun _ _ => rfl) (fun _ => rfl) _ k ref sil).trans (unprocs_undo c _)

theorem Rolled.antis (r : Rolled h ev init base lp k c lp' racts) : antis racts = (lp.hist.drop k).filter Entry.isSent := by
  obtain ⟨ref, sil, rfl⟩ := r.acts
  exact (filterMap_rollbackActs _ (fun _ _ => rfl) (fun _ _ => rfl) (fun _ => rfl) _ k ref sil).trans (antis_undo c _)

end

theorem fixBound_linv {lp : LPState σ} (hI : LInv h ev init base lp) : LInv h ev init base (fixBound lp) :=
  ⟨hI.log_ok, hI.sorted, hI.st_ok⟩

theorem fixBound_sinv {look : Nat → Msg} {lp : LPState σ} (hI : SInv look lp) : SInv look (fixBound lp) := by
  refine ⟨hI.sorted, fun m hm => ?_, hI.last_past, hI.wf⟩
  obtain ⟨b, hb, hle⟩ := hI.bound_ok m hm
  have hne : lp.hist.isEmpty = false := by
    cases hh : lp.hist with
    | nil => rw [show (fixBound lp).hist = lp.hist from rfl, hh] at hm; cases hm
    | cons a as => rfl
  exact ⟨b, by simp [fixBound, hne, hb], hle⟩

/-- `SInv` of a concrete state, from checks that evaluation decides -/
theorem SInv.of_checks {look : Nat → Msg} {lp : LPState σ} (b : Nat) (hb : lp.bound = some b)
    (hs : (pastMsgs lp.hist).Pairwise (fun x y => isBefore (look y) (look x) = false))
    (hle : ∀ m ∈ pastMsgs lp.hist, (look m).destT ≤ b ∧ (look m).WF)
    (hl : lp.hist.getLast?.all Entry.isPast = true) : SInv look lp :=
  ⟨hs, fun m hm => ⟨b, hb, (hle m hm).1⟩, fun e he => by rw [he] at hl; exact hl, fun m hm => (hle m hm).2⟩

theorem scanBack_append_false {α : Type} (p : α → Bool) : ∀ (pre rest : List α), (∀ y ∈ pre, p y = false) →
    scanBack p (pre ++ rest) = scanBack p rest
  | [], _, _ => rfl
  | a :: as, rest, hp => by
    rw [List.cons_append, scanBack, if_neg (by rw [hp a (List.mem_cons_self ..)]; exact Bool.false_ne_true)]
    exact scanBack_append_false p as rest (fun y hy => hp y (List.mem_cons_of_mem _ hy))

theorem scanBack_rev_hit {α : Type} (p : α → Bool) (A : List α) (x : α) (B : List α)
    (hx : p x = true) (hB : ∀ y ∈ B, p y = false) : scanBack p (A ++ x :: B).reverse = A.length + 1 := by
  rw [List.reverse_append, List.reverse_cons, List.append_assoc,
    scanBack_append_false p _ _ (fun y hy => hB y (List.mem_reverse.mp hy))]
  simp [scanBack, hx]

theorem scanBack_rev_none {α : Type} (p : α → Bool) (l : List α) (hl : ∀ y ∈ l, p y = false) :
    scanBack p l.reverse = 0 := by
  have := scanBack_append_false p l.reverse [] (fun y hy => hl y (List.mem_reverse.mp hy))
  rwa [List.append_nil] at this

theorem scanBack_le {α : Type} (p : α → Bool) : ∀ (l : List α), scanBack p l ≤ l.length
  | [] => Nat.le_refl 0
  | a :: as => by
    rw [scanBack]
    split
    · exact Nat.le_refl _
    · exact Nat.le_succ_of_le (scanBack_le p as)

theorem split_trailing_sent : ∀ (l : List Entry), ∃ A G, l = A ++ G ∧ (∀ g ∈ G, g.isPast = false) ∧
    Refine.EndsPast A
  | [] => ⟨[], [], rfl, nofun, nofun⟩
  | x :: l => by
    obtain ⟨A, G, rfl, hG, hA⟩ := split_trailing_sent l
    cases A with
    | nil =>
      cases hx : x.isPast with
      | true => exact ⟨[x], G, rfl, hG, fun e he => by cases he; exact hx⟩
      | false => exact ⟨[], x :: G, rfl, List.forall_mem_cons.mpr ⟨hx, hG⟩, nofun⟩
    | cons a A' => exact ⟨x :: a :: A', G, rfl, hG, fun e he => hA e (by rwa [List.getLast?_cons_cons] at he)⟩

theorem scanBack_isPast (A G : List Entry) (hG : ∀ g ∈ G, g.isPast = false)
    (hA : Refine.EndsPast A) : scanBack Entry.isPast (A ++ G).reverse = A.length := by
  rw [List.reverse_append, scanBack_append_false _ _ _ (fun y hy => hG y (List.mem_reverse.mp hy))]
  rcases List.eq_nil_or_concat A with rfl | ⟨A0, e, rfl⟩
  · rfl
  · rw [List.concat_eq_append] at hA ⊢
    simp [scanBack, hA e (by simp)]

/-- the history around a processed message `x`: `G` holds the sent entries of `x`'s own execution (the group `[sent* past x]`),
`A` is what a rollback to the start of that group keeps, `B` what follows `x` -/
structure Around (hist A G : List Entry) (x : Nat) (B : List Entry) : Prop where
  eq : hist = A ++ G ++ Entry.past x :: B
  sent : ∀ g ∈ G, g.isPast = false
  ends : Refine.EndsPast A

section
variable {hist A G B : List Entry} {x : Nat}

theorem Around.take (a : Around hist A G x B) : hist.take A.length = A := by
  rw [a.eq, List.append_assoc, List.take_left']; rfl

theorem Around.drop (a : Around hist A G x B) : hist.drop A.length = G ++ Entry.past x :: B := by
  rw [a.eq, List.append_assoc, List.drop_left']; rfl

theorem Around.getElem? (a : Around hist A G x B) : hist[(A ++ G).length]? = some (Entry.past x) := by
  rw [a.eq, List.getElem?_append_right (Nat.le_refl _), Nat.sub_self]; rfl

theorem Around.groupStart (a : Around hist A G x B) : groupStart hist (A ++ G).length = A.length := by
  unfold LPFull.groupStart
  rw [a.eq, List.take_left' rfl, scanBack_isPast A G a.sent a.ends]

theorem Around.pastMsgs (a : Around hist A G x B) : pastMsgs hist = pastMsgs A ++ x :: pastMsgs B := by
  rw [a.eq, pastMsgs_append, pastMsgs_append, pastMsgs_of_not_past G a.sent, List.append_nil]; rfl

theorem Around.pastMsgs_drop (a : Around hist A G x B) : LP.pastMsgs (hist.drop A.length) = x :: LP.pastMsgs B := by
  rw [a.drop, pastMsgs_append, pastMsgs_of_not_past G a.sent]; rfl

theorem Around.undone (a : Around hist A G x B) (hB : Entry.past x ∉ B) :
    (LP.pastMsgs (hist.drop A.length)).map (fun y => (y, some x == some y)) =
      (x, true) :: (LP.pastMsgs B).map (fun y => (y, false)) ∧
    (hist.drop A.length).filter Entry.isSent = G ++ B.filter Entry.isSent := by
  constructor
  · rw [a.pastMsgs_drop, List.map_cons, beq_self_eq_true]
    refine congrArg ((x, true) :: ·) (List.map_congr_left fun y hy => ?_)
    have : x ≠ y := fun hxy => hB (hxy ▸ pastMsgs_mem.mp hy)
    simp [this]
  · rw [a.drop, List.filter_append, List.filter_eq_self.mpr fun g hg => by simp [Entry.isSent, a.sent g hg]]
    rfl

theorem around_of_last {A0 : List Entry} (hh : hist = A0 ++ Entry.past x :: B) :
    ∃ A G, A0 = A ++ G ∧ Around hist A G x B := by
  obtain ⟨A, G, rfl, hG, hA⟩ := split_trailing_sent A0
  exact ⟨A, G, rfl, hh, hG, hA⟩

end

/-- a rollback to the start of the group of the processed message `x`, with `x` marked as cancelled; `pre`, `post`: what the
branch does around it (nothing there is un-processed or cancelled) -/
theorem Rolled.around {lp lp' : LPState σ} {A G B : List Entry} {x : Nat} {racts : List Action}
    (r : Rolled h ev init base lp A.length (some x) lp' racts) (a : Around lp.hist A G x B) (hB : Entry.past x ∉ B)
    (pre post : List Action) (hpre : LPFull.unprocs pre = [] ∧ LPFull.antis pre = [])
    (hpost : LPFull.unprocs post = [] ∧ LPFull.antis post = []) :
    lp'.hist = A ∧ lp'.st = replay h ev init (base ++ pastMsgs A) ∧
    LPFull.unprocs (pre ++ racts ++ post) = (x, true) :: (pastMsgs B).map (fun y => (y, false)) ∧
    LPFull.antis (pre ++ racts ++ post) = G ++ B.filter Entry.isSent := by
  obtain ⟨u1, u2⟩ := a.undone hB
  refine ⟨r.hist.trans a.take, by rw [r.st, a.take], ?_, ?_⟩
  · rw [unprocs_append, unprocs_append, hpre.1, hpost.1, r.unprocs, u1, List.append_nil]; rfl
  · rw [antis_append, antis_append, hpre.2, hpost.2, r.antis, u2, List.append_nil]; rfl

theorem groupStart_spec (hist : List Entry) (i : Nat) :
    ∃ A G, hist.take i = A ++ G ∧ (∀ g ∈ G, g.isPast = false) ∧ Refine.EndsPast A ∧
      groupStart hist i = A.length := by
  obtain ⟨A, G, hAG, hG, hA⟩ := split_trailing_sent (hist.take i)
  exact ⟨A, G, hAG, hG, hA, by unfold groupStart; rw [hAG, scanBack_isPast A G hG hA]⟩

/-- `match_anti_msg`, for any history: `none` iff the message is not a processed entry; otherwise the start of the group of its
LAST processed entry -/
theorem matchAnti_spec (hist : List Entry) (m : Nat) :
    (matchAnti hist m = none ∧ Entry.past m ∉ hist) ∨
    ∃ A G B, Around hist A G m B ∧ Entry.past m ∉ B ∧ matchAnti hist m = some A.length := by
  unfold matchAnti findPast
  rcases scanBack_rev_spec (fun e => e == Entry.past m) hist with ⟨h0, hall⟩ | ⟨A0, y, B, hl, hB, hy, hk⟩
  · exact Or.inl ⟨by simp only [h0, if_true], fun hm => by simpa using hall _ hm⟩
  · cases eq_of_beq hy
    obtain ⟨A, G, rfl, a⟩ := around_of_last hl
    refine Or.inr ⟨A, G, B, a, fun hm => by simpa using hB _ hm, ?_⟩
    simp only [hk, Nat.add_one_ne_zero, if_false, Nat.add_sub_cancel]
    exact congrArg some a.groupStart

theorem unlinkFirst_none (p : Nat → Bool) : ∀ (l : List Nat), unlinkFirst p l = none ↔ ∀ a ∈ l, p a = false
  | [] => by simp [unlinkFirst]
  | a :: as => by
    rw [unlinkFirst, List.forall_mem_cons, ← unlinkFirst_none p as]
    cases p a <;> cases unlinkFirst p as <;> simp

/-- `check_early_anti_messages` removes exactly one entry: the first one (from the head) that matches; every other entry stays,
in the same order -/
theorem unlinkFirst_some (p : Nat → Bool) : ∀ (l : List Nat) (a : Nat) (r : List Nat), unlinkFirst p l = some (a, r) →
    ∃ l1 l2, l = l1 ++ a :: l2 ∧ r = l1 ++ l2 ∧ p a = true ∧ ∀ b ∈ l1, p b = false
  | [], _, _, hu => nomatch hu
  | x :: xs, a, r, hu => by
    rw [unlinkFirst] at hu
    split at hu
    · rename_i hx
      cases hu
      exact ⟨[], xs, rfl, rfl, hx, nofun⟩
    · rename_i hx
      split at hu
      · rename_i y r' hr
        cases hu
        obtain ⟨l1, l2, rfl, rfl, h3, h4⟩ := unlinkFirst_some p xs _ _ hr
        exact ⟨x :: l1, l2, rfl, rfl, h3, List.forall_mem_cons.mpr ⟨by simpa using hx, h4⟩⟩
      · cases hu

theorem unlinkFirst_of_split (p : Nat → Bool) (l1 l2 : List Nat) (a : Nat) (ha : p a = true) (h1 : ∀ b ∈ l1, p b = false) :
    unlinkFirst p (l1 ++ a :: l2) = some (a, l1 ++ l2) := by
  induction l1 with
  | nil => simp [unlinkFirst, ha]
  | cons x xs ih =>
    obtain ⟨hx, hxs⟩ := List.forall_mem_cons.mp h1
    simp [unlinkFirst, hx, ih hxs]

/-- (id word, m_seq) of a message as seen through a snapshot -/
def keyAt (look : Nat → Msg) (x : Nat) : Nat × Nat := ((look x).rawFlags, (look x).mSeq)

theorem remoteHit_iff (look : Nat → Msg) (mId seq : Nat) (e : Entry) :
    remoteHit look mId seq e = true ↔ ∃ x, e = Entry.past x ∧ keyAt look x = (mId, seq) := by
  cases e <;> simp [remoteHit, Entry.isPast, Entry.msg, keyAt]

theorem remoteHit_false {look : Nat → Msg} {mId seq x : Nat} :
    remoteHit look mId seq (Entry.past x) = false ↔ keyAt look x ≠ (mId, seq) := by
  rw [Ne, ← Bool.not_eq_true, remoteHit_iff]; simp

theorem earlyHit_iff (look : Nat → Msg) (mId seq a : Nat) :
    earlyHit look mId seq a = true ↔ keyAt look a = (mId, seq) := by
  simp [earlyHit, keyAt]

theorem earlyHit_false_iff (look : Nat → Msg) (mId seq a : Nat) :
    earlyHit look mId seq a = false ↔ keyAt look a ≠ (mId, seq) := by
  rw [Ne, ← earlyHit_iff]; simp

/-- the first loop of `handle_remote_anti_msg`, for any history: 0 iff no processed entry carries the key; otherwise the index
(+ 1) of the LAST one that does -/
theorem findRemote_spec (look : Nat → Msg) (hist : List Entry) (mId seq : Nat) :
    (findRemote look hist mId seq = 0 ∧ ∀ x ∈ pastMsgs hist, keyAt look x ≠ (mId, seq)) ∨
    ∃ A G x B, Around hist A G x B ∧ keyAt look x = (mId, seq) ∧ (∀ y, Entry.past y ∈ B → keyAt look y ≠ (mId, seq)) ∧
      findRemote look hist mId seq = (A ++ G).length + 1 := by
  unfold findRemote
  rcases scanBack_rev_spec (remoteHit look mId seq) hist with ⟨h0, hall⟩ | ⟨A0, y, B, hl, hB, hy, hk⟩
  · exact Or.inl ⟨h0, fun x hx => remoteHit_false.mp (hall _ (pastMsgs_mem.mp hx))⟩
  · obtain ⟨x, rfl, hx⟩ := (remoteHit_iff look mId seq y).mp hy
    obtain ⟨A, G, rfl, a⟩ := around_of_last hl
    exact Or.inr ⟨A, G, x, B, a, hx, fun y hy => remoteHit_false.mp (hB _ hy), hk⟩

theorem findRemote_zero {look : Nat → Msg} {hist : List Entry} {mId seq : Nat}
    (h0 : findRemote look hist mId seq = 0) : ∀ x ∈ pastMsgs hist, keyAt look x ≠ (mId, seq) := by
  rcases findRemote_spec look hist mId seq with ⟨_, hall⟩ | ⟨A, G, x, B, _, _, _, hk⟩
  · exact hall
  · omega

theorem findRemote_zero_of {look : Nat → Msg} {hist : List Entry} {mId seq : Nat}
    (hall : ∀ x ∈ pastMsgs hist, keyAt look x ≠ (mId, seq)) : findRemote look hist mId seq = 0 := by
  rcases findRemote_spec look hist mId seq with ⟨h0, _⟩ | ⟨A, G, x, B, a, hx, _, _⟩
  · exact h0
  · exact absurd hx (hall x (by rw [a.pastMsgs]; simp))

/-- the message `me` the straggler test of this step compares -/
def meOf (look : Nat → Msg) (m f : Nat) : Msg := { look m with rawFlags := f + 2 }

theorem meOf_eq {look : Nat → Msg} {m f : Nat} (hf : (look m).rawFlags = f + 2) : meOf look m f = look m := by
  unfold meOf; rw [← hf]

theorem straggler_kept_not_before {look : Nat → Msg} {lp : LPState σ} (hI : SInv look lp) (sm : Msg) (hwf : sm.WF) :
    ∀ x ∈ pastMsgs (lp.hist.take (matchStraggler look lp.hist sm)), isBefore sm (look x) = false := by
  have hsub := pastMsgs_take_sub lp.hist (matchStraggler look lp.hist sm)
  cases hl : (lp.hist.take (matchStraggler look lp.hist sm)).getLast? with
  | none => rw [List.getLast?_eq_none_iff.mp hl]; nofun
  | some e =>
    obtain ⟨hp, hnb⟩ := matchStraggler_last hl
    exact not_before_all (hI.sorted.sublist hsub) (fun x hx => hI.wf x (hsub.subset hx)) hwf hl hp hnb

theorem isStraggler_true {look : Nat → Msg} {lp : LPState σ} {sm : Msg} (hs : isStraggler look lp sm = true) :
    ∃ last, lp.hist.getLast? = some last ∧ isBefore sm (look last.msg) = true := by
  unfold isStraggler at hs
  split at hs
  · rename_i b last hb hl
    simp only [Bool.and_eq_true] at hs
    exact ⟨last, hl, hs.2⟩
  · cases hs

theorem not_straggler_last {look : Nat → Msg} {lp : LPState σ} {sm : Msg} (hS : SInv look lp)
    (hs : isStraggler look lp sm = false) {last : Entry} (hl : lp.hist.getLast? = some last) :
    isBefore sm (look last.msg) = false := by
  have hlp := hS.last_past last hl
  obtain ⟨b, hb, hle⟩ := hS.bound_ok last.msg (getLast?_past_mem _ _ hl hlp)
  unfold isStraggler at hs
  rw [hb, hl] at hs
  simp only [Bool.and_eq_false_iff, decide_eq_false_iff_not] at hs
  rcases hs with h1 | h1
  · exact not_before_of_lt _ _ (by omega)
  · exact h1

theorem not_straggler_not_before {look : Nat → Msg} {lp : LPState σ} (hI : SInv look lp) (sm : Msg) (hwf : sm.WF)
    (hs : isStraggler look lp sm = false) : ∀ x ∈ pastMsgs lp.hist, isBefore sm (look x) = false := by
  cases hl : lp.hist.getLast? with
  | none => rw [List.getLast?_eq_none_iff.mp hl]; nofun
  | some last => exact not_before_all hI.sorted hI.wf hwf hl (hI.last_past last hl) (not_straggler_last hI hs hl)

/-- the well-formedness invariant of one LP: `LInv` (the LP state and every checkpoint are the deterministic re-execution of the
corresponding history prefix; checkpoint log sorted and inside the history — `Proofs/LP.lean`) and `SInv` (processed messages
sorted by the event order, `bound` an upper bound of their time stamps, history layout `[sent* past]*`, i.e. it ends with a
processed message — `Proofs/LPSorted.lean`) -/
structure WF (h : σ → Event → σ × List Event) (ev : Nat → Event) (look : Nat → Msg) (init : σ) (base : List Nat)
    (s : St σ) : Prop where
  linv : LInv h ev init base s.lp
  sinv : SInv look s.lp

/-- One `process_msg` call, branch by branch: `StepCase … s m f k s' acts` says which branch the call took (with what decided
it), which abstract action it is (`k`, see `Refine.kindOf`), and what it returned. Where an anti-message meets its processed
message the history is split around that message (`Around`). -/
inductive StepCase (h : σ → Event → σ × List Event) (ev : Nat → Event) (look : Nat → Msg) (remote : Nat → Bool)
    (alloc : Nat → Nat) (s : St σ) (m f : Nat) : Refine.Kind → St σ → List Action → Prop
  /-- remote anti-message, no processed event carries its (id, seq): parked -/
  | park (hodd : f % 2 = 1) (hf : 3 < f) (h0 : findRemote look s.lp.hist (f + 1) (look m).mSeq = 0) :
      StepCase h ev look remote alloc s m f .park { lp := fixBound s.lp, earlyAntis := m :: s.earlyAntis } [.earlyPark m]
  /-- remote anti-message; `x` is the last processed event with its (id, seq) -/
  | remoteAnti {A G B : List Entry} {x : Nat} {lp' : LPState σ} {racts : List Action}
      (hd : doRollback h ev s.lp A.length (some x) = some (lp', racts)) (a : Around s.lp.hist A G x B)
      (hx : keyAt look x = (f + 1, (look m).mSeq)) (hB : ∀ y, Entry.past y ∈ B → keyAt look y ≠ (f + 1, (look m).mSeq))
      (hodd : f % 2 = 1) (hf : 3 < f)
      (hfind : findRemote look s.lp.hist (f + 1) (look m).mSeq = (A ++ G).length + 1) :
      StepCase h ev look remote alloc s m f (.antiRollback x) { s with lp := fixBound lp' }
        (.markAnti x :: racts ++ [.termRollback (ev x).t, .free x, .free m])
  /-- local anti-message of a processed message -/
  | localAnti {A G B : List Entry} {lp' : LPState σ} {racts : List Action}
      (hd : doRollback h ev s.lp A.length (some m) = some (lp', racts)) (a : Around s.lp.hist A G m B)
      (hB : Entry.past m ∉ B) (hf : f = 3) :
      StepCase h ev look remote alloc s m f (.antiRollback m) { s with lp := fixBound lp' }
        (racts ++ [.termRollback (ev m).t, .antiDiscard m f, .free m])
  /-- local anti-message of a message not processed yet -/
  | discard (hf : f = 1) :
      StepCase h ev look remote alloc s m f .annihilate { s with lp := fixBound s.lp } [.antiDiscard m f, .free m]
  /-- remote event annihilated by the parked anti-message `b` -/
  | earlyMatch {l1 l2 : List Nat} {b : Nat} (hl : s.earlyAntis = l1 ++ b :: l2) (hb : keyAt look b = (f + 2, (look m).mSeq))
      (hl1 : ∀ c ∈ l1, keyAt look c ≠ (f + 2, (look m).mSeq)) (hev : f % 2 = 0) (hf : f ≠ 0) :
      StepCase h ev look remote alloc s m f .annihilate { s with earlyAntis := l1 ++ l2 } [.earlyMatch m b, .free m, .free b]
  /-- ordinary message, a straggler: rollback, then forward execution -/
  | straggler {lp' : LPState σ} {racts : List Action}
      (hd : doRollback h ev s.lp (matchStraggler look s.lp.hist (meOf look m f)) none = some (lp', racts))
      (hst : isStraggler look s.lp (meOf look m f) = true) (hev : f % 2 = 0)
      (hno : f = 0 ∨ ∀ c ∈ s.earlyAntis, keyAt look c ≠ (f + 2, (look m).mSeq)) :
      StepCase h ev look remote alloc s m f .exec (stepFwd h remote alloc { s with lp := lp' } m (ev m)).1
        (racts ++ [.termRollback (meOf look m f).destT] ++ (stepFwd h remote alloc { s with lp := lp' } m (ev m)).2)
  /-- ordinary message in time-stamp order: forward execution -/
  | inOrder (hst : isStraggler look s.lp (meOf look m f) = false) (hev : f % 2 = 0)
      (hno : f = 0 ∨ ∀ c ∈ s.earlyAntis, keyAt look c ≠ (f + 2, (look m).mSeq)) :
      StepCase h ev look remote alloc s m f .exec (stepFwd h remote alloc s m (ev m)).1 (stepFwd h remote alloc s m (ev m)).2

/-! the flag word selects the branches: odd and `> 3` (remote anti-message), 3 or 1 (local anti-message), even (event) -/

theorem not_even_of_odd {f : Nat} (h1 : f % 2 = 1) (h0 : f % 2 = 0) : False := by omega

theorem not_local_of_gt {f : Nat} (h3 : 3 < f) (hf : f = 3 ∨ f = 1) : False := by omega

theorem odd_of_local {f : Nat} (hf : f = 3 ∨ f = 1) : f % 2 = 1 := by rcases hf with rfl | rfl <;> rfl

theorem flag_cases (f : Nat) : (f % 2 = 1 ∧ 3 < f) ∨ f = 3 ∨ f = 1 ∨ f % 2 = 0 := by
  rcases Nat.mod_two_eq_zero_or_one f with h0 | h1
  · exact .inr (.inr (.inr h0))
  · match f, h1 with
    | 1, _ => exact .inr (.inr (.inl rfl))
    | 3, _ => exact .inr (.inl rfl)
    | n + 4, h => exact .inl ⟨h, Nat.lt_of_lt_of_le (by decide : 3 < 4) (Nat.le_add_left 4 n)⟩

/-- **every step is one of the seven cases, or leaves defined behaviour**: `step` is `none` only where a rollback has no
checkpoint to go to (or would read behind `p_msgs`), or where `match_anti_msg` looks for a message that is not in the history -/
theorem step_total (look : Nat → Msg) (remote : Nat → Bool) (alloc : Nat → Nat) (s : St σ) (m f : Nat) :
    (step h ev look remote alloc s m f = none ∧
      ((∃ k c, doRollback h ev s.lp k c = none) ∨ (f = 3 ∧ Entry.past m ∉ s.lp.hist))) ∨
    ∃ k s' acts, step h ev look remote alloc s m f = some (s', acts) ∧ Refine.kindOf look s m f = k ∧
      StepCase h ev look remote alloc s m f k s' acts := by
  rcases flag_cases f with ⟨hodd, h3⟩ | rfl | rfl | hev
  · rcases findRemote_spec look s.lp.hist (f + 1) (look m).mSeq with ⟨h0, _⟩ | ⟨A, G, x, B, a, hx, hB, hfind⟩
    · refine .inr ⟨_, _, _, ?_, ?_, .park hodd h3 h0⟩
      · simp only [step, stepPre, hodd, gt_iff_lt, h3, if_true, h0, Bool.false_eq_true, if_false]
      · simp only [Refine.kindOf, hodd, gt_iff_lt, h3, if_true, h0]
    · have hk : Refine.kindOf look s m f = .antiRollback x := by
        simp only [Refine.kindOf, hodd, gt_iff_lt, h3, if_true, hfind, Nat.add_one_ne_zero, if_false, Nat.add_sub_cancel,
          a.getElem?, Entry.msg]
      simp only [step, stepPre, hodd, gt_iff_lt, h3, if_true, hfind, Nat.add_one_ne_zero, if_false, Nat.add_sub_cancel,
        a.getElem?, a.groupStart, Entry.msg]
      cases hd : doRollback h ev s.lp A.length (some x) with
      | none => exact .inl ⟨rfl, .inl ⟨_, _, hd⟩⟩
      | some r => exact .inr ⟨_, _, _, rfl, hk, .remoteAnti (lp' := r.1) (racts := r.2) hd a hx hB hodd h3 hfind⟩
  · rcases matchAnti_spec s.lp.hist m with ⟨hnone, hnot⟩ | ⟨A, G, B, a, hB, hk⟩
    · refine .inl ⟨?_, .inr ⟨rfl, hnot⟩⟩
      simp only [step, stepPre, show 3 % 2 = 1 from rfl, gt_iff_lt, Nat.lt_irrefl, if_true, if_false, hnone]
    · simp only [step, stepPre, show 3 % 2 = 1 from rfl, gt_iff_lt, Nat.lt_irrefl, if_true, if_false, hk]
      cases hd : doRollback h ev s.lp A.length (some m) with
      | none => exact .inl ⟨rfl, .inl ⟨_, _, hd⟩⟩
      | some r => exact .inr ⟨_, _, _, rfl, rfl, .localAnti (lp' := r.1) (racts := r.2) hd a hB rfl⟩
  · exact .inr ⟨_, _, _, rfl, rfl, .discard rfl⟩
  · have hodd : ¬ f % 2 = 1 := fun h1 => not_even_of_odd h1 hev
    cases hu : (if f ≠ 0 then unlinkFirst (earlyHit look (f + 2) (look m).mSeq) s.earlyAntis else none) with
    | some ar =>
      have hf0 : f ≠ 0 := fun hf0 => by simp [hf0] at hu
      rw [if_pos hf0] at hu
      obtain ⟨l1, l2, e1, e2, e3, e4⟩ := unlinkFirst_some _ _ ar.1 ar.2 hu
      refine .inr ⟨_, _, _, ?_, ?_, .earlyMatch e1 ((earlyHit_iff ..).mp e3)
        (fun c hc => (earlyHit_false_iff ..).mp (e4 c hc)) hev hf0⟩
      · simp only [step, stepPre, hodd, if_false, if_pos hf0, hu, Bool.false_eq_true, e2]
      · simp only [Refine.kindOf, hodd, if_false, if_pos hf0, hu]
    | none =>
      have hno : f = 0 ∨ ∀ c ∈ s.earlyAntis, keyAt look c ≠ (f + 2, (look m).mSeq) := by
        by_cases hf0 : f = 0
        · exact Or.inl hf0
        · rw [if_pos hf0] at hu
          exact Or.inr fun c hc => (earlyHit_false_iff ..).mp ((unlinkFirst_none _ _).mp hu c hc)
      have hk : Refine.kindOf look s m f = .exec := by simp only [Refine.kindOf, hodd, if_false, hu]
      simp only [step, stepPre, hodd, if_false, hu]
      -- `meOf look m f` is the record the straggler test is written with
      cases hst : isStraggler look s.lp (meOf look m f) with
      | true =>
        simp only [show isStraggler look s.lp { look m with rawFlags := f + 2 } = true from hst, if_true]
        cases hd : doRollback h ev s.lp (matchStraggler look s.lp.hist { look m with rawFlags := f + 2 }) none with
        | none => exact .inl ⟨rfl, .inl ⟨_, _, hd⟩⟩
        | some r => exact .inr ⟨_, _, _, rfl, hk, .straggler (lp' := r.1) (racts := r.2) hd hst hev hno⟩
      | false =>
        simp only [show isStraggler look s.lp { look m with rawFlags := f + 2 } = false from hst, Bool.false_eq_true, if_false]
        exact .inr ⟨_, _, _, rfl, hk, .inOrder hst hev hno⟩

/-- **every defined step is one of the seven cases**; its kind is the one `Refine.kindOf` computes -/
theorem step_case {s s' : St σ} {look : Nat → Msg} {remote : Nat → Bool} {alloc : Nat → Nat} {m f : Nat} {acts : List Action}
    (hs : step h ev look remote alloc s m f = some (s', acts)) :
    ∃ k, Refine.kindOf look s m f = k ∧ StepCase h ev look remote alloc s m f k s' acts := by
  rcases step_total look remote alloc s m f with ⟨hn, _⟩ | ⟨k, s1, a1, he, hk, c⟩
  · rw [hn] at hs; cases hs
  · rw [he] at hs; cases hs
    exact ⟨k, hk, c⟩

/-- the LP state stays the exact re-execution of the remaining processed messages, in EVERY branch (no hypothesis on `look`) -/
theorem step_linv {s s' : St σ} {look : Nat → Msg} {remote : Nat → Bool} {alloc : Nat → Nat} {m f : Nat} {acts : List Action}
    (hI : LInv h ev init base s.lp) (hs : step h ev look remote alloc s m f = some (s', acts)) :
    LInv h ev init base s'.lp := by
  obtain ⟨k, _, c⟩ := step_case hs
  cases c with
  | park | discard => exact fixBound_linv hI
  | remoteAnti hd | localAnti hd => exact fixBound_linv (doRollback_spec hI hd).linv
  | earlyMatch => exact hI
  | straggler hd => exact stepFwd_linv remote alloc (s := { s with lp := _ }) (doRollback_spec hI hd).linv m
  | inOrder => exact stepFwd_linv remote alloc hI m

/-- sortedness / layout / `bound` are preserved by EVERY branch; `look` is the snapshot this step works on. The hypotheses on the
dequeued message itself are needed only when it is going to be processed (`f` even): its buffer holds `pl_size` bytes, the
snapshot shows its time stamp and the flag word right after the `fetch_add` -/
theorem step_sinv {s s' : St σ} {look : Nat → Msg} {remote : Nat → Bool} {alloc : Nat → Nat} {m f : Nat} {acts : List Action}
    (hL : LInv h ev init base s.lp) (hI : SInv look s.lp)
    (hm : f % 2 = 0 → (look m).WF ∧ (look m).destT = (ev m).t ∧ (look m).rawFlags = f + 2)
    (hs : step h ev look remote alloc s m f = some (s', acts)) : SInv look s'.lp := by
  -- forward execution of `m` on top of a sorted `lp'` none of whose processed messages `m` is before
  have fwd : ∀ lp' : LPState σ, f % 2 = 0 → SInv look lp' → (∀ x ∈ pastMsgs lp'.hist, isBefore (look m) (look x) = false) →
      SInv look (stepFwd h remote alloc { s with lp := lp' } m (ev m)).1.lp := fun lp' hev hI' hnb => by
    obtain ⟨hwf, ht, _⟩ := hm hev
    exact sinv_push look lp' _ m (ev m).t hI' (stepFwd_pastMsgs h remote alloc _ m (ev m)) rfl
      (by rw [stepFwd_hist]; simp) hnb hwf ht
  obtain ⟨k, _, c⟩ := step_case hs
  cases c with
  | park | discard => exact fixBound_sinv hI
  | remoteAnti hd a | localAnti hd a =>
    have r := doRollback_spec hL hd
    exact fixBound_sinv (hI.take r.hist r.bound (by rw [r.hist, a.take]; exact a.ends))
  | earlyMatch => exact hI
  | straggler hd _ hev =>
    have r := doRollback_spec hL hd
    refine fwd _ hev (hI.take r.hist r.bound fun e he => (matchStraggler_last (r.hist ▸ he)).1) ?_
    rw [r.hist, meOf_eq (hm hev).2.2]
    exact straggler_kept_not_before hI (look m) (hm hev).1
  | inOrder hst hev =>
    rw [meOf_eq (hm hev).2.2] at hst
    exact fwd s.lp hev hI (not_straggler_not_before hI (look m) (hm hev).1 hst)

theorem filterMap_outActions {β : Type} (g : Action → Option β) (hs : ∀ o e, g (.send o e) = none)
    (hr : ∀ o e, g (.rsend o e) = none) (remote : Nat → Bool) (alloc : Nat → Nat) :
    ∀ (evs : List Event) (k : Nat), (outActions remote alloc k evs).filterMap g = []
  | [], _ => rfl
  | e :: es, k => by
    rw [outActions]
    split <;> simp only [List.filterMap_cons, hs, hr] <;> exact filterMap_outActions g hs hr remote alloc es (k + 1)

theorem filterMap_stepFwd {β : Type} (g : Action → Option β) (hs : ∀ o e, g (.send o e) = none)
    (hr : ∀ o e, g (.rsend o e) = none) (hf : ∀ m i, g (.forward m i) = none) (remote : Nat → Bool) (alloc : Nat → Nat)
    (s : St σ) (m : Nat) (e : Event) : (stepFwd h remote alloc s m e).2.filterMap g = [] := by
  rw [show (stepFwd h remote alloc s m e).2 = outActions remote alloc 0 (h s.lp.st e).2 ++ [.forward m _] from rfl,
    List.filterMap_append, filterMap_outActions g hs hr, List.filterMap_cons, hf]; rfl

theorem frees_stepFwd (remote : Nat → Bool) (alloc : Nat → Nat) (s : St σ) (m : Nat) (e : Event) :
    frees (stepFwd h remote alloc s m e).2 = [] :=
  filterMap_stepFwd _ (fun _ _ => rfl) (fun _ _ => rfl) (fun _ _ => rfl) ..

/-- a uniform summary of one step, for the run-level theorems: the three rollbacks keep a prefix `take k` of the history -/
theorem step_summary {s s' : St σ} {look : Nat → Msg} {remote : Nat → Bool} {alloc : Nat → Nat} {m f : Nat}
    {acts : List Action} (hI : LInv h ev init base s.lp)
    (hs : step h ev look remote alloc s m f = some (s', acts)) :
    -- remote anti-message, parked
    (f % 2 = 1 ∧ 3 < f ∧ findRemote look s.lp.hist (f + 1) (look m).mSeq = 0 ∧
      s'.lp.hist = s.lp.hist ∧ s'.earlyAntis = m :: s.earlyAntis ∧ acts = [.earlyPark m]) ∨
    -- remote anti-message, matched with the processed event `x`
    (f % 2 = 1 ∧ 3 < f ∧ ∃ A G x B, Around s.lp.hist A G x B ∧
      keyAt look x = (f + 1, (look m).mSeq) ∧
      s'.lp.hist = s.lp.hist.take A.length ∧ s'.earlyAntis = s.earlyAntis ∧ frees acts = [x, m]) ∨
    -- local anti-message
    ((f = 3 ∨ f = 1) ∧ ∃ k, s'.lp.hist = s.lp.hist.take k ∧ s'.earlyAntis = s.earlyAntis ∧ frees acts = [m]) ∨
    -- remote event annihilated by the parked anti-message `b`
    (f % 2 = 0 ∧ f ≠ 0 ∧ ∃ b l1 l2, s.earlyAntis = l1 ++ b :: l2 ∧ keyAt look b = (f + 2, (look m).mSeq) ∧
      s'.lp.hist = s.lp.hist ∧ s'.earlyAntis = l1 ++ l2 ∧ acts = [.earlyMatch m b, .free m, .free b]) ∨
    -- ordinary message: processed
    (f % 2 = 0 ∧ (f = 0 ∨ ∀ c ∈ s.earlyAntis, keyAt look c ≠ (f + 2, (look m).mSeq)) ∧ ∃ k,
      pastMsgs s'.lp.hist = pastMsgs (s.lp.hist.take k) ++ [m] ∧ s'.earlyAntis = s.earlyAntis ∧ frees acts = []) := by
  obtain ⟨k, _, c⟩ := step_case hs
  cases c with
  | park hodd hf h0 => exact .inl ⟨hodd, hf, h0, rfl, rfl, rfl⟩
  | @remoteAnti A G B x lp' racts hd a hx _ hodd hf =>
    have r := doRollback_spec hI hd
    refine .inr (.inl ⟨hodd, hf, A, G, x, B, a, hx, r.hist, rfl, ?_⟩)
    rw [frees_append, show frees (Action.markAnti x :: racts) = frees racts from rfl, r.frees]; rfl
  | localAnti hd _ _ hf =>
    have r := doRollback_spec hI hd
    exact .inr (.inr (.inl ⟨.inl hf, _, r.hist, rfl, by rw [frees_append, r.frees]; rfl⟩))
  | discard hf => exact .inr (.inr (.inl ⟨.inr hf, s.lp.hist.length, (List.take_length).symm, rfl, rfl⟩))
  | earlyMatch hl hb _ hev hf => exact .inr (.inr (.inr (.inl ⟨hev, hf, _, _, _, hl, hb, rfl, rfl, rfl⟩)))
  | straggler hd _ hev hno =>
    have r := doRollback_spec hI hd
    refine .inr (.inr (.inr (.inr ⟨hev, hno, _, by rw [stepFwd_pastMsgs]; exact congrArg (pastMsgs · ++ [m]) r.hist, rfl, ?_⟩)))
    rw [frees_append, frees_append, r.frees, frees_stepFwd]; rfl
  | inOrder _ hev hno =>
    exact .inr (.inr (.inr (.inr ⟨hev, hno, s.lp.hist.length, by rw [stepFwd_pastMsgs, List.take_length], rfl,
      frees_stepFwd ..⟩)))

/-- `do_rollback` is defined whenever a checkpoint is not after the target (C13 guarantees one with reference 0 after the first
fossil collection) and the history has its layout: `send_anti_messages` does not run off the end of `p_msgs` -/
theorem doRollback_defined {look : Nat → Msg} {lp : LPState σ} (hI : LInv h ev init base lp) (hS : SInv look lp) (k : Nat)
    (c : Option Nat) (hck : ∃ x ∈ lp.logs, x.1 ≤ k) : ∃ r, doRollback h ev lp k c = some r := by
  obtain ⟨o, ho, _, h2, _⟩ := rollback_exact hI k hck
  have hends : endsWithSent (lp.hist.drop k) = false := by
    unfold endsWithSent
    split
    · rename_i e hl
      have : lp.hist.getLast? = some e := by
        rw [← List.take_append_drop k lp.hist, List.getLast?_append, hl]; rfl
      simp [Entry.isSent, hS.last_past e this]
    · rfl
  unfold doRollback
  rw [ho]
  simp only [h2, hends]
  exact ⟨_, rfl⟩

/-- **the step is defined** (the C code stays within its arrays) in every well-formed state that owns a checkpoint with
reference 0, provided a local anti-message with flag word 3 really has its message in the history (that is the per-message
automaton's invariant `processed_bit_iff_in_history`, C06) -/
theorem step_defined {look : Nat → Msg} {remote : Nat → Bool} {alloc : Nat → Nat} {s : St σ} {m f : Nat}
    (hI : LInv h ev init base s.lp) (hS : SInv look s.lp) (hck : ∃ x ∈ s.lp.logs, x.1 = 0)
    (h3 : f = 3 → Entry.past m ∈ s.lp.hist) : ∃ r, step h ev look remote alloc s m f = some r := by
  rcases step_total look remote alloc s m f with ⟨_, ⟨k, c, hd⟩ | ⟨hf3, hnot⟩⟩ | ⟨_, _, _, he, _⟩
  · obtain ⟨x, hx, h0⟩ := hck
    obtain ⟨r, hr⟩ := doRollback_defined hI hS k c ⟨x, hx, h0 ▸ Nat.zero_le k⟩
    rw [hd] at hr; cases hr
  · exact absurd (h3 hf3) hnot
  · exact ⟨_, he⟩

/-- `check_early_anti_messages`, exactly: wherever the matching anti-message sits in the list, it — and nothing else — is
unlinked, both buffers are released, the LP is otherwise untouched (not even the `bound` fix-up) -/
theorem early_match_exact {look : Nat → Msg} {remote : Nat → Bool} {alloc : Nat → Nat} (s : St σ) (m f b : Nat)
    (l1 l2 : List Nat) (hf : f % 2 = 0) (hf0 : f ≠ 0) (hl : s.earlyAntis = l1 ++ b :: l2)
    (hb : keyAt look b = (f + 2, (look m).mSeq)) (hl1 : ∀ c ∈ l1, keyAt look c ≠ (f + 2, (look m).mSeq)) :
    step h ev look remote alloc s m f =
      some ({ s with earlyAntis := l1 ++ l2 }, [.earlyMatch m b, .free m, .free b]) := by
  have hu : unlinkFirst (earlyHit look (f + 2) (look m).mSeq) s.earlyAntis = some (b, l1 ++ l2) := by
    rw [hl]
    exact unlinkFirst_of_split _ l1 l2 b ((earlyHit_iff ..).mpr hb) (fun c hc => (earlyHit_false_iff ..).mpr (hl1 c hc))
  have hodd : ¬ f % 2 = 1 := by omega
  simp [step, stepPre, hodd, hf0, hu]

end RootSim.LPFull
