import RootSim.Proofs.RandBits
import RootSim.Proofs.Rne
/-!
Helper lemmas for the derived functions of random.c: the shape of the values of `Random()`,
`RandomRange`, `RandomRangeNonUniform`, `1 - Random()`, `Poisson`, `Gamma`, `Zipf`.

The functions that draw are described by `Ret`: what a call returns, by how many raw draws it
advances the caller's generator, and that it fails only where the bits function does.  Its
`bind` rule follows the `do` blocks of the model statement by statement.
-/
namespace RootSim.Rand
open RootSim.Float

/-- The values `Random()` can return: `0.0`, or `M / 2^s` with a normalised 53-bit `M`
(so `2^-64 ≤ value ≤ 1 - 2^-53`). -/
inductive RandVal : FVal → Prop
  | zero : RandVal (.fin 0 0)
  | pos (M s : Nat) : 2 ^ 52 ≤ M → M < 2 ^ 53 → 53 ≤ s → s ≤ 116 → RandVal (.fin (M : Int) s)

/-- a bits function all of whose defined results denote such values -/
def GoodBits (f : BitsFn) : Prop := ∀ u b, u < 2 ^ 64 → f u = .ok b → RandVal (decodeDouble b)

/-- a bits function that is defined for every raw output -/
def Total (f : BitsFn) : Prop := ∀ u, u < 2 ^ 64 → ∃ b, f u = .ok b

theorem decode_zero : decodeDouble 0 = .fin 0 0 := by decide

theorem decode_pattern {u : Nat} (h0 : u ≠ 0) (h64 : u < 2 ^ 64) :
    decodeDouble ((959 + Nat.log2 u) * 2 ^ 52 + mantOf u) =
      .fin ((2 ^ 52 + mantOf u : Nat) : Int) (116 - Nat.log2 u) := by
  have hL : Nat.log2 u < 116 := Nat.lt_trans (log2_lt_64 h0 h64) (by decide)
  have e : 1075 - (959 + Nat.log2 u) = 116 - Nat.log2 u := Nat.sub_add_eq 1075 959 _
  rw [← e]
  exact decode_normal _ _ (Nat.add_pos_left (by decide) _) (Nat.add_lt_add_left hL 959)
    (mantOf_lt h0 h64)

theorem randVal_pattern {u : Nat} (h0 : u ≠ 0) (h64 : u < 2 ^ 64) :
    RandVal (decodeDouble ((959 + Nat.log2 u) * 2 ^ 52 + mantOf u)) := by
  have hL : 53 + Nat.log2 u ≤ 116 := Nat.add_le_add_left (Nat.le_of_lt_succ (log2_lt_64 h0 h64)) 53
  rw [decode_pattern h0 h64]
  exact RandVal.pos _ _ (Nat.le_add_right _ _) (Nat.add_lt_add_left (mantOf_lt h0 h64) (2 ^ 52))
    (Nat.le_sub_of_add_le hL) (Nat.sub_le _ _)

theorem randomBitsFixed_randVal {u : Nat} (h64 : u < 2 ^ 64) :
    ∃ b, randomBitsFixed u = .ok b ∧ RandVal (decodeDouble b) := by
  by_cases h0 : u = 0
  · subst h0
    exact ⟨0, rfl, by rw [decode_zero]; exact RandVal.zero⟩
  · exact ⟨_, randomBitsFixed_eq (Nat.pos_of_ne_zero h0) h64, randVal_pattern h0 h64⟩

theorem total_fixed : Total randomBitsFixed := fun _ h64 =>
  let ⟨b, hb, _⟩ := randomBitsFixed_randVal h64; ⟨b, hb⟩

theorem goodBits_fixed : GoodBits randomBitsFixed := by
  intro u b h64 hb
  obtain ⟨b', hb', hv⟩ := randomBitsFixed_randVal h64
  cases hb.symm.trans hb'
  exact hv

/-- the patch changes the result for no raw output other than 1 -/
theorem randomBits_eq_fixed {u : Nat} (h64 : u < 2 ^ 64) (h1 : u ≠ 1) :
    randomBits u = randomBitsFixed u := by
  by_cases h0 : u = 0
  · subst h0; rfl
  · have h1' := Nat.pos_of_ne_zero h0
    rw [randomBitsFixed_eq h1' h64, randomBits_eq (Nat.lt_of_le_of_ne h1' (Ne.symm h1)) h64]

theorem goodBits_pinned : GoodBits randomBits := by
  intro u b h64 hb
  by_cases h1 : u = 1
  · subst h1; cases hb
  · rw [randomBits_eq_fixed h64 h1] at hb
    exact goodBits_fixed u b h64 hb

theorem advance_add (a b : Nat) (g : Rng) : advance b (advance a g) = advance (a + b) g := by
  induction a generalizing g with
  | zero => rw [Nat.zero_add]; rfl
  | succ a ih => rw [Nat.add_right_comm]; exact ih _

/-- The outcome of a call `x` made with generator `g`: a value `a` with the generator advanced by
some number `d` of raw draws and `Q a d`, or an error that the bits function `f` returns on some
raw output (so none at all when `f` is total). -/
def Ret (f : BitsFn) {α : Type} (x : Except UB (α × Rng)) (g : Rng) (Q : α → Nat → Prop) : Prop :=
  match x with
  | .ok (a, g') => ∃ d, g' = advance d g ∧ Q a d
  | .error e => ∃ u, u < 2 ^ 64 ∧ f u = .error e

section
variable {f : BitsFn} {α : Type} {x : Except UB (α × Rng)} {g : Rng} {Q : α → Nat → Prop}

theorem Ret.ok {a : α} (h : Q a 0) : Ret f (.ok (a, g)) g Q := ⟨0, rfl, h⟩

/-- a call made after `d` draws, seen from the start -/
theorem Ret.shift {d : Nat} (h : Ret f x (advance d g) (fun a d' => Q a (d + d'))) : Ret f x g Q := by
  cases x with
  | error e => exact h
  | ok p =>
    obtain ⟨d', e, hq⟩ := h
    exact ⟨d + d', by rw [e, advance_add], hq⟩

theorem Ret.bind {β : Type} {k : α × Rng → Except UB (β × Rng)} {R : β → Nat → Prop} (hx : Ret f x g Q)
    (hk : ∀ a d, Q a d → Ret f (k (a, advance d g)) (advance d g) (fun b d' => R b (d + d'))) :
    Ret f (x >>= k) g R := by
  cases x with
  | error e => exact hx
  | ok p =>
    obtain ⟨a, g'⟩ := p
    obtain ⟨d, rfl, hq⟩ := hx
    exact (hk a d hq).shift

theorem Ret.mono {Q' : α → Nat → Prop} (h : Ret f x g Q) (hq : ∀ a d, Q a d → Q' a d) :
    Ret f x g Q' := by
  cases x with
  | error e => exact h
  | ok p =>
    obtain ⟨d, e, h⟩ := h
    exact ⟨d, e, hq _ _ h⟩

theorem Ret.cases (h : Ret f x g Q) :
    (∃ a d, x = .ok (a, advance d g) ∧ Q a d) ∨ (∃ e, x = .error e) := by
  cases x with
  | error e => exact .inr ⟨e, rfl⟩
  | ok p =>
    obtain ⟨a, g'⟩ := p
    obtain ⟨d, rfl, h⟩ := h
    exact .inl ⟨a, d, rfl, h⟩

theorem Ret.cases_eq {n : Nat} {P : α → Prop} (h : Ret f x g (fun a d => d = n ∧ P a)) :
    (∃ a, x = .ok (a, advance n g) ∧ P a) ∨ (∃ e, x = .error e) := by
  rcases h.cases with ⟨a, d, hx, rfl, hp⟩ | he
  · exact .inl ⟨a, hx, hp⟩
  · exact .inr he

theorem Ret.total (ht : Total f) (h : Ret f x g Q) : ∃ a d, x = .ok (a, advance d g) ∧ Q a d := by
  rcases h.cases with h' | ⟨e, rfl⟩
  · exact h'
  · obtain ⟨u, hu, he⟩ := h
    obtain ⟨b, hb⟩ := ht u hu
    cases he.symm.trans hb

end

/-! ### `Random() * n`, floored -/

theorem randVal_repr {r : FVal} (hr : RandVal r) :
    ∃ M s : Nat, r = .fin (M : Int) s ∧ M < 2 ^ 53 ∧ M < 2 ^ s ∧ s ≤ 116 := by
  cases hr with
  | zero => exact ⟨0, 0, rfl, by decide, by decide, by decide⟩
  | pos M s h52 h53 hs53 hs116 =>
    exact ⟨M, s, rfl, h53, Nat.lt_of_lt_of_le h53 (Nat.pow_le_pow_right (by decide) hs53), hs116⟩

theorem floor_mul_lt (r : FVal) (hr : RandVal r) (n : Nat) (hn1 : 1 ≤ n) (hn : n < 2 ^ 31) :
    ∃ k : Nat, (FVal.mul r (FVal.ofInt (n : Int))).floor = .fin (k : Int) 0 ∧ k < n := by
  obtain ⟨M, s, rfl, h53, hMs, hs116⟩ := randVal_repr hr
  have hlt := rneNat_mul_lt M s n h53 hMs (Nat.le_trans hs116 (by decide)) hn1
  have hno : ¬ rneNat (M * n) s ≥ 2 ^ (1024 + s) := by
    refine no_overflow (k := 31) (by decide) ?_
    rw [Nat.pow_add]
    exact Nat.le_trans (Nat.le_of_lt hlt) (Nat.mul_le_mul_right _ (Nat.le_of_lt hn))
  refine ⟨rneNat (M * n) s / 2 ^ s, ?_, (Nat.div_lt_iff_lt_mul (Nat.two_pow_pos _)).2 hlt⟩
  show (roundFin ((M : Int) * (n : Int)) s).floor = _
  rw [← Int.natCast_mul, roundFin_nat _ _ hno, FVal.floor, Int.natCast_ediv, Int.natCast_pow]
  rfl

theorem toInt32_nat (k : Nat) (hk : k < 2 ^ 31) : toInt32 (.fin (k : Int) 0) = .ok (k : Int) := by
  have h : (-2147483648 : Int) ≤ (k : Int) ∧ (k : Int) ≤ 2147483647 :=
    ⟨Int.le_trans (by decide) (Int.natCast_nonneg k), Int.le_of_lt_add_one (Int.ofNat_lt.2 hk)⟩
  unfold toInt32
  simp only
  rw [show (2 : Int) ^ 0 = 1 from rfl, Int.tdiv_one, if_pos h]

theorem ckInt_ok {i : Int} (h1 : -2147483648 ≤ i) (h2 : i ≤ 2147483647) : ckInt i = .ok i :=
  if_pos ⟨h1, h2⟩

/-- preconditions of `RandomRange(min, max)`: `int` arguments, `min ≤ max`, and `max - min + 1`
does not overflow -/
structure RangePre (min max : Int) : Prop where
  lo : intMin ≤ min
  hi : max ≤ intMax
  le : min ≤ max
  span : max - min + 1 ≤ intMax

/-- the bounds with the values of `INT_MIN`, `INT_MAX` -/
theorem RangePre.bounds {min max : Int} (hp : RangePre min max) :
    -2147483648 ≤ min ∧ max ≤ 2147483647 ∧ min ≤ max ∧ max - min + 1 ≤ 2147483647 :=
  ⟨hp.lo, hp.hi, hp.le, hp.span⟩

theorem RangePre.span_pos {min max : Int} (hp : RangePre min max) : 0 < max - min + 1 :=
  Int.lt_add_one_iff.2 (Int.sub_nonneg.2 hp.le)

/-- the two `int` subexpressions `max - min` and `max - min + 1` do not overflow -/
theorem span_ok {min max : Int} (hp : RangePre min max) :
    ckInt (max - min) = .ok (max - min) ∧ ckInt (max - min + 1) = .ok (max - min + 1) := by
  obtain ⟨_, _, le, span⟩ := hp.bounds
  have h0 : 0 ≤ max - min := Int.sub_nonneg.2 le
  exact ⟨ckInt_ok (Int.le_trans (by decide) h0) (Int.le_trans (Int.le_add_one (Int.le_refl _)) span),
    ckInt_ok (Int.le_trans (by decide) (Int.add_nonneg h0 (by decide))) span⟩

theorem ckInt_add_min {min max r : Int} (hp : RangePre min max) (h0 : 0 ≤ r)
    (h1 : r < max - min + 1) : ckInt (r + min) = .ok (r + min) ∧ min ≤ r + min ∧ r + min ≤ max := by
  obtain ⟨lo, hi, le, span⟩ := hp.bounds
  have hv : min ≤ r + min ∧ r + min ≤ max := by omega
  exact ⟨ckInt_ok (Int.le_trans lo hv.1) (Int.le_trans hv.2 hi), hv⟩

/-- **`RandomRange` body**: for every value `Random()` can take, and arguments
`min ≤ max`, `max - min + 1 ≤ INT_MAX` (no `int` overflow), the result is defined and in
`[min, max]`. -/
theorem rangeOf_spec (r : FVal) (hr : RandVal r) {min max : Int} (hp : RangePre min max) :
    ∃ v, rangeOf r min max = .ok v ∧ min ≤ v ∧ v ≤ max := by
  obtain ⟨h1, h2⟩ := span_ok hp
  obtain ⟨n, hn⟩ := Int.eq_ofNat_of_zero_le (Int.le_of_lt hp.span_pos)
  have hn1 : 0 < n := Int.ofNat_lt.1 (hn ▸ hp.span_pos)
  have hn2 : n < 2 ^ 31 := Int.ofNat_lt.1 (Int.lt_of_le_of_lt (hn ▸ hp.span) (by decide))
  obtain ⟨k, hk, hkn⟩ := floor_mul_lt r hr n hn1 hn2
  have h3 := toInt32_nat k (Nat.lt_trans hkn hn2)
  rw [← hn] at hk
  obtain ⟨h4, hv⟩ := ckInt_add_min hp (Int.natCast_nonneg k) (hn ▸ Int.ofNat_lt.2 hkn)
  refine ⟨(k : Int) + min, ?_, hv⟩
  simp only [rangeOf, bind, Except.bind, h1, h2, hk, h3, h4]

variable {f : BitsFn} {L : Libm}

theorem next_lt (g : Rng) : (xoshiroNext g).1 < 2 ^ 64 := Nat.mod_lt _ (Nat.two_pow_pos 64)

theorem random_ok {g : Rng} {b : Nat} (h : f (xoshiroNext g).1 = .ok b) :
    random f g = .ok (decodeDouble b, (xoshiroNext g).2) := by
  simp only [random, randomB, randomU64, h]

theorem random_err {g : Rng} {e : UB} (h : f (xoshiroNext g).1 = .error e) :
    random f g = .error e := by
  simp only [random, randomB, randomU64, h]

theorem random_ret (hf : GoodBits f) (g : Rng) :
    Ret f (random f g) g (fun r d => d = 1 ∧ RandVal r) := by
  cases h : f (xoshiroNext g).1 with
  | ok b =>
    rw [random_ok h]
    exact ⟨1, rfl, rfl, hf _ _ (next_lt g) h⟩
  | error e =>
    rw [random_err h]
    exact ⟨_, next_lt g, h⟩

theorem randomRange_ret (hf : GoodBits f) {min max : Int} (hp : RangePre min max)
    (g : Rng) : Ret f (randomRange f min max g) g (fun v d => d = 1 ∧ min ≤ v ∧ v ≤ max) := by
  refine (random_ret hf g).bind ?_
  rintro r d ⟨rfl, hr⟩
  obtain ⟨v, hv, h1, h2⟩ := rangeOf_spec r hr hp
  simp only [hv]
  exact .ok ⟨rfl, h1, h2⟩

/-! ### `RandomRangeNonUniform` -/

/-- the operands of `intOr` are 32-bit words -/
theorem word_lt (a : Int) : (a % 2 ^ 32).toNat < 2 ^ 32 :=
  (Int.toNat_lt (Int.emod_nonneg a (by decide))).2 (Int.emod_lt_of_pos a (by decide))

/-- … with the top bit clear for a non-negative `int` -/
theorem word_lt_of_nonneg {a : Int} (h0 : 0 ≤ a) (h : a ≤ intMax) : (a % 2 ^ 32).toNat < 2 ^ 31 := by
  have h31 : a < 2 ^ 31 := Int.lt_of_le_of_lt h (by decide)
  rw [Int.emod_eq_of_lt h0 (Int.lt_trans h31 (by decide))]
  exact (Int.toNat_lt h0).2 h31

theorem intOr_nonneg {a b : Int} (ha : 0 ≤ a) (ha' : a ≤ intMax) (hb : 0 ≤ b) (hb' : b ≤ intMax) :
    0 ≤ intOr a b ∧ intOr a b ≤ intMax := by
  have hw := Nat.or_lt_two_pow (word_lt_of_nonneg ha ha') (word_lt_of_nonneg hb hb')
  unfold intOr
  simp only
  rw [if_pos hw]
  exact ⟨Int.natCast_nonneg _, Int.le_of_lt_add_one (Int.ofNat_lt.2 hw)⟩

theorem intOr_range (a b : Int) : intMin ≤ intOr a b ∧ intOr a b ≤ intMax := by
  have hw := Nat.or_lt_two_pow (word_lt a) (word_lt b)
  unfold intOr intMin intMax
  simp only
  split <;> omega

/-- Both combining functions up to the point where they differ: with `n = max - min + 1` and
`r = (a | b) % n`, the pinned one returns `r + min`, the patched one adds `n` to a negative `r`
first. -/
theorem nonUniform_eq {min max : Int} (hp : RangePre min max) (a b : Int) :
    nonUniformOf a b min max = ckInt ((intOr a b).tmod (max - min + 1) + min) ∧
    nonUniformOfFixed a b min max =
      (if (intOr a b).tmod (max - min + 1) < 0
        then ckInt ((intOr a b).tmod (max - min + 1) + (max - min + 1))
        else pure ((intOr a b).tmod (max - min + 1))) >>= fun r' => ckInt (r' + min) := by
  obtain ⟨h1, h2⟩ := span_ok hp
  have h3 : intMod (intOr a b) (max - min + 1) = .ok ((intOr a b).tmod (max - min + 1)) := by
    have hn := hp.span_pos
    unfold intMod
    rw [if_neg (Int.ne_of_gt hn), if_neg (fun h => absurd (h.2 ▸ hn) (by decide))]
  constructor
  · simp only [nonUniformOf, bind, Except.bind, h1, h2, h3]
  · simp only [nonUniformOfFixed, bind, Except.bind, h1, h2, h3]
    split <;> rfl

/-- pinned tree: in range when both draws are non-negative (`0 ≤ min`) -/
theorem nonUniformOf_spec (a b : Int) {min max : Int} (ha : 0 ≤ a) (ha' : a ≤ intMax) (hb : 0 ≤ b)
    (hb' : b ≤ intMax) (hp : RangePre min max) :
    ∃ v, nonUniformOf a b min max = .ok v ∧ min ≤ v ∧ v ≤ max := by
  rw [(nonUniform_eq hp a b).1]
  exact ⟨_, ckInt_add_min hp (Int.tmod_nonneg _ (intOr_nonneg ha ha' hb hb').1)
    (Int.tmod_lt_of_pos _ hp.span_pos)⟩

/-- patched tree: in range for all `int` draws -/
theorem nonUniformOfFixed_spec (a b : Int) {min max : Int} (hp : RangePre min max) :
    ∃ v, nonUniformOfFixed a b min max = .ok v ∧ min ≤ v ∧ v ≤ max := by
  have t1 := Int.lt_tmod_of_pos (intOr a b) hp.span_pos
  have t2 := Int.tmod_lt_of_pos (intOr a b) hp.span_pos
  rw [(nonUniform_eq hp a b).2]
  generalize (intOr a b).tmod (max - min + 1) = r at t1 t2
  by_cases hneg : r < 0
  · -- `-n < r < 0`: `r + n` is in `(0, n)`
    have h0 : 0 ≤ r + (max - min + 1) := by omega
    have h1 : r + (max - min + 1) < max - min + 1 := by omega
    rw [if_pos hneg, ckInt_ok (Int.le_trans (by decide) h0) (Int.le_trans (Int.le_of_lt h1) hp.span)]
    exact ⟨_, ckInt_add_min hp h0 h1⟩
  · rw [if_neg hneg]
    exact ⟨_, ckInt_add_min hp (Int.not_lt.1 hneg) t2⟩

/-- what the theorem needs of the combining function -/
def CombOk (comb : Int → Int → Int → Int → Except UB Int) (x min max : Int) : Prop :=
  ∀ a b, 0 ≤ a → a ≤ x → min ≤ b → b ≤ max → ∃ v, comb a b min max = .ok v ∧ min ≤ v ∧ v ≤ max

theorem combOk_pinned (x min max : Int) (hx : RangePre 0 x) (hp : RangePre min max) (h0 : 0 ≤ min) :
    CombOk nonUniformOf x min max := fun a b ha ha' hb hb' =>
  nonUniformOf_spec a b ha (Int.le_trans ha' hx.hi) (Int.le_trans h0 hb) (Int.le_trans hb' hp.hi) hp

theorem combOk_fixed (x min max : Int) (hp : RangePre min max) : CombOk nonUniformOfFixed x min max :=
  fun a b _ _ _ _ => nonUniformOfFixed_spec a b hp

/-- two draws in either order, then the combining function -/
theorem randomRangeNonUniform_ret (hf : GoodBits f)
    {comb : Int → Int → Int → Int → Except UB Int} (leftFirst : Bool) {x min max : Int}
    (hx : RangePre 0 x) (hp : RangePre min max) (hc : CombOk comb x min max) (g : Rng) :
    Ret f (randomRangeNonUniform f comb leftFirst x min max g) g
      (fun v d => d = 2 ∧ min ≤ v ∧ v ≤ max) := by
  unfold randomRangeNonUniform
  cases leftFirst with
  | true =>
    refine (randomRange_ret hf hx g).bind ?_
    rintro a d ⟨rfl, a1, a2⟩
    refine (randomRange_ret hf hp _).bind ?_
    rintro b d ⟨rfl, b1, b2⟩
    obtain ⟨v, hv, v1, v2⟩ := hc a b a1 a2 b1 b2
    simp only [hv]
    exact .ok ⟨rfl, v1, v2⟩
  | false =>
    refine (randomRange_ret hf hp g).bind ?_
    rintro b d ⟨rfl, b1, b2⟩
    refine (randomRange_ret hf hx _).bind ?_
    rintro a d ⟨rfl, a1, a2⟩
    obtain ⟨v, hv, v1, v2⟩ := hc a b a1 a2 b1 b2
    simp only [hv]
    exact .ok ⟨rfl, v1, v2⟩

/-- a call that cannot fail in its draws does not fail at all -/
theorem no_error_of_total {α : Type} {x : Except UB α} (h : ∀ e, x ≠ .error e) : ∃ a, x = .ok a := by
  cases x with
  | ok a => exact ⟨a, rfl⟩
  | error e => exact absurd rfl (h e)

/-! ### `1 - Random()`, products of such, `Poisson`, `Gamma(ia < 6)` -/

/-- a finite value in `[2^-j, 1]`, written at a scale `s ≤ smax` -/
def UnitVal (j smax : Nat) (v : FVal) : Prop :=
  ∃ m s : Nat, v = .fin (m : Int) s ∧ s ≤ smax ∧ m ≤ 2 ^ s ∧ 2 ^ s ≤ m * 2 ^ j

theorem roundFin_unit (m s j : Nat) (hs : s ≤ 1074) (h1 : m ≤ 2 ^ s) (h2 : 2 ^ s ≤ m * 2 ^ j) :
    ∃ a : Nat, roundFin (m : Int) s = .fin (a : Int) s ∧ a ≤ 2 ^ s ∧ 2 ^ s ≤ a * 2 ^ j := by
  have u := rneNat_le_pow (Nat.le_add_left _ _) h1
  exact ⟨rneNat m s, roundFin_nat m s (no_overflow (k := 0) (by decide) (by rwa [Nat.zero_add])), u,
    rneNat_ge_pow m s j hs h2⟩

theorem not_one_ge_pow (k : Nat) (hk : k ≠ 0) : ¬ 1 ≥ 2 ^ k :=
  Nat.not_le.mpr (Nat.one_lt_two_pow hk)

/-- `B - a` is at least `B / A` for `a < A`, `a < B`: with `B = 2^s`, `A = 2^53` this is
`1 - M / 2^s ≥ 2^-53` for a 53-bit `M` -/
theorem le_sub_mul {a A B : Nat} (hA : a < A) (hB : a < B) : B ≤ (B - a) * A :=
  calc B = (B - a) + a := (Nat.sub_add_cancel (Nat.le_of_lt hB)).symm
    _ ≤ (B - a) + (B - a) * (A - 1) :=
      Nat.add_le_add_left
        (Nat.le_trans (Nat.le_sub_one_of_lt hA) (Nat.le_mul_of_pos_left _ (Nat.sub_pos_of_lt hB))) _
    _ = (B - a) * A := by
      rw [Nat.add_comm, ← Nat.mul_succ, Nat.succ_eq_add_one, Nat.sub_add_cancel (Nat.zero_lt_of_lt hA)]

theorem oneMinus_unit (r : FVal) (hr : RandVal r) : UnitVal 53 116 (oneMinus r) := by
  obtain ⟨M, s, rfl, h53, hMs, hs116⟩ := randVal_repr hr
  have hexact : (1 : Int) * 2 ^ s - (M : Int) * 2 ^ 0 = ((2 ^ s - M : Nat) : Int) := by
    rw [Int.one_mul, Int.pow_zero, Int.mul_one, Int.ofNat_sub (Nat.le_of_lt hMs), Int.natCast_pow]
    rfl
  obtain ⟨a, ha, a1, a2⟩ := roundFin_unit (2 ^ s - M) s 53 (Nat.le_trans hs116 (by decide))
    (Nat.sub_le _ _) (le_sub_mul h53 hMs)
  refine ⟨a, s, ?_, hs116, a1, a2⟩
  show roundFin ((1 : Int) * 2 ^ s - (M : Int) * 2 ^ 0) (0 + s) = _
  rw [hexact, Nat.zero_add]
  exact ha

theorem mul_unit {x f : FVal} {i j S1 S2 : Nat} (hx : UnitVal i S1 x) (hf : UnitVal j S2 f)
    (hS : S1 + S2 ≤ 1074) : UnitVal (i + j) (S1 + S2) (FVal.mul x f) := by
  obtain ⟨mx, sx, rfl, hsx, x1, x2⟩ := hx
  obtain ⟨mf, sf, rfl, hsf, f1, f2⟩ := hf
  have hs : sx + sf ≤ S1 + S2 := Nat.add_le_add hsx hsf
  have h1 : mx * mf ≤ 2 ^ (sx + sf) := by
    rw [Nat.pow_add]; exact Nat.mul_le_mul x1 f1
  have h2 : 2 ^ (sx + sf) ≤ mx * mf * 2 ^ (i + j) := by
    rw [Nat.pow_add, Nat.pow_add, Nat.mul_mul_mul_comm]
    exact Nat.mul_le_mul x2 f2
  obtain ⟨a, ha, a1, a2⟩ := roundFin_unit (mx * mf) (sx + sf) (i + j) (Nat.le_trans hs hS) h1 h2
  refine ⟨a, sx + sf, ?_, hs, a1, a2⟩
  show roundFin ((mx : Int) * (mf : Int)) (sx + sf) = _
  rw [← Int.natCast_mul]
  exact ha

theorem unitVal_one : UnitVal 0 0 FVal.one := ⟨1, 0, rfl, Nat.le_refl _, Nat.le_refl _, Nat.le_refl _⟩

theorem unitVal_mono {i j S T : Nat} {v : FVal} (h : UnitVal i S v) (hij : i ≤ j) (hST : S ≤ T) :
    UnitVal j T v := by
  obtain ⟨m, s, rfl, hs, h1, h2⟩ := h
  exact ⟨m, s, rfl, Nat.le_trans hs hST, h1,
    Nat.le_trans h2 (Nat.mul_le_mul_left _ (Nat.pow_le_pow_right (by decide) hij))⟩

theorem add_add_mul_succ (a c n : Nat) : a + c + c * n = a + c * (n + 1) := by
  rw [Nat.mul_succ, Nat.add_assoc, Nat.add_comm c]

/-- the `while(ia--) x *= 1 - Random();` loop: `ia` raw draws, `x` stays in `[2^-(i+53 ia), 1]` -/
theorem gammaLoop_ret (hf : GoodBits f) (ia : Nat) {x : FVal} {i S : Nat}
    (hx : UnitVal i S x) (hS : S + 116 * ia ≤ 1074) (g : Rng) :
    Ret f (gammaLoop f ia x g) g
      (fun x' d => d = ia ∧ UnitVal (i + 53 * ia) (S + 116 * ia) x') := by
  induction ia generalizing x i S g with
  | zero => exact .ok ⟨rfl, hx⟩
  | succ ia ih =>
    refine (random_ret hf g).bind ?_
    rintro r d ⟨rfl, hr⟩
    rw [← add_add_mul_succ] at hS
    have hm := mul_unit hx (oneMinus_unit r hr) (Nat.le_trans (Nat.le_add_right _ _) hS)
    refine (ih hm hS _).mono ?_
    rintro x' d ⟨rfl, hu⟩
    rw [add_add_mul_succ, add_add_mul_succ] at hu
    exact ⟨Nat.add_comm _ _, hu⟩

/-- finite, `0 ≤ v ≤ k` -/
def FinBetween0 (k : Nat) (v : FVal) : Prop :=
  ∃ (a : Int) (t : Nat), v = .fin a t ∧ 0 ≤ a ∧ a ≤ (k : Int) * 2 ^ t

theorem finNonneg_of_between0 {k : Nat} {v : FVal} (h : FinBetween0 k v) : FVal.FinNonneg v := by
  obtain ⟨a, t, rfl, a1, _⟩ := h
  exact a1

theorem neg_log_unit (L : Libm) (hL : LibmLaws L) {x : FVal} {j S : Nat} (hx : UnitVal j S x) :
    FinBetween0 j (FVal.neg (L.log x)) := by
  obtain ⟨m, s, rfl, _, h1, h2⟩ := hx
  obtain ⟨a, t, hlog, a1, a2⟩ := hL.log_unit m s j h1 h2
  exact ⟨-a, t, by rw [hlog]; rfl, Int.neg_nonneg_of_nonpos a1, Int.neg_le_of_neg_le a2⟩

theorem poisson_ret (hf : GoodBits f) (hL : LibmLaws L) (g : Rng) :
    Ret f (poisson f L g) g (fun v d => d = 1 ∧ FinBetween0 53 v) := by
  refine (random_ret hf g).bind ?_
  rintro r d ⟨rfl, hr⟩
  exact .ok ⟨rfl, neg_log_unit L hL (oneMinus_unit r hr)⟩

theorem gammaSmall_ret (hf : GoodBits f) (hL : LibmLaws L) {ia : Nat}
    (hia : ia < 6) (g : Rng) :
    ∃ x, gammaSmall f L ia g = some x ∧ Ret f x g (fun v d => d = ia ∧ FinBetween0 (53 * ia) v) := by
  refine ⟨_, if_pos hia, (gammaLoop_ret hf ia unitVal_one (by omega) g).bind ?_⟩
  rintro x d ⟨rfl, hu⟩
  rw [Nat.zero_add] at hu
  exact .ok ⟨rfl, neg_log_unit L hL hu⟩

theorem mul_finNonneg (mm : Nat) (sm : Nat) (hmean : mm ≤ 2 ^ 1000 * 2 ^ sm) (p : FVal)
    (hp : FinBetween0 53 p) : FVal.FinNonneg (FVal.mul (.fin (mm : Int) sm) p) := by
  obtain ⟨a, t, rfl, a1, a2⟩ := hp
  obtain ⟨q, rfl⟩ := Int.eq_ofNat_of_zero_le a1
  have hq : q ≤ 2 ^ 6 * 2 ^ t := by
    have : ((q : Nat) : Int) ≤ ((53 * 2 ^ t : Nat) : Int) := by
      rw [Int.natCast_mul, Int.natCast_pow]
      exact a2
    exact Nat.le_trans (Int.ofNat_le.mp this) (Nat.mul_le_mul_right _ (by decide))
  have h : ((mm : Int) * (q : Int)).natAbs ≤ 2 ^ (1006 + (sm + t)) := by
    have e : 1006 + (sm + t) = (1000 + sm) + (6 + t) := Nat.add_add_add_comm 1000 6 sm t
    have hprod := Nat.mul_le_mul hmean hq
    rwa [← Int.natCast_mul, Int.natAbs_natCast, e, Nat.pow_add, Nat.pow_add 2 1000, Nat.pow_add 2 6]
  obtain ⟨c, hc, _, hpos⟩ := roundFin_bound _ (sm + t) 1006 (by decide) h
  show FVal.FinNonneg (roundFin ((mm : Int) * (q : Int)) (sm + t))
  rw [hc]
  exact hpos (Int.mul_nonneg (Int.natCast_nonneg _) (Int.natCast_nonneg _))

theorem expent_ret (hf : GoodBits f) (hL : LibmLaws L) (mm sm : Nat)
    (hmean : mm ≤ 2 ^ 1000 * 2 ^ sm) (g : Rng) :
    Ret f (expent f L (.fin (mm : Int) sm) g) g (fun v d => d = 1 ∧ FVal.FinNonneg v) := by
  refine (poisson_ret hf hL g).bind ?_
  rintro p d ⟨rfl, hp⟩
  exact .ok ⟨rfl, mul_finNonneg mm sm hmean p hp⟩

/-! ### `Zipf` -/

theorem toUInt32_nat (k : Nat) (hk : k < 2 ^ 32) : toUInt32 (.fin (k : Int) 0) = .ok k := by
  have h : (0 : Int) ≤ (k : Int) ∧ (k : Int) ≤ 4294967295 :=
    ⟨Int.natCast_nonneg k, Int.le_of_lt_add_one (Int.ofNat_lt.2 hk)⟩
  unfold toUInt32
  simp only
  rw [show (2 : Int) ^ 0 = 1 from rfl, Int.tdiv_one, if_pos h]
  rfl

/-- `x = floor(pow(Random(), ex))` for finite `ex < 0`: `+inf`, or an integer `≥ 1` -/
theorem zipf_x (L : Libm) (hL : LibmLaws L) (r : FVal) (hr : RandVal r) (e : Int) (t : Nat) (he : e < 0) :
    (L.pow r (.fin e t)).floor = .inf false ∨
    ∃ k : Nat, (L.pow r (.fin e t)).floor = .fin (k : Int) 0 ∧ 1 ≤ k := by
  cases hr with
  | zero =>
    left
    rw [hL.pow_zero_neg 0 e t he]; rfl
  | pos M s h52 h53 hs53 hs116 =>
    have hM : 0 < M := Nat.lt_of_lt_of_le (Nat.two_pow_pos 52) h52
    have hMs : M < 2 ^ s := Nat.lt_of_lt_of_le h53 (Nat.pow_le_pow_right (by decide) hs53)
    rcases hL.pow_unit_neg M s e t hM hMs he with h | ⟨a, u, h, ha⟩
    · left; rw [h]; rfl
    · right
      refine ⟨a / 2 ^ u, ?_, (Nat.le_div_iff_mul_le (Nat.two_pow_pos _)).2 (by rwa [Nat.one_mul])⟩
      rw [h, FVal.floor, Int.natCast_ediv, Int.natCast_pow]
      rfl

/-- one iteration: one or two draws; a returned value is in `[1, limit]` -/
theorem zipfIter_ret (hf : GoodBits f) (hL : LibmLaws L) {e : Int} (t : Nat)
    (he : e < 0) (accept : FVal → FVal → Bool) {limit : Nat} (hlim : limit < 2 ^ 32) (g : Rng) :
    Ret f (zipfIter f L (.fin e t) accept limit g) g
      (fun o d => 1 ≤ d ∧ d ≤ 2 ∧ ∀ k, o = some k → 1 ≤ k ∧ k ≤ limit) := by
  refine (random_ret hf g).bind ?_
  rintro r1 d ⟨rfl, hr1⟩
  rcases zipf_x L hL r1 hr1 e t he with hx | ⟨k, hx, hk⟩
  · simp only [hx]
    exact .ok ⟨by decide, by decide, fun k h => nomatch h⟩
  · simp only [hx]
    by_cases hgt : FVal.gt (.fin (k : Int) 0) (FVal.ofInt (limit : Int)) = true
    · rw [if_pos hgt]
      exact .ok ⟨by decide, by decide, fun k h => nomatch h⟩
    · rw [if_neg hgt]
      have hkl : k ≤ limit := by
        simp [FVal.gt, FVal.ofInt] at hgt
        omega
      refine (random_ret hf _).bind ?_
      rintro r2 d ⟨rfl, _⟩
      by_cases hacc : accept r2 (.fin (k : Int) 0) = true
      · simp only [hacc, if_true, toUInt32_nat k (Nat.lt_of_le_of_lt hkl hlim)]
        refine .ok ⟨by decide, by decide, fun k' h => ?_⟩
        cases h
        exact ⟨hk, hkl⟩
      · simp only [hacc]
        exact .ok ⟨by decide, by decide, fun k h => nomatch h⟩

theorem zipf_ret (hf : GoodBits f) (hL : LibmLaws L) {e : Int} (t : Nat)
    (he : e < 0) (accept : FVal → FVal → Bool) {limit : Nat} (hlim : limit < 2 ^ 32) (fuel : Nat)
    (g : Rng) :
    Ret f (zipf f L (.fin e t) accept limit fuel g) g
      (fun o d => d ≤ 2 * fuel ∧ ∀ k, o = some k → 1 ≤ k ∧ k ≤ limit) := by
  induction fuel generalizing g with
  | zero => exact .ok ⟨Nat.le_refl _, fun k h => nomatch h⟩
  | succ fuel ih =>
    refine (zipfIter_ret hf hL t he accept hlim g).bind ?_
    rintro o d ⟨_, d2, hk⟩
    cases o with
    | some k => exact .ok ⟨Nat.le_trans d2 (Nat.le_mul_of_pos_right 2 (Nat.succ_pos fuel)), hk⟩
    | none =>
      refine (ih _).mono ?_
      rintro o' d' ⟨hd', hk'⟩
      refine ⟨?_, hk'⟩
      rw [Nat.mul_succ, Nat.add_comm]
      exact Nat.add_le_add hd' d2

theorem callAs_other {α : Type} (f : Rng → Except UB (α × Rng)) (i : Nat) (w : World) (a : α) (w' : World)
    (h : callAs f i w = .ok (a, w')) : ∀ j, j ≠ i → w' j = w j := by
  intro j hj
  unfold callAs at h
  split at h
  · cases h
    exact if_neg hj
  · cases h

theorem callAs_self {α : Type} (f : Rng → Except UB (α × Rng)) (i : Nat) (w : World) (a : α) (w' : World)
    (h : callAs f i w = .ok (a, w')) : f (w i) = .ok (a, w' i) := by
  unfold callAs at h
  split at h
  · rename_i a' g' hf
    cases h
    rw [hf]
    show _ = Except.ok (a, if i = i then g' else w i)
    rw [if_pos rfl]
  · cases h

theorem callAs_congr {α : Type} (f : Rng → Except UB (α × Rng)) (i : Nat) (w1 w2 : World)
    (h : w1 i = w2 i) : (callAs f i w1).map Prod.fst = (callAs f i w2).map Prod.fst := by
  unfold callAs
  rw [h]
  cases f (w2 i) with
  | ok p => rfl
  | error e => rfl

/-- finite and in `[0, 1)` -/
def InUnitHalfOpen (v : FVal) : Prop := ∃ (m : Int) (s : Nat), v = .fin m s ∧ 0 ≤ m ∧ m < 2 ^ s

theorem inUnit_of_randVal {v : FVal} (h : RandVal v) : InUnitHalfOpen v := by
  obtain ⟨M, s, rfl, _, hMs, _⟩ := randVal_repr h
  refine ⟨_, _, rfl, Int.natCast_nonneg M, ?_⟩
  have := Int.ofNat_lt.2 hMs
  rwa [Int.natCast_pow] at this

end RootSim.Rand
