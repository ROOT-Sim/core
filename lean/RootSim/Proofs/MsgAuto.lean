import RootSim.Model.MsgAuto
/-!
The reachable state space of the local per-message automaton is finite (70 states). `R` is computed by
breadth-first search; the kernel then *checks* (by evaluation, `decide +kernel`, no `native_decide`) that
`R` contains the initial state, is closed under every action, and that every state in it satisfies the
safety predicate `Good` and the progress predicates. Nothing depends on the search being correct: a
wrong `R` would make `R_facts` fail.
-/
namespace RootSim.MsgAuto

/-- candidate inductive invariant: the set of reachable states -/
def R : List LState :=
  (bfsBy LState.code LState.decode succs 100 [LState.init.code] [LState.init.code]).map LState.decode

/-- the codes the search produces: `R` is their decoding -/
def Rcodes : List Nat := bfsBy LState.code LState.decode succs 100 [LState.init.code] [LState.init.code]

/-- progress measure for a cancelled message: strictly decreases with every action -/
def rank (s : LState) : Nat :=
  16 * ((if s.spend then 1 else 0) + (if s.rpend then 1 else 0)) + 12 * s.qc +
  (match s.rpc with | .idle => 0 | .hand => 10 | .proc => 8 | .antiRb => 6 | .antiFree => 1) +
  (if s.inHist then 2 else 0) + (if s.committed then 0 else 1) + (if s.down then 0 else 1) +
  (if s.sref then 1 else 0) + (match s.life with | .fresh => 3 | .packed => 2 | .live => 1 | _ => 0)

/-- is `a` executed by the runtime itself (not a decision of the environment) in state `s`?
`unprocess` is a runtime action while the receiver handles the anti copy (`antiRb`). -/
def isSys (s : LState) (a : LAct) : Bool := !a.isEnv || (a == .unprocess && s.rpc == .antiRb)

/-- Safety facts of the local automaton, part A: memory safety and the queue. -/
def GoodA (s : LState) : Prop :=
  -- (1) no undefined behaviour on the message (use after free, lost `match_anti_msg`, wrong branch)
  s.err = false ∧
  -- (2) never two queue copies at once
  s.qc ≤ 1 ∧
  -- (3) never freed twice
  s.life ≠ .dfreed ∧
  -- (7) a freed buffer is referenced by nothing that can still touch it
  (s.life = .freed → s.qc = 0 ∧ s.inHist = false ∧ s.rpc = .idle ∧ s.spend = false ∧ s.rpend = false ∧
      (s.sref = true → s.committed = true ∨ s.down = true)) ∧
  -- (8) a live buffer is never orphaned (no leak): somebody still holds it
  (s.life = .live → 0 < s.qc ∨ s.inHist = true ∨ s.rpc ≠ .idle ∨ s.spend = true ∨ s.rpend = true) ∧
  -- (9) `match_anti_msg` finds the message
  (s.rpc = .antiRb → s.inHist = true)

/-- part B: the flag word -/
def GoodB (s : LState) : Prop :=
  -- (4) the flag word takes only these values; 5 only while the receiver is rolling back for the anti copy
  (s.flags = 0 ∨ s.flags = 1 ∨ s.flags = 2 ∨ s.flags = 3 ∨ (s.flags = 5 ∧ s.rpc = .antiRb)) ∧
  -- (5) the ANTI bit is set iff the sender has cancelled
  (s.flags % 2 = 1 ↔ s.cancelled = true) ∧
  -- (6) while the receiver is not in the middle of this message (and before shutdown/release), PROCESSED
  --     is set iff the message is in the receiver's history
  ((s.rpc = .idle ∨ s.rpc = .hand) → s.life = .live → s.down = false →
      (s.flags / 2 % 2 = 1 ↔ s.inHist = true))

/-- part C: exactly-once cancellation -/
def GoodC (s : LState) : Prop :=
  -- (10) once the receiver has seen ANTI it never dispatches the message forward again
  s.fwdAfterObs = false ∧ (s.obs = true → s.rpc ≠ .proc) ∧
  -- (11) at most one forward dispatch can follow the cancel (the one whose flag update preceded the cancel)
  s.fwdAfterAnti ≤ 1 ∧
  -- (12) the receiver undoes the message at most once after the cancel, and only if the cancel saw PROCESSED
  s.unpAfter ≤ (if s.cproc then 1 else 0) ∧
  -- (13) released by the anti path: the sender cancelled; exactly one undo iff the cancel saw PROCESSED
  (s.freedBy = .anti → s.cancelled = true ∧ s.unpAfter = (if s.cproc then 1 else 0)) ∧
  -- (16) the sender's reference disappears with the cancel: it cancels at most once
  (s.cancelled = true → s.sref = false)

/-- part D: who releases a message that is never cancelled -/
def GoodD (s : LState) : Prop :=
  -- (14) a message that was never cancelled is released only by fossil collection / shutdown
  (s.life = .freed → s.cancelled = false → s.freedBy = .fossil ∨ s.freedBy = .fini ∨ s.freedBy = .qfini) ∧
  -- (15) fossil collection releases committed (past) messages only
  (s.freedBy = .fossil → s.committed = true)

instance (s : LState) : Decidable (GoodA s) := by unfold GoodA; infer_instance
instance (s : LState) : Decidable (GoodB s) := by unfold GoodB; infer_instance
instance (s : LState) : Decidable (GoodC s) := by unfold GoodC; infer_instance
instance (s : LState) : Decidable (GoodD s) := by unfold GoodD; infer_instance

/-- all safety facts -/
def Good (s : LState) : Prop := GoodA s ∧ GoodB s ∧ GoodC s ∧ GoodD s
instance (s : LState) : Decidable (Good s) := by unfold Good; infer_instance

/-- progress facts (about the outgoing transitions of a state) -/
def Prog (s : LState) : Bool :=
  -- every action from a cancelled state decreases `rank`
  (!s.cancelled || LAct.all.all (fun a => match lstep s a with
      | some s' => decide (rank s' < rank s) | none => true)) &&
  -- a state without enabled action is a released message
  (!(succs s).isEmpty || s.life == .freed) &&
  -- a cancelled, not yet released message always has a runtime (non-environment) action enabled
  (!(s.cancelled && s.life == .live) || LAct.all.any (fun a => isSys s a && (lstep s a).isSome))

theorem R_facts : LState.init ∈ R ∧ closedBy LState.code LState.decode succs Rcodes = true ∧
    ∀ s ∈ R, Good s ∧ Prog s = true := by
  decide +kernel

theorem LAct.mem_all (a : LAct) : a ∈ LAct.all := by cases a <;> decide

theorem R_init : LState.init ∈ R := R_facts.1

theorem R_step {s s' : LState} {a : LAct} (hs : s ∈ R) (h : lstep s a = some s') : s' ∈ R :=
  closedBy_spec R_facts.2.1 hs (List.mem_filterMap.mpr ⟨a, LAct.mem_all a, h⟩)

theorem R_run {s s' : LState} (acts : List LAct) (hs : s ∈ R) (h : lrun s acts = some s') : s' ∈ R := by
  induction acts generalizing s with
  | nil => exact Option.some.inj h ▸ hs
  | cons a as ih =>
    cases h1 : lstep s a with
    | none => simp [lrun, h1] at h
    | some s1 => rw [lrun, h1] at h; exact ih (R_step hs h1) h

theorem R_good {s : LState} (hs : s ∈ R) : Good s := (R_facts.2.2 s hs).1

theorem R_prog {s : LState} (hs : s ∈ R) : Prog s = true := (R_facts.2.2 s hs).2

end RootSim.MsgAuto
