import RootSim.Model.LP
/-! Invariants of the LP-local rollback machine (L2): C05(b), C13(b), C01(A). -/
namespace RootSim.LP
open RootSim

variable {σ : Type}

/-- deterministic re-execution of a list of messages from a state (outputs ignored) -/
def replay (h : σ → Event → σ × List Event) (ev : Nat → Event) (s : σ) (ms : List Nat) : σ :=
  ms.foldl (fun s m => (h s (ev m)).1) s

theorem silentExec_eq_replay (h : σ → Event → σ × List Event) (ev : Nat → Event) (s : σ) (ms : List Nat) :
    silentExec h ev s ms = replay h ev s ms := rfl

theorem replay_append (h : σ → Event → σ × List Event) (ev : Nat → Event) (s : σ) (a b : List Nat) :
    replay h ev s (a ++ b) = replay h ev (replay h ev s a) b := by
  simp [replay, List.foldl_append]

theorem pastMsgs_append (a b : List Entry) : pastMsgs (a ++ b) = pastMsgs a ++ pastMsgs b := by
  simp [pastMsgs, List.filterMap_append]

theorem pastMsgs_sent (outs : List Nat) : pastMsgs (outs.map Entry.sent) = [] := by
  induction outs with
  | nil => rfl
  | cons o os ih => simp [pastMsgs] at ih ⊢

theorem scanBack_spec {α : Type} (p : α → Bool) : ∀ (r : List α),
    (scanBack p r = 0 ∧ ∀ x ∈ r, p x = false) ∨
    (∃ pre x xs, r = pre ++ x :: xs ∧ (∀ y ∈ pre, p y = false) ∧ p x = true ∧
      scanBack p r = xs.length + 1)
  | [] => .inl ⟨rfl, fun _ h => (List.not_mem_nil h).elim⟩
  | a :: as => by
    have hstep : scanBack p (a :: as) = if p a then as.length + 1 else scanBack p as := rfl
    cases ha : p a <;> rw [ha] at hstep
    · rcases scanBack_spec p as with ⟨h0, hall⟩ | ⟨pre, x, xs, rfl, hpre, hx, hk⟩
      · exact .inl ⟨hstep.trans h0, List.forall_mem_cons.mpr ⟨ha, hall⟩⟩
      · exact .inr ⟨a :: pre, x, xs, rfl, List.forall_mem_cons.mpr ⟨ha, hpre⟩, hx, hstep.trans hk⟩
    · exact .inr ⟨[], a, as, rfl, fun _ h => (List.not_mem_nil h).elim, ha, hstep⟩

theorem scanBack_rev_spec {α : Type} (p : α → Bool) (l : List α) :
    (scanBack p l.reverse = 0 ∧ ∀ x ∈ l, p x = false) ∨
    (∃ A x B, l = A ++ x :: B ∧ (∀ y ∈ B, p y = false) ∧ p x = true ∧
      scanBack p l.reverse = A.length + 1) := by
  rcases scanBack_spec p l.reverse with ⟨h0, hall⟩ | ⟨pre, x, xs, hr, hpre, hx, hk⟩
  · left; exact ⟨h0, fun x hx => hall x (List.mem_reverse.mpr hx)⟩
  · right
    refine ⟨xs.reverse, x, pre.reverse, ?_, ?_, hx, by simp [hk]⟩
    · have := congrArg List.reverse hr
      simp at this; rw [this]
    · intro y hy; exact hpre y (List.mem_reverse.mp hy)

theorem scanBack_rev_idx {α : Type} (p : α → Bool) (l : List α) :
    scanBack p l.reverse ≤ l.length ∧
    (0 < scanBack p l.reverse → ∃ x, l[scanBack p l.reverse - 1]? = some x ∧ p x = true) ∧
    (∀ (j : Nat) x, scanBack p l.reverse ≤ j → l[j]? = some x → p x = false) := by
  rcases scanBack_rev_spec p l with ⟨h0, hall⟩ | ⟨A, x, B, rfl, hB, hx, hk⟩
  · rw [h0]
    exact ⟨Nat.zero_le _, fun h => absurd h (Nat.lt_irrefl 0), fun j x _ hj => hall x (List.mem_of_getElem? hj)⟩
  · rw [hk]
    refine ⟨?_, fun _ => ⟨x, ?_, hx⟩, fun j y hj hy => ?_⟩
    · rw [List.length_append, List.length_cons]
      exact Nat.add_le_add_left (Nat.le_add_left 1 _) _
    · rw [Nat.add_sub_cancel, List.getElem?_append_right (Nat.le_refl _), Nat.sub_self]; rfl
    rw [List.getElem?_append_right (Nat.le_of_succ_le hj), ← Nat.sub_add_cancel (Nat.sub_pos_of_lt hj),
      List.getElem?_cons_succ] at hy
    exact hB y (List.mem_of_getElem? hy)

theorem findLog_some {logs : List (Nat × σ)} {target i : Nat} (h : findLog logs target = some i) :
    ∃ A x B, logs = A ++ x :: B ∧ i = A.length ∧ x.1 ≤ target ∧ ∀ y ∈ B, ¬ y.1 ≤ target := by
  unfold findLog at h
  rcases scanBack_rev_spec (fun (x : Nat × σ) => decide (x.1 ≤ target)) logs with
    ⟨h0, _⟩ | ⟨A, x, B, hl, hB, hx, hk⟩
  · simp [h0] at h
  · simp only [hk, Nat.add_one_ne_zero, if_false, Nat.add_sub_cancel, Option.some.injEq] at h
    refine ⟨A, x, B, hl, h.symm, by simpa using hx, ?_⟩
    intro y hy; have := hB y hy; simpa using this

theorem findLog_exists {logs : List (Nat × σ)} {target : Nat} (x : Nat × σ) (hx : x ∈ logs) (hle : x.1 ≤ target) :
    ∃ i, findLog logs target = some i := by
  unfold findLog
  rcases scanBack_rev_spec (fun (x : Nat × σ) => decide (x.1 ≤ target)) logs with
    ⟨_, hall⟩ | ⟨A, _, _, _, _, _, hk⟩
  · exact absurd hle (of_decide_eq_false (hall x hx))
  · exact ⟨A.length, by simp [hk]⟩

/-- in a log sorted by reference, the log found for `target` bounds the logs kept by a rollback (up to and including it)
from above and those kept by fossil collection (from it on) from below -/
theorem findLog_get {logs : List (Nat × σ)} {target li : Nat} (h : findLog logs target = some li)
    (hs : logs.Pairwise (fun a b => a.1 ≤ b.1)) :
    ∃ x, logs[li]? = some x ∧ x.1 ≤ target ∧ (∀ y ∈ logs.take (li + 1), y.1 ≤ x.1) ∧ (∀ y ∈ logs.drop li, x.1 ≤ y.1) := by
  obtain ⟨A, x, B, rfl, rfl, hx, _⟩ := findLog_some h
  have hs' := List.pairwise_append.mp hs
  refine ⟨x, by simp, hx, fun y hy => ?_, fun y hy => ?_⟩
  · rw [List.append_cons, List.take_left' (l₁ := A ++ [x]) (i := A.length + 1) (List.length_append ..)] at hy
    rcases List.mem_append.mp hy with h1 | h1
    · exact hs'.2.2 y h1 x (List.mem_cons_self ..)
    · cases List.mem_singleton.mp h1; exact Nat.le_refl _
  · rw [List.drop_left' rfl] at hy
    rcases List.mem_cons.mp hy with rfl | h1
    · exact Nat.le_refl _
    · exact (List.pairwise_cons.mp hs'.2.1).1 y h1

/-! ### The LP invariant

`init` is the LP state before its first kept message, `base` the (ghost) list of messages already
committed and dropped by fossil collection. The invariant says: the current state and every
checkpoint are *exactly* the deterministic re-execution of the corresponding history prefix. -/

structure LInv (h : σ → Event → σ × List Event) (ev : Nat → Event) (init : σ) (base : List Nat)
    (lp : LPState σ) : Prop where
  log_ok : ∀ x ∈ lp.logs, x.1 ≤ lp.hist.length ∧
    x.2 = replay h ev init (base ++ pastMsgs (lp.hist.take x.1))
  sorted : lp.logs.Pairwise (fun a b => a.1 ≤ b.1)
  st_ok : lp.st = replay h ev init (base ++ pastMsgs lp.hist)

variable {h : σ → Event → σ × List Event} {ev : Nat → Event} {init : σ} {base : List Nat}

theorem forward_hist (lp : LPState σ) (m : Nat) (e : Event) (outs : List Nat) :
    (forward h lp m e outs).1.hist = lp.hist ++ outs.map Entry.sent ++ [.past m] := by
  simp [forward]

theorem forward_inv {lp : LPState σ} (hI : LInv h ev init base lp) (m : Nat) (outs : List Nat) :
    LInv h ev init base (forward h lp m (ev m) outs).1 := by
  have hh := forward_hist (h := h) lp m (ev m) outs
  refine ⟨?_, ?_, ?_⟩
  · intro x hx
    have hx' : x ∈ lp.logs := by simpa [forward] using hx
    obtain ⟨h1, h2⟩ := hI.log_ok x hx'
    rw [hh]
    refine ⟨Nat.le_trans h1 ((List.sublist_append_left _ _).trans (List.sublist_append_left _ _)).length_le, ?_⟩
    rw [h2, List.append_assoc, List.take_append_of_le_length h1]
  · simpa [forward] using hI.sorted
  · rw [hh]
    simp only [pastMsgs_append, pastMsgs_sent, List.append_nil]
    have : pastMsgs [Entry.past m] = [m] := rfl
    rw [this, ← List.append_assoc, replay_append, ← hI.st_ok]
    simp [forward, replay]

theorem checkpoint_inv {lp : LPState σ} (hI : LInv h ev init base lp) :
    LInv h ev init base (checkpoint lp) := by
  refine ⟨?_, ?_, ?_⟩
  · intro x hx
    simp only [checkpoint, List.mem_append, List.mem_singleton] at hx ⊢
    rcases hx with hx | hx
    · exact hI.log_ok x hx
    · subst hx; simp [hI.st_ok]
  · simp only [checkpoint]
    rw [List.pairwise_append]
    refine ⟨hI.sorted, by simp, ?_⟩
    intro a ha b hb
    simp at hb; subst hb
    exact (hI.log_ok a ha).1
  · simpa [checkpoint] using hI.st_ok

theorem pastMsgs_take_split (hist : List Entry) (r i : Nat) (hri : r ≤ i) :
    pastMsgs (hist.take r) ++ pastMsgs ((hist.take i).drop r) = pastMsgs (hist.take i) := by
  rw [← pastMsgs_append]
  congr 1
  have : hist.take r = (hist.take i).take r := by
    rw [List.take_take, Nat.min_eq_left hri]
  rw [this, List.take_append_drop]

theorem rollback_some {lp : LPState σ} {i : Nat} {o : RollbackOut σ} (ho : rollback h ev lp i = some o) :
    (∃ x ∈ lp.logs, x.1 ≤ i) ∧ o.lp.hist = lp.hist.take i ∧ o.lp.bound = lp.bound := by
  unfold rollback at ho
  split at ho
  · cases ho
  · rename_i li hli
    obtain ⟨A, x, B, hl, _, hx, _⟩ := findLog_some hli
    split at ho
    · cases ho
    · cases ho
      exact ⟨⟨x, by rw [hl]; simp, hx⟩, rfl, rfl⟩

/-- **Rollback is exact** (C05): whenever some checkpoint is not after the target index `i`, the
rollback succeeds, keeps exactly `hist[0..i)`, and the state handed to the next handler equals the
deterministic re-execution of exactly the messages that remain valid — for every history, every
checkpoint placement, every target. -/
theorem rollback_exact {lp : LPState σ} (hI : LInv h ev init base lp) (i : Nat)
    (hck : ∃ x ∈ lp.logs, x.1 ≤ i) :
    ∃ o, rollback h ev lp i = some o ∧
      o.lp.hist = lp.hist.take i ∧
      o.undone = lp.hist.drop i ∧
      o.lp.st = replay h ev init (base ++ pastMsgs (lp.hist.take i)) ∧
      LInv h ev init base o.lp := by
  obtain ⟨x0, hx0, hle0⟩ := hck
  obtain ⟨li, hli⟩ := findLog_exists x0 hx0 hle0
  obtain ⟨x, hget, hxi, htake, _⟩ := findLog_get hli hI.sorted
  obtain ⟨hx1, hx2⟩ := hI.log_ok x (List.mem_of_getElem? hget)
  have hst : silentExec h ev x.2 (pastMsgs ((lp.hist.take i).drop x.1)) =
      replay h ev init (base ++ pastMsgs (lp.hist.take i)) := by
    rw [silentExec_eq_replay, hx2, ← replay_append, List.append_assoc, pastMsgs_take_split _ _ _ hxi]
  refine ⟨_, by simp only [rollback, hli, hget]; rfl, rfl, rfl, hst, ?_,
    hI.sorted.sublist (List.take_sublist _ _), hst⟩
  -- a kept checkpoint has `ref ≤ i`, so the prefix it stands for is a prefix of the kept history
  intro y hy
  have hyi : y.1 ≤ i := Nat.le_trans (htake y hy) hxi
  obtain ⟨hy1, hy2⟩ := hI.log_ok y (List.mem_of_mem_take hy)
  refine ⟨?_, ?_⟩
  · show y.1 ≤ (lp.hist.take i).length
    rw [List.length_take]; exact Nat.le_min.mpr ⟨hyi, hy1⟩
  · show y.2 = replay h ev init (base ++ pastMsgs ((lp.hist.take i).take y.1))
    rw [hy2, List.take_take, Nat.min_eq_left hyi]

theorem rollback_spec {lp : LPState σ} {i : Nat} {o : RollbackOut σ} (hI : LInv h ev init base lp)
    (ho : rollback h ev lp i = some o) :
    o.lp.hist = lp.hist.take i ∧ o.undone = lp.hist.drop i ∧
      o.lp.st = replay h ev init (base ++ pastMsgs (lp.hist.take i)) ∧ LInv h ev init base o.lp := by
  obtain ⟨o', ho', h'⟩ := rollback_exact hI i (rollback_some ho).1
  cases ho.symm.trans ho'
  exact h'

/-- **Fossil collection keeps what a legal rollback needs** (C13): the kept history starts exactly
at the kept checkpoint (whose reference becomes 0), the state is untouched, the dropped entries are
a prefix, and the invariant continues to hold with the dropped messages added to the committed base —
so `rollback_exact` applies to every later target (a checkpoint with reference 0 ≤ anything exists). -/
theorem fossil_inv {lp : LPState σ} (hI : LInv h ev init base lp) (t : Nat → Nat) (gvt ep : Nat)
    {o : FossilOut σ} (ho : fossil t lp gvt ep = some o) :
    lp.hist = o.dropped ++ o.lp.hist ∧ o.lp.st = lp.st ∧ o.dropped.length = o.n ∧
    (∃ x, o.lp.logs.head? = some x ∧ x.1 = 0) ∧
    LInv h ev init (base ++ pastMsgs o.dropped) o.lp := by
  unfold fossil at ho
  simp only at ho
  split at ho
  · cases ho
  · split at ho
    · cases ho
    · rename_i li hli
      obtain ⟨x, hget, _, _, hdrop⟩ := findLog_get hli hI.sorted
      rw [hget] at ho
      cases ho
      obtain ⟨hx1, hx2⟩ := hI.log_ok x (List.mem_of_getElem? hget)
      have hhd : ((lp.logs.drop li).map (fun l => (l.1 - x.1, l.2))).head? = some (0, x.2) := by
        rw [List.head?_map, List.head?_drop, hget, Option.map_some, Nat.sub_self]
      refine ⟨(List.take_append_drop _ _).symm, rfl, List.length_take_of_le hx1, ⟨(0, x.2), hhd, rfl⟩, ?_, ?_, ?_⟩
      · -- a kept checkpoint `z` has `ref ≥ x.1`: its prefix is the dropped part followed by a prefix of the kept history
        intro y hy
        obtain ⟨z, hz, rfl⟩ := List.mem_map.mp hy
        have hzx := hdrop z hz
        obtain ⟨hz1, hz2⟩ := hI.log_ok z (List.mem_of_mem_drop hz)
        refine ⟨?_, ?_⟩
        · show z.1 - x.1 ≤ (lp.hist.drop x.1).length
          rw [List.length_drop]; exact Nat.sub_le_sub_right hz1 _
        · show z.2 = replay h ev init
            ((base ++ pastMsgs (lp.hist.take x.1)) ++ pastMsgs ((lp.hist.drop x.1).take (z.1 - x.1)))
          rw [hz2, List.append_assoc, ← pastMsgs_append, ← List.take_add, Nat.add_sub_cancel' hzx]
      · exact List.pairwise_map.mpr ((hI.sorted.sublist (List.drop_sublist _ _)).imp
          (fun hab => Nat.sub_le_sub_right hab _))
      · show lp.st = _
        rw [hI.st_ok, List.append_assoc, ← pastMsgs_append, List.take_append_drop]

end RootSim.LP
