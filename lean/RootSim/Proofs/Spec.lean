import RootSim.Model.Spec
import RootSim.Proofs.EventOrder
/-! Lemmas about the sequential reference executor (`Model/Spec.lean`) and the invariant that ties
each of its runs to a global history of the optimistic runtime: `Phase1` while the run has only dispatched events
below `g`, `Phase2` afterwards; `Proofs/SpecV2.lean` (`reachable_phase`) shows that every run is in one of the two. -/
namespace RootSim.Spec
open RootSim List

variable {σ : Type}

theorem upd_same {α : Type} (f : Nat → α) (i : Nat) (v : α) : upd f i v i = v := by simp [upd]

theorem upd_other {α : Type} (f : Nat → α) {i j : Nat} (v : α) (h : j ≠ i) : upd f i v j = f j := by
  simp [upd, h]

theorem dispatch_pending (M : SimModel σ) (s : SeqState σ) (e : Event) :
    (dispatch M s e).pending = s.pending ++ (M.handler e.dest (s.st e.dest) e).2 := rfl

theorem dispatch_st (M : SimModel σ) (s : SeqState σ) (e : Event) :
    (dispatch M s e).st = upd s.st e.dest (M.handler e.dest (s.st e.dest) e).1 := rfl

theorem dispatch_disp (M : SimModel σ) (s : SeqState σ) (e : Event) :
    (dispatch M s e).disp = upd s.disp e.dest (s.disp e.dest ++ [e]) := rfl

theorem stFrom_append (M : SimModel σ) (ℓ : Nat) (s : σ) (a b : List Event) :
    stFrom M ℓ s (a ++ b) = stFrom M ℓ (stFrom M ℓ s a) b := by
  induction a generalizing s with
  | nil => rfl
  | cons e a ih => exact ih _

theorem outsFrom_append (M : SimModel σ) (ℓ : Nat) (s : σ) (a b : List Event) :
    outsFrom M ℓ s (a ++ b) = outsFrom M ℓ s a ++ outsFrom M ℓ (stFrom M ℓ s a) b := by
  induction a generalizing s with
  | nil => rfl
  | cons e a ih => simp only [List.cons_append, outsFrom, stFrom, List.append_assoc, ih]

theorem lpState_append (M : SimModel σ) (ℓ : Nat) (a b : List Event) :
    lpState M ℓ (a ++ b) = stFrom M ℓ (lpState M ℓ a) b := stFrom_append M ℓ _ a b

theorem outs_append (M : SimModel σ) (ℓ : Nat) (a b : List Event) :
    outs M ℓ (a ++ b) = outs M ℓ a ++ outsFrom M ℓ (lpState M ℓ a) b := outsFrom_append M ℓ _ a b

theorem lpState_snoc (M : SimModel σ) (ℓ : Nat) (l : List Event) (e : Event) :
    lpState M ℓ (l ++ [e]) = (M.handler ℓ (lpState M ℓ l) e).1 := lpState_append M ℓ l [e]

theorem outs_snoc (M : SimModel σ) (ℓ : Nat) (l : List Event) (e : Event) :
    outs M ℓ (l ++ [e]) = outs M ℓ l ++ (M.handler ℓ (lpState M ℓ l) e).2 := by
  rw [outs_append]
  exact congrArg _ (List.append_nil _)

theorem mem_outsFrom (M : SimModel σ) (ℓ : Nat) {y : Event} (s : σ) (l : List Event)
    (h : y ∈ outsFrom M ℓ s l) :
    ∃ P c S, l = P ++ c :: S ∧ y ∈ (M.handler ℓ (stFrom M ℓ s P) c).2 := by
  induction l generalizing s with
  | nil => cases h
  | cons e l ih =>
    rcases List.mem_append.mp h with h | h
    · exact ⟨[], e, l, rfl, h⟩
    · obtain ⟨P, c, S, rfl, hy⟩ := ih _ h
      exact ⟨e :: P, c, S, rfl, hy⟩

/-! ### additive measures of lists (`count x`, `countP p`, `length`) over `flatMap`, any element type -/

structure Additive {α : Type} (m : List α → Nat) : Prop where
  nil : m [] = 0
  append : ∀ a b, m (a ++ b) = m a + m b

theorem additive_count {α : Type} [BEq α] (x : α) : Additive (List.count x) :=
  ⟨by simp, fun _ _ => List.count_append⟩

theorem additive_countP {α : Type} (p : α → Bool) : Additive (List.countP p) :=
  ⟨by simp, fun _ _ => List.countP_append⟩

theorem additive_length {α : Type} : Additive (List.length (α := α)) :=
  ⟨rfl, fun _ _ => List.length_append⟩

theorem nodup_split {L : List Nat} {ℓ : Nat} (hn : L.Nodup) (hℓ : ℓ ∈ L) :
    ∃ s t, L = s ++ ℓ :: t ∧ (∀ ℓ' ∈ s, ℓ' ≠ ℓ) ∧ ∀ ℓ' ∈ t, ℓ' ≠ ℓ := by
  obtain ⟨s, t, rfl⟩ := List.append_of_mem hℓ
  obtain ⟨_, hnt, hst⟩ := List.nodup_append.mp hn
  exact ⟨s, t, rfl, fun ℓ' h' => hst ℓ' h' ℓ mem_cons_self,
    fun ℓ' h' e => (List.nodup_cons.mp hnt).1 (e ▸ h')⟩

section additive
variable {α β : Type} {m : List α → Nat}

theorem add_flatMap_le {m' : List β → Nat} (hm : Additive m) (hm' : Additive m') {f : Nat → List α}
    {h : Nat → List β} (L : List Nat) (hle : ∀ ℓ ∈ L, m (f ℓ) ≤ m' (h ℓ)) :
    m (L.flatMap f) ≤ m' (L.flatMap h) := by
  induction L with
  | nil => exact hm.nil ▸ Nat.zero_le _
  | cons a L ih =>
    rw [List.flatMap_cons, List.flatMap_cons, hm.append, hm'.append]
    exact Nat.add_le_add (hle a mem_cons_self) (ih fun ℓ hℓ => hle ℓ (mem_cons_of_mem _ hℓ))

theorem add_flatMap_congr (hm : Additive m) {f h : Nat → List α}
    (L : List Nat) (heq : ∀ ℓ ∈ L, m (f ℓ) = m (h ℓ)) : m (L.flatMap f) = m (L.flatMap h) :=
  Nat.le_antisymm (add_flatMap_le hm hm L fun ℓ hℓ => Nat.le_of_eq (heq ℓ hℓ))
    (add_flatMap_le hm hm L fun ℓ hℓ => Nat.le_of_eq (heq ℓ hℓ).symm)

theorem add_flatMap_split (hm : Additive m) (f : Nat → List α) (s t : List Nat) (ℓ : Nat) :
    m ((s ++ ℓ :: t).flatMap f) = m (s.flatMap f) + (m (f ℓ) + m (t.flatMap f)) := by
  rw [List.flatMap_append, List.flatMap_cons, hm.append, hm.append]

theorem add_single_le (hm : Additive m) {f : Nat → List α} {ℓ : Nat} (L : List Nat) (hℓ : ℓ ∈ L) :
    m (f ℓ) ≤ m (L.flatMap f) := by
  obtain ⟨s, t, rfl⟩ := List.append_of_mem hℓ
  rw [add_flatMap_split hm]
  exact Nat.le_trans (Nat.le_add_right _ _) (Nat.le_add_left _ _)

theorem add_flatMap_upd {γ : Type} (hm : Additive m) (F : Nat → γ → List α) {n ℓ : Nat} (hℓ : ℓ < n)
    (D : Nat → γ) (v : γ) :
    m ((List.range n).flatMap fun ℓ' => F ℓ' (upd D ℓ v ℓ')) + m (F ℓ (D ℓ)) =
      m ((List.range n).flatMap fun ℓ' => F ℓ' (D ℓ')) + m (F ℓ v) := by
  obtain ⟨s, t, hst, hs, ht⟩ := nodup_split List.nodup_range (List.mem_range.mpr hℓ)
  have es := add_flatMap_congr hm (f := fun ℓ' => F ℓ' (upd D ℓ v ℓ')) (h := fun ℓ' => F ℓ' (D ℓ')) s
    fun ℓ' h' => by rw [upd_other _ _ (hs ℓ' h')]
  have et := add_flatMap_congr hm (f := fun ℓ' => F ℓ' (upd D ℓ v ℓ')) (h := fun ℓ' => F ℓ' (D ℓ')) t
    fun ℓ' h' => by rw [upd_other _ _ (ht ℓ' h')]
  rw [hst, add_flatMap_split hm, add_flatMap_split hm, es, et, upd_same]
  ac_rfl

variable [BEq α] [LawfulBEq α]

theorem count_erase_add {l : List α} {e : α} (h : e ∈ l) (x : α) :
    (l.erase e).count x + [e].count x = l.count x := by
  rw [(List.perm_cons_erase h).count_eq x, List.count_cons, List.count_cons, List.count_nil,
    Nat.zero_add]

end additive

theorem filter_below_nil {g : Nat} {l : List Event} (h : ∀ x ∈ l, g ≤ x.t) :
    l.filter (below g) = [] :=
  List.filter_eq_nil_iff.mpr fun a ha hb => Nat.not_lt.mpr (h a ha) (of_decide_eq_true hb)

theorem filter_below_self {g : Nat} {l : List Event} (h : ∀ x ∈ l, x.t < g) :
    l.filter (below g) = l :=
  List.filter_eq_self.mpr (fun a ha => decide_eq_true (h a ha))

theorem exists_time_bound (l : List Event) : ∃ g, ∀ x ∈ l, x.t < g := by
  induction l with
  | nil => exact ⟨0, by simp⟩
  | cons a l ih =>
    obtain ⟨g, hg⟩ := ih
    refine ⟨max g (a.t + 1), fun x hx => ?_⟩
    rcases List.mem_cons.mp hx with rfl | h
    · exact Nat.lt_of_lt_of_le (Nat.lt_succ_self _) (Nat.le_max_right _ _)
    · exact Nat.lt_of_lt_of_le (hg x h) (Nat.le_max_left _ _)

theorem tsorted_filter_prefix_self {g : Nat} (l : List Event)
    (h : l.Pairwise (fun a b => a.t ≤ b.t)) : l.filter (below g) <+: l := by
  induction l with
  | nil => exact List.prefix_rfl
  | cons a l ih =>
    rw [List.pairwise_cons] at h
    by_cases ha : a.t < g
    · have hb : below g a = true := decide_eq_true ha
      rw [List.filter_cons_of_pos hb, List.cons_prefix_cons]
      exact ⟨rfl, ih h.2⟩
    · have : ∀ b ∈ a :: l, g ≤ b.t := fun b hb => by
        rcases List.mem_cons.mp hb with rfl | hb
        · exact Nat.le_of_not_lt ha
        · exact Nat.le_trans (Nat.le_of_not_lt ha) (h.1 b hb)
      rw [filter_below_nil this]
      exact List.nil_prefix

theorem tsorted_filter_prefix {g' g : Nat} (hg : g' ≤ g) (l : List Event)
    (h : l.Pairwise (fun a b => a.t ≤ b.t)) : l.filter (below g') <+: l.filter (below g) := by
  have : l.filter (below g') = (l.filter (below g)).filter (below g') := by
    rw [List.filter_filter]
    refine List.filter_congr fun a _ => ?_
    show below g' a = (below g' a && below g a)
    cases h : below g' a with
    | false => rfl
    | true => exact (decide_eq_true (Nat.lt_of_lt_of_le (of_decide_eq_true h) hg)).symm
  rw [this]
  exact tsorted_filter_prefix_self _ (h.filter _)

section hist
variable {M : SimModel σ} {G : Nat → List Event} {g : Nat}

theorem Hist.cons (H : Hist M G g) {ℓ : Nat} (hℓ : ℓ < M.nLps) : ∃ rest, G ℓ = initEv ℓ :: rest :=
  List.head?_eq_some_iff.mp (H.head ℓ hℓ)

theorem Hist.tsorted (H : Hist M G g) {ℓ : Nat} (hℓ : ℓ < M.nLps) :
    (G ℓ).Pairwise (fun a b => a.t ≤ b.t) := by
  obtain ⟨rest, hr⟩ := H.cons hℓ
  have hs := H.sorted ℓ hℓ
  rw [hr] at hs ⊢
  exact List.pairwise_cons.mpr ⟨fun b _ => Nat.zero_le _, hs.imp Event.t_le_of_not_before⟩

/-- H3 for an event of LP `ℓ`: the filter on the destination is the identity -/
theorem Hist.count_eq (H : Hist M G g) {x : Event} (hd : x.dest < M.nLps) (hx : x.t < g) :
    (G x.dest).tail.count x = (outsAll M G).count x := by
  rw [H.arrived x.dest hd x hx, List.count_filter]
  simp

/-- conversely, H3 follows from that equation if the histories hold only events for their own LP: for the
other LPs both sides are empty -/
theorem arrived_of_count_eq
    (hdest : ∀ ℓ, ℓ < M.nLps → ∀ e ∈ (G ℓ).tail, e.dest = ℓ)
    (hcnt : ∀ e : Event, e.t < g → e.dest < M.nLps → (G e.dest).tail.count e = (outsAll M G).count e)
    (ℓ : Nat) (hℓ : ℓ < M.nLps) (e : Event) (he : e.t < g) :
    (G ℓ).tail.count e = ((outsAll M G).filter (fun o => decide (o.dest = ℓ))).count e := by
  by_cases hd : e.dest = ℓ
  · subst hd
    rw [List.count_filter (by simp)]
    exact hcnt e he hℓ
  · have h1 : (G ℓ).tail.count e = 0 := List.count_eq_zero.mpr fun hm => hd (hdest ℓ hℓ e hm)
    have h2 : ((outsAll M G).filter (fun o => decide (o.dest = ℓ))).count e = 0 :=
      List.count_eq_zero.mpr fun hm => hd (of_decide_eq_true (List.mem_filter.mp hm).2)
    rw [h1, h2]

end hist

/-- the non-`LP_INIT` events of a per-LP table -/
def restAll (n : Nat) (D : Nat → List Event) : List Event :=
  (List.range n).flatMap (fun ℓ => (D ℓ).tail)

theorem count_restAll {n : Nat} {D : Nat → List Event}
    (hdest : ∀ ℓ, ℓ < n → ∀ e ∈ (D ℓ).tail, e.dest = ℓ) {x : Event} (hd : x.dest < n) :
    (restAll n D).count x = (D x.dest).tail.count x := by
  obtain ⟨s, t, hst, hs, ht⟩ := nodup_split List.nodup_range (List.mem_range.mpr hd)
  have hsub : ∀ ℓ ∈ s ++ x.dest :: t, ℓ < n := fun ℓ hℓ => List.mem_range.mp (hst ▸ hℓ)
  have zero : ∀ L : List Nat, (∀ ℓ ∈ L, ℓ < n ∧ ℓ ≠ x.dest) →
      (L.flatMap fun ℓ => (D ℓ).tail).count x = 0 := fun L hL =>
    List.count_eq_zero.mpr fun h => by
      obtain ⟨ℓ, hℓ, hx⟩ := List.mem_flatMap.mp h
      exact (hL ℓ hℓ).2 (hdest ℓ (hL ℓ hℓ).1 x hx).symm
  unfold restAll
  rw [hst, add_flatMap_split (additive_count x),
    zero s fun ℓ h => ⟨hsub ℓ (mem_append_left _ h), hs ℓ h⟩,
    zero t fun ℓ h => ⟨hsub ℓ (mem_append_right _ (mem_cons_of_mem _ h)), ht ℓ h⟩,
    Nat.zero_add, Nat.add_zero]

theorem restAll_exchange {m : List Event → Nat} (hm : Additive m) {n ℓ : Nat} (hℓ : ℓ < n)
    (D : Nat → List Event) (v : List Event) :
    m (restAll n (upd D ℓ v)) + m (D ℓ).tail = m (restAll n D) + m v.tail :=
  add_flatMap_upd hm (fun _ (l : List Event) => l.tail) hℓ D v

theorem outsAll_exchange {m : List Event → Nat} (hm : Additive m) (M : SimModel σ) {ℓ : Nat}
    (hℓ : ℓ < M.nLps) (D : Nat → List Event) (v : List Event) :
    m (outsAll M (upd D ℓ v)) + m (outs M ℓ (D ℓ)) = m (outsAll M D) + m (outs M ℓ v) :=
  add_flatMap_upd hm (outs M) hℓ D v

theorem restAll_snoc {m : List Event → Nat} (hm : Additive m) {n ℓ : Nat} (hℓ : ℓ < n)
    {D : Nat → List Event} (hne : D ℓ ≠ []) (e : Event) :
    m (restAll n (upd D ℓ (D ℓ ++ [e]))) = m (restAll n D) + m [e] := by
  have := restAll_exchange hm hℓ D (D ℓ ++ [e])
  rw [List.tail_append_of_ne_nil hne, hm.append, ← Nat.add_assoc, Nat.add_right_comm] at this
  exact Nat.add_right_cancel this

theorem outsAll_snoc {m : List Event → Nat} (hm : Additive m) (M : SimModel σ) {ℓ : Nat}
    (hℓ : ℓ < M.nLps) (D : Nat → List Event) (e : Event) :
    m (outsAll M (upd D ℓ (D ℓ ++ [e]))) =
      m (outsAll M D) + m (M.handler ℓ (lpState M ℓ (D ℓ)) e).2 := by
  have := outsAll_exchange hm M hℓ D (D ℓ ++ [e])
  rw [outs_snoc, hm.append, ← Nat.add_assoc, Nat.add_right_comm] at this
  exact Nat.add_right_cancel this

/-! ### Phase 1 of a sequential run: everything dispatched so far is below `g` -/

/-- what LP `ℓ` of the history has processed beyond what the sequential run has dispatched to it -/
def remOf (G : Nat → List Event) (s : SeqState σ) (ℓ : Nat) : List Event :=
  (G ℓ).drop (s.disp ℓ).length

/-- all remainder events below `g` -/
def remAll (M : SimModel σ) (G : Nat → List Event) (g : Nat) (s : SeqState σ) : List Event :=
  (List.range M.nLps).flatMap (fun ℓ => (remOf G s ℓ).filter (below g))

/-- the invariant of the part of a sequential run that has only dispatched events below `g` -/
structure Phase1 (M : SimModel σ) (G : Nat → List Event) (g : Nat) (s : SeqState σ) : Prop where
  pre : ∀ ℓ, ℓ < M.nLps → s.disp ℓ <+: G ℓ
  ne  : ∀ ℓ, ℓ < M.nLps → s.disp ℓ ≠ []
  low : ∀ ℓ, ℓ < M.nLps → ∀ x ∈ (s.disp ℓ).tail, x.t < g
  st  : ∀ ℓ, ℓ < M.nLps → s.st ℓ = lpState M ℓ (s.disp ℓ)
  cnt : ∀ x : Event,
    s.pending.count x + (restAll M.nLps s.disp).count x = (outsAll M s.disp).count x

section phase1
variable {M : SimModel σ} {G : Nat → List Event} {g : Nat} {s : SeqState σ}

theorem Phase1.split (P : Phase1 M G g s) {ℓ : Nat} (hℓ : ℓ < M.nLps) :
    G ℓ = s.disp ℓ ++ remOf G s ℓ :=
  (List.prefix_iff_eq_append.mp (P.pre ℓ hℓ)).symm

theorem Phase1.tail_split (P : Phase1 M G g s) {ℓ : Nat} (hℓ : ℓ < M.nLps) :
    (G ℓ).tail = (s.disp ℓ).tail ++ remOf G s ℓ := by
  conv => lhs; rw [P.split hℓ]
  exact List.tail_append_of_ne_nil (P.ne ℓ hℓ)

theorem Phase1.disp_cons (H : Hist M G g) (P : Phase1 M G g s) {ℓ : Nat} (hℓ : ℓ < M.nLps) :
    s.disp ℓ = initEv ℓ :: (s.disp ℓ).tail := by
  obtain ⟨rest, hr⟩ := H.cons hℓ
  have hs := P.split hℓ
  cases hd : s.disp ℓ with
  | nil => exact absurd hd (P.ne ℓ hℓ)
  | cons a d =>
    rw [hr, hd] at hs
    rw [(List.cons.inj hs).1, List.tail_cons]

theorem Phase1.rem_dest (H : Hist M G g) (P : Phase1 M G g s) {ℓ : Nat} (hℓ : ℓ < M.nLps)
    {x : Event} (hx : x ∈ remOf G s ℓ) : x.dest = ℓ :=
  (H.dest ℓ hℓ x (by rw [P.tail_split hℓ]; exact List.mem_append_right _ hx)).1

theorem Phase1.disp_dest (H : Hist M G g) (P : Phase1 M G g s) {ℓ : Nat} (hℓ : ℓ < M.nLps)
    {x : Event} (hx : x ∈ (s.disp ℓ).tail) : x.dest = ℓ :=
  (H.dest ℓ hℓ x (by rw [P.tail_split hℓ]; exact List.mem_append_left _ hx)).1

theorem Phase1.disp_low (H : Hist M G g) (P : Phase1 M G g s) {ℓ : Nat} (hℓ : ℓ < M.nLps)
    (hg : 0 < g) {c : Event} (hc : c ∈ s.disp ℓ) : c.t < g := by
  rw [P.disp_cons H hℓ] at hc
  rcases List.mem_cons.mp hc with rfl | hc
  · exact hg
  · exact P.low ℓ hℓ c hc

theorem Phase1.outs_split (P : Phase1 M G g s) {ℓ : Nat} (hℓ : ℓ < M.nLps) :
    outs M ℓ (G ℓ) = outs M ℓ (s.disp ℓ) ++ outsFrom M ℓ (lpState M ℓ (s.disp ℓ)) (remOf G s ℓ) := by
  conv => lhs; rw [P.split hℓ]
  exact outs_append M ℓ _ _

theorem Phase1.count_outs_le (P : Phase1 M G g s) (x : Event) :
    (outsAll M s.disp).count x ≤ (outsAll M G).count x := by
  apply add_flatMap_le (additive_count x) (additive_count x)
  intro ℓ hℓ
  rw [P.outs_split (List.mem_range.mp hℓ), List.count_append]
  exact Nat.le_add_right _ _

theorem Phase1.rest_length_le (P : Phase1 M G g s) :
    (restAll M.nLps s.disp).length ≤ (restAll M.nLps G).length := by
  apply add_flatMap_le additive_length additive_length
  intro ℓ hℓ
  rw [P.tail_split (List.mem_range.mp hℓ), List.length_append]
  exact Nat.le_add_right _ _

theorem Phase1.mono {g' : Nat} (hg : g' ≤ g) (P : Phase1 M G g' s) : Phase1 M G g s :=
  ⟨P.pre, P.ne, fun ℓ hℓ x hx => Nat.lt_of_lt_of_le (P.low ℓ hℓ x hx) hg, P.st, P.cnt⟩

theorem Phase1.pending_sent (P : Phase1 M G g s) {e : Event} (he : e ∈ s.pending) :
    ∃ ℓ, ℓ < M.nLps ∧ ∃ P0 c S, s.disp ℓ = P0 ++ c :: S ∧
      e ∈ (M.handler ℓ (lpState M ℓ P0) c).2 := by
  have hpos : 0 < (outsAll M s.disp).count e := by
    rw [← P.cnt e]
    exact Nat.lt_of_lt_of_le (List.count_pos_iff.mpr he) (Nat.le_add_right _ _)
  obtain ⟨ℓ, hℓ, hout⟩ := List.mem_flatMap.mp (List.count_pos_iff.mp hpos)
  exact ⟨ℓ, List.mem_range.mp hℓ, mem_outsFrom M ℓ _ _ hout⟩

/-- H3 in terms of the run: what has been sent to `x.dest` with the content of `x` below `g` is what the
run has dispatched of it plus what remains of it in the history -/
theorem Phase1.count_rem (H : Hist M G g) (P : Phase1 M G g s) {x : Event} (hd : x.dest < M.nLps)
    (hx : x.t < g) :
    (remOf G s x.dest).count x + (restAll M.nLps s.disp).count x = (outsAll M G).count x := by
  rw [count_restAll (fun _ hℓ _ he => P.disp_dest H hℓ he) hd, ← H.count_eq hd hx, P.tail_split hd,
    List.count_append, Nat.add_comm]

theorem Phase1.pending_in_rem (H : Hist M G g) (P : Phase1 M G g s) {e : Event}
    (he : e ∈ s.pending) (hlt : e.t < g) (hd : e.dest < M.nLps) : e ∈ remOf G s e.dest := by
  have hle := P.count_outs_le e
  rw [← P.cnt e, ← P.count_rem H hd hlt] at hle
  exact List.count_pos_iff.mp
    (Nat.lt_of_lt_of_le (List.count_pos_iff.mpr he) (Nat.le_of_add_le_add_right hle))

theorem mem_remAll {y : Event} : y ∈ remAll M G g s ↔
    ∃ ℓ, ℓ < M.nLps ∧ y ∈ remOf G s ℓ ∧ y.t < g := by
  simp [remAll, List.mem_flatMap, List.mem_filter, below]

/-- under strict causality a minimal remainder event below `g` is pending: all its causes have been
dispatched -/
theorem Phase1.minimal_rem_pending (H : Hist M G g) (V : V2sBelow M G g) (T : TimeMono M)
    (P : Phase1 M G g s) {y : Event} (hy : y ∈ remAll M G g s)
    (hmin : ∀ z ∈ remAll M G g s, Event.before z y = false) : y ∈ s.pending := by
  obtain ⟨ℓy, hℓy, hyr, hyt⟩ := mem_remAll.mp hy
  have hdy : y.dest = ℓy := P.rem_dest H hℓy hyr
  subst hdy
  -- no occurrence of `y` among the outputs is caused by a remainder event
  have hout : (outsAll M G).count y = (outsAll M s.disp).count y := by
    apply add_flatMap_congr (additive_count y)
    intro ℓ' hℓ'
    have hℓ' := List.mem_range.mp hℓ'
    rw [P.outs_split hℓ', List.count_append]
    have : (outsFrom M ℓ' (lpState M ℓ' (s.disp ℓ')) (remOf G s ℓ')).count y = 0 := by
      rw [List.count_eq_zero]
      intro hmem
      obtain ⟨P0, c, S, hl, hyc⟩ := mem_outsFrom M ℓ' _ _ hmem
      have hG : G ℓ' = (s.disp ℓ' ++ P0) ++ c :: S := by
        rw [P.split hℓ', hl, List.append_assoc]
      by_cases hct : c.t < g
      · have hb := (V ℓ' hℓ' _ c S hG hct y (by rw [lpState_append]; exact hyc)).1
        have hcR : c ∈ remAll M G g s := mem_remAll.mpr ⟨ℓ', hℓ', by rw [hl]; simp, hct⟩
        rw [hmin c hcR] at hb
        exact Bool.noConfusion hb
      · exact hct (Nat.lt_of_le_of_lt (T ℓ' _ c y hyc) hyt)
    rw [this, Nat.add_zero]
  have hrem := P.count_rem H hℓy hyt
  rw [hout, ← P.cnt y] at hrem
  have heq : (remOf G s y.dest).count y = s.pending.count y := Nat.add_right_cancel hrem
  exact List.count_pos_iff.mp (heq ▸ List.count_pos_iff.mpr hyr)

theorem Phase1.step_of_next (P : Phase1 M G g s) {e : Event} (he : e ∈ s.pending) (hlt : e.t < g)
    (hd : e.dest < M.nLps) {S : List Event} (hS : remOf G s e.dest = e :: S) :
    Phase1 M G g (dispatch M { s with pending := s.pending.erase e } e) := by
  have hne := P.ne _ hd
  have hlp : ∀ ℓ, ℓ < M.nLps →
      upd s.disp e.dest (s.disp e.dest ++ [e]) ℓ <+: G ℓ ∧
      upd s.disp e.dest (s.disp e.dest ++ [e]) ℓ ≠ [] ∧
      (∀ x ∈ (upd s.disp e.dest (s.disp e.dest ++ [e]) ℓ).tail, x.t < g) ∧
      upd s.st e.dest (M.handler e.dest (s.st e.dest) e).1 ℓ =
        lpState M ℓ (upd s.disp e.dest (s.disp e.dest ++ [e]) ℓ) := by
    intro ℓ hℓ
    by_cases h : ℓ = e.dest
    · subst h
      rw [upd_same, upd_same, lpState_snoc, ← P.st _ hd, List.tail_append_of_ne_nil hne]
      refine ⟨⟨S, by rw [P.split hd, hS, List.append_assoc]; rfl⟩, by simp, ?_, rfl⟩
      intro x hx
      rcases List.mem_append.mp hx with hx | hx
      · exact P.low _ hd x hx
      · rw [List.mem_singleton.mp hx]; exact hlt
    · rw [upd_other _ _ h, upd_other _ _ h]
      exact ⟨P.pre ℓ hℓ, P.ne ℓ hℓ, P.low ℓ hℓ, P.st ℓ hℓ⟩
  refine ⟨fun ℓ hℓ => (hlp ℓ hℓ).1, fun ℓ hℓ => (hlp ℓ hℓ).2.1, fun ℓ hℓ => (hlp ℓ hℓ).2.2.1,
    fun ℓ hℓ => (hlp ℓ hℓ).2.2.2, ?_⟩
  intro x
  -- `e` moves from the bag to the dispatched events, its outputs join the bag and the outputs
  simp only [dispatch_pending, dispatch_disp, List.count_append]
  rw [restAll_snoc (additive_count x) hd hne e, outsAll_snoc (additive_count x) M hd s.disp e,
    ← P.st _ hd, ← P.cnt x, ← count_erase_add he x]
  ac_rfl

end phase1

/-! ### Phase 2: nothing below `g` is pending any more -/

structure Phase2 (M : SimModel σ) (G : Nat → List Event) (g : Nat) (s : SeqState σ) : Prop where
  late : ∀ x ∈ s.pending, g ≤ x.t
  disp : ∀ ℓ, ℓ < M.nLps → ∃ L, s.disp ℓ = initEv ℓ :: ((G ℓ).tail.filter (below g) ++ L) ∧
    ∀ x ∈ L, g ≤ x.t

section phase2
variable {M : SimModel σ} {G : Nat → List Event} {g : Nat} {s : SeqState σ}

theorem Phase2.step (T : TimeMono M) (P : Phase2 M G g s) {e : Event} (he : e ∈ s.pending) :
    Phase2 M G g (dispatch M { s with pending := s.pending.erase e } e) := by
  have het := P.late e he
  refine ⟨?_, ?_⟩
  · intro x hx
    rw [dispatch_pending, List.mem_append] at hx
    rcases hx with hx | hx
    · exact P.late x (List.mem_of_mem_erase hx)
    · exact Nat.le_trans het (T _ _ _ x hx)
  · intro ℓ hℓ
    obtain ⟨L, hL, hLl⟩ := P.disp ℓ hℓ
    rw [dispatch_disp]
    by_cases h : ℓ = e.dest
    · subst h
      rw [upd_same]
      refine ⟨L ++ [e], by rw [hL]; simp, ?_⟩
      intro x hx
      rcases List.mem_append.mp hx with hx | hx
      · exact hLl x hx
      · rw [List.mem_singleton.mp hx]; exact het
    · rw [upd_other _ _ h]; exact ⟨L, hL, hLl⟩

theorem Phase2.filter_eq (H : Hist M G g) (P : Phase2 M G g s) {ℓ : Nat} (hℓ : ℓ < M.nLps) :
    (s.disp ℓ).filter (below g) = (G ℓ).filter (below g) := by
  obtain ⟨L, hL, hLl⟩ := P.disp ℓ hℓ
  obtain ⟨rest, hr⟩ := H.cons hℓ
  rw [hL, hr]
  simp only [List.filter_cons, List.tail_cons, List.filter_append, List.filter_filter, Bool.and_self,
    filter_below_nil hLl, List.append_nil]

theorem Phase2.filter_prefix (H : Hist M G g) (P : Phase2 M G g s) {ℓ : Nat} (hℓ : ℓ < M.nLps) :
    (G ℓ).filter (below g) <+: s.disp ℓ := by
  obtain ⟨L, hL, _⟩ := P.disp ℓ hℓ
  obtain ⟨rest, hrest⟩ := H.cons hℓ
  rw [hL, hrest, List.tail_cons]
  by_cases h0 : 0 < g
  · have : below g (initEv ℓ) = true := decide_eq_true h0
    rw [List.filter_cons_of_pos this, List.cons_prefix_cons]
    exact ⟨rfl, List.prefix_append _ _⟩
  · rw [filter_below_nil fun x _ => Nat.le_trans (Nat.le_of_not_lt h0) (Nat.zero_le _)]
    exact List.nil_prefix

end phase2

/-- `LP_INIT` dispatched to the LPs `0 .. n-1` -/
def initN (M : SimModel σ) (n : Nat) : SeqState σ :=
  (List.range n).foldl (fun s ℓ => dispatch M s (initEv ℓ)) (start M)

theorem initN_succ (M : SimModel σ) (n : Nat) :
    initN M (n + 1) = dispatch M (initN M n) (initEv n) := by
  simp [initN, List.range_succ, List.foldl_append]

theorem initN_spec (M : SimModel σ) : ∀ n,
    (initN M n).pending = (List.range n).flatMap (fun ℓ => (M.handler ℓ (M.init ℓ) (initEv ℓ)).2) ∧
    (∀ ℓ, (initN M n).st ℓ = if ℓ < n then (M.handler ℓ (M.init ℓ) (initEv ℓ)).1 else M.init ℓ) ∧
    (∀ ℓ, (initN M n).disp ℓ = if ℓ < n then [initEv ℓ] else []) := by
  intro n
  induction n with
  | zero => simp [initN, start]
  | succ n ih =>
    obtain ⟨h1, h2, h3⟩ := ih
    have hd : (initEv n).dest = n := rfl
    have hst : (initN M n).st n = M.init n := by rw [h2, if_neg (Nat.lt_irrefl _)]
    have hlt : ∀ {ℓ}, ℓ ≠ n → (ℓ < n + 1 ↔ ℓ < n) := fun h =>
      ⟨fun h' => Nat.lt_of_le_of_ne (Nat.le_of_lt_succ h') h, Nat.lt_succ_of_lt⟩
    rw [initN_succ]
    refine ⟨?_, ?_, ?_⟩
    · rw [dispatch_pending, h1, hd, hst, List.range_succ, List.flatMap_append]
      simp only [List.flatMap_cons, List.flatMap_nil, List.append_nil]
    · intro ℓ
      rw [dispatch_st, hd, hst]
      by_cases h : ℓ = n
      · subst h; rw [upd_same, if_pos (Nat.lt_succ_self _)]
      · rw [upd_other _ _ h, h2]; simp only [hlt h]
    · intro ℓ
      rw [dispatch_disp, hd]
      by_cases h : ℓ = n
      · subst h; rw [upd_same, h3, if_neg (Nat.lt_irrefl _), if_pos (Nat.lt_succ_self _)]; rfl
      · rw [upd_other _ _ h, h3]; simp only [hlt h]

theorem init_eq_initN (M : SimModel σ) : init M = initN M M.nLps := rfl

theorem init_disp (M : SimModel σ) {ℓ : Nat} (hℓ : ℓ < M.nLps) : (init M).disp ℓ = [initEv ℓ] := by
  rw [init_eq_initN, (initN_spec M M.nLps).2.2, if_pos hℓ]

theorem phase1_init {M : SimModel σ} {G : Nat → List Event} {g : Nat} (H : Hist M G g) :
    Phase1 M G g (init M) := by
  obtain ⟨h1, h2, _⟩ := initN_spec M M.nLps
  refine ⟨?_, ?_, ?_, ?_, ?_⟩
  · intro ℓ hℓ
    obtain ⟨rest, hr⟩ := H.cons hℓ
    rw [init_disp M hℓ, hr]
    exact ⟨rest, rfl⟩
  · intro ℓ hℓ; rw [init_disp M hℓ]; simp
  · intro ℓ hℓ x hx; rw [init_disp M hℓ] at hx; simp at hx
  · intro ℓ hℓ; rw [init_disp M hℓ, init_eq_initN, h2, if_pos hℓ]; rfl
  · intro x
    have hr : (restAll M.nLps (init M).disp).count x = 0 := by
      rw [List.count_eq_zero]
      simp only [restAll, List.mem_flatMap, List.mem_range, not_exists, not_and]
      intro ℓ hℓ; rw [init_disp M hℓ]; simp
    have ho : (outsAll M (init M).disp).count x = (init M).pending.count x := by
      rw [init_eq_initN, h1, ← init_eq_initN]
      apply add_flatMap_congr (additive_count x)
      intro ℓ hℓ
      rw [init_disp M (List.mem_range.mp hℓ)]
      exact congrArg _ (List.append_nil _)
    rw [hr, ho]
    rfl

theorem reachable_st {M : SimModel σ} {s : SeqState σ} (hr : Reachable M s) :
    ∀ ℓ, s.st ℓ = lpState M ℓ (s.disp ℓ) := by
  induction hr with
  | init =>
    intro ℓ
    obtain ⟨_, h2, h3⟩ := initN_spec M M.nLps
    rw [init_eq_initN, h2, h3]
    by_cases h : ℓ < M.nLps <;> simp [h, lpState, stFrom]
  | @step s _ _ hs ih =>
    cases hs with
    | mk e hmem hmin =>
      intro ℓ
      rw [dispatch_disp, dispatch_st]
      by_cases h : ℓ = e.dest
      · subst h
        rw [upd_same, upd_same, lpState_snoc]
        exact congrArg (fun st => (M.handler e.dest st e).1) (ih e.dest)
      · rw [upd_other _ _ h, upd_other _ _ h]; exact ih ℓ

theorem pickMin_some {l : List Event} {e : Event} (h : pickMin l = some e) :
    e ∈ l ∧ Minimal e l := by
  unfold pickMin at h
  refine ⟨List.mem_of_find?_eq_some h, ?_⟩
  have := List.find?_some h
  intro e' he'
  simpa using List.all_eq_true.mp this e' he'

theorem seqStep_step {M : SimModel σ} {s s' : SeqState σ} (h : seqStep M s = some s') :
    Step M s s' := by
  unfold seqStep at h
  split at h
  · cases h
  · rename_i e he
    obtain ⟨hm, hmin⟩ := pickMin_some he
    cases h
    exact Step.mk s e hm hmin

theorem seqRunFrom_reachable {M : SimModel σ} (n : Nat) (s : SeqState σ) (h : Reachable M s) :
    Reachable M (seqRunFrom M n s) := by
  induction n generalizing s with
  | zero => exact h
  | succ n ih =>
    unfold seqRunFrom
    split
    · exact h
    · rename_i s' hs
      exact ih s' (Reachable.step h (seqStep_step hs))

theorem seqRunN_reachable (M : SimModel σ) (n : Nat) : Reachable M (seqRunN M n) :=
  seqRunFrom_reachable n _ Reachable.init

theorem Hist.mono {M : SimModel σ} {G : Nat → List Event} {g' g : Nat} (hg : g' ≤ g)
    (H : Hist M G g) : Hist M G g' :=
  ⟨H.head, H.dest, H.sorted, fun ℓ hℓ e he => H.arrived ℓ hℓ e (Nat.lt_of_lt_of_le he hg)⟩

theorem V2sBelow.mono {M : SimModel σ} {G : Nat → List Event} {g' g : Nat} (hg : g' ≤ g)
    (V : V2sBelow M G g) : V2sBelow M G g' :=
  fun ℓ hℓ P c S hG hc => V ℓ hℓ P c S hG (Nat.lt_of_lt_of_le hc hg)

theorem V2s.below {M : SimModel σ} (V : V2s M) (G : Nat → List Event) (g : Nat) : V2sBelow M G g :=
  fun ℓ _ _ c _ _ _ o ho => ⟨(V ℓ _ c o ho).1, (V ℓ _ c o ho).2.1⟩

theorem V2s.timeMono {M : SimModel σ} (V : V2s M) : TimeMono M :=
  fun ℓ s c o ho => Event.t_le_of_before (V ℓ s c o ho).1

theorem arrivedCheck_sound {M : SimModel σ} {G : Nat → List Event} {g ℓ : Nat}
    (h : arrivedCheck M G g ℓ = true) (e : Event) (he : e.t < g) :
    (G ℓ).tail.count e = ((outsAll M G).filter (fun o => decide (o.dest = ℓ))).count e := by
  unfold arrivedCheck at h
  simp only [List.all_eq_true] at h
  by_cases hm : e ∈ (G ℓ).tail ++ (outsAll M G).filter (fun o => decide (o.dest = ℓ))
  · have := h e hm
    simpa [below, he] using this
  · rw [List.mem_append, not_or] at hm
    rw [List.count_eq_zero.mpr hm.1, List.count_eq_zero.mpr hm.2]

theorem histCheck_sound {M : SimModel σ} {G : Nat → List Event} {g : Nat}
    (h : histCheck M G g = true) : Hist M G g := by
  unfold histCheck at h
  simp only [List.all_eq_true, List.mem_range, Bool.and_eq_true, decide_eq_true_eq] at h
  refine ⟨fun ℓ hℓ => (h ℓ hℓ).1.1.1, fun ℓ hℓ e he => (h ℓ hℓ).1.1.2 e he,
    fun ℓ hℓ => (h ℓ hℓ).1.2, fun ℓ hℓ => arrivedCheck_sound (h ℓ hℓ).2⟩

end RootSim.Spec
