import RootSim.Model.MsgAutoRemote
import RootSim.Proofs.MsgAuto
/-!
Reachable state space of the remote per-message automaton (computed by search, *checked* by the kernel:
contains the initial state, closed under every action, every state satisfies `GoodR` / `ProgR`).
-/
namespace RootSim.MsgAuto

def RR : List RState :=
  (bfsBy RState.code RState.decode rsuccs 200 [RState.init.code] [RState.init.code]).map RState.decode

def RRcodes : List Nat := bfsBy RState.code RState.decode rsuccs 200 [RState.init.code] [RState.init.code]

def rrank (s : RState) : Nat :=
  40 * ((if s.posFlight then 1 else 0) + (if s.antiFlight then 1 else 0)) +
  16 * (if s.rpend then 1 else 0) + 12 * (s.rq + s.aq) +
  (match s.pc with | .idle => 0 | .handR => 10 | .procR => 8 | .earlyM => 1 | .handA => 10 | .rbA => 6 | .freeRA => 1) +
  (if s.rHist then 2 else 0) + (if s.aEarly then 3 else 0) + (if s.sref then 1 else 0) + (if s.sAtGvt then 1 else 0)

def risSys (s : RState) (a : RAct) : Bool := !a.isEnv || (a == .unprocessR && s.pc == .rbA)

def onR (p : XPc) : Bool := p == .handR || p == .procR || p == .earlyM || p == .rbA || p == .freeRA
def onA (p : XPc) : Bool := p == .handA || p == .earlyM || p == .rbA || p == .freeRA

/-- Safety facts of the remote automaton, part A: no double release, no use of a released buffer -/
def GoodRA (s : RState) : Prop :=
  s.err = false ∧
  -- no buffer released twice
  s.sLife ≠ .dfreed ∧ s.rLife ≠ .dfreed ∧ s.aLife ≠ .dfreed ∧
  -- at most one queue copy of each
  s.rq ≤ 1 ∧ s.aq ≤ 1 ∧
  -- the low bits of the flag words never carry into the id
  s.rLow < 4 ∧ s.aLow < 3

/-- part B: released buffers are referenced by nothing that can still touch them (in particular MPI does
not read a released send buffer) -/
def GoodRB (s : RState) : Prop :=
  (s.rLife = .freed → s.rq = 0 ∧ s.rHist = false ∧ onR s.pc = false ∧ s.rpend = false) ∧
  (s.aLife = .freed → s.aq = 0 ∧ s.aEarly = false ∧ onA s.pc = false) ∧
  (s.sLife = .freed → s.sref = false ∧ s.sAtGvt = false ∧ s.posFlight = false ∧ s.antiFlight = false)

/-- part C: live buffers are held by somebody (no orphan) -/
def GoodRC (s : RState) : Prop :=
  (s.rLife = .live → 0 < s.rq ∨ s.rHist = true ∨ onR s.pc = true ∨ s.rpend = true) ∧
  (s.aLife = .live → 0 < s.aq ∨ s.aEarly = true ∨ onA s.pc = true) ∧
  (s.sLife = .live → s.sref = true ∨ s.sAtGvt = true) ∧
  -- the search of `p_msgs` during the rollback finds `R`
  (s.pc = .rbA → s.rHist = true)

/-- part D: exactly-once cancellation -/
def GoodRD (s : RState) : Prop :=
  -- once the receiver has handled the anti copy, `R` is never dispatched forward again
  s.fwdAfterObs = false ∧ (s.obs = true → s.pc ≠ .procR) ∧
  -- `R` is undone after the anti was handled at most once, exactly when it was found in the history
  s.unpAfterObs ≤ (if s.hitHist then 1 else 0) ∧
  (s.hitHist = true → s.aLife = .freed → s.unpAfterObs = 1) ∧
  -- an early anti waits only for a positive copy that has not been processed
  (s.aEarly = true → s.rHist = false ∧ s.pc ≠ .procR) ∧
  -- anti copies exist only for cancelled messages
  (s.aLife ≠ .fresh → s.cancelled = true) ∧ (s.antiFlight = true → s.cancelled = true)

instance (s : RState) : Decidable (GoodRA s) := by unfold GoodRA; infer_instance
instance (s : RState) : Decidable (GoodRB s) := by unfold GoodRB; infer_instance
instance (s : RState) : Decidable (GoodRC s) := by unfold GoodRC; infer_instance
instance (s : RState) : Decidable (GoodRD s) := by unfold GoodRD; infer_instance

def GoodR (s : RState) : Prop := GoodRA s ∧ GoodRB s ∧ GoodRC s ∧ GoodRD s
instance (s : RState) : Decidable (GoodR s) := by unfold GoodR; infer_instance

def ProgR (s : RState) : Bool :=
  -- every runtime action decreases `rrank` (so only environment actions can prolong an execution)
  (RAct.all.all (fun a => match rstep s a with
      | some s' => !risSys s a || decide (rrank s' < rrank s) | none => true)) &&
  -- a state without enabled action: everything released, except possibly an anti copy that is left
  -- in `early_antis` at shutdown (see `Props/C06.lean: early_anti_leak_at_shutdown`)
  (!(rsuccs s).isEmpty ||
     (s.sLife == .freed && (s.rLife == .freed || s.rLife == .fresh) &&
      (s.aLife == .freed || s.aLife == .fresh || (s.aLife == .live && s.aEarly && s.down)))) &&
  -- before shutdown a cancelled message with a live receiver-side buffer always has a runtime action enabled
  (!(s.cancelled && !s.down && !s.committed && (s.rLife == .live || s.aLife == .live || s.posFlight || s.antiFlight)) ||
     RAct.all.any (fun a => risSys s a && (rstep s a).isSome))

theorem RR_facts : RState.init ∈ RR ∧ closedBy RState.code RState.decode rsuccs RRcodes = true ∧
    ∀ s ∈ RR, GoodR s ∧ ProgR s = true := by
  decide +kernel

theorem RAct.mem_all (a : RAct) : a ∈ RAct.all := by cases a <;> decide

theorem RR_init : RState.init ∈ RR := RR_facts.1

theorem RR_step {s s' : RState} {a : RAct} (hs : s ∈ RR) (h : rstep s a = some s') : s' ∈ RR :=
  closedBy_spec RR_facts.2.1 hs (List.mem_filterMap.mpr ⟨a, RAct.mem_all a, h⟩)

theorem RR_run {s s' : RState} (acts : List RAct) (hs : s ∈ RR) (h : rrun s acts = some s') : s' ∈ RR := by
  induction acts generalizing s with
  | nil => exact Option.some.inj h ▸ hs
  | cons a as ih =>
    cases h1 : rstep s a with
    | none => simp [rrun, h1] at h
    | some s1 => rw [rrun, h1] at h; exact ih (RR_step hs h1) h

theorem RR_good {s : RState} (hs : s ∈ RR) : GoodR s := (RR_facts.2.2 s hs).1

theorem RR_prog {s : RState} (hs : s ∈ RR) : ProgR s = true := (RR_facts.2.2 s hs).2

end RootSim.MsgAuto
