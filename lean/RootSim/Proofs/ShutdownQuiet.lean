import RootSim.Proofs.ShutdownMeasure
/-!
# The F1 region is deadlock-free when no GVT round is open or started after the trigger (all thread counts)

`Quiet`: every thread is idle in the GVT machine, no computation is open
(`gvt_nodes = 0`, `c_b = 0`) and every thread is somewhere between the loop head and the second barrier
of `gvt_msg_drain`. `stepQ`: the steps in which thread 0 does not start a new computation from the worker
loop (`timer = false`) and `RootsimStop` is not called again. Under these two hypotheses — exactly what
finding F1 violates — some thread can always move until all threads have arrived at the second barrier
(`milestone`), i.e. until nobody is in the flush loop any more.
-/
namespace RootSim.Shutdown

/-- the steps under the hypothesis "no round is started after the trigger, no further `RootsimStop`" -/
def stepQ (v : Variant) (s : St) : Act → St
  | .run i _ vo => step v s (.run i false vo)
  | .stop _ => s
  | .zero => step v s .zero

def quietTh (t : Th) : Prop :=
  t.tph = .idle ∧
  ((t.pc = .head ∧ t.nb = 0) ∨ (t.pc = .body ∧ t.nb = 0) ∨ (t.pc = .flush ∧ t.nb = 0) ∨
   (t.pc = .barArrive 0 ∧ t.nb = 0) ∨ (t.pc = .barWait 0 ∧ t.nb = 1) ∨ (t.pc = .barArrive 1 ∧ t.nb = 1) ∨
   (t.pc = .barWait 1 ∧ t.nb = 2))

def Quiet (s : St) : Prop :=
  s.cb = 0 ∧ s.gvtNodes = 0 ∧ ∀ t ∈ s.ths, quietTh t

/-- every thread has arrived at the second barrier of the drain: nobody is in the flush loop any more -/
def milestone (s : St) : Bool := s.ths.all (fun t => decide (2 ≤ t.nb))

/-- after the trigger a step of `stepQ` changes nothing, or decreases `measure` and keeps the side conditions -/
theorem stepQ_measure (v : Variant) (hcf : v.closeFix = false) (s : St) (htr : triggered s = true)
    (hz : v.zeroFix = true ∨ s.zq = false) (a : Act) :
    stepQ v s a = s ∨
    (measure (stepQ v s a) < measure s ∧ triggered (stepQ v s a) = true ∧
      (v.zeroFix = true ∨ (stepQ v s a).zq = false) ∧ (stepQ v s a).n = s.n) := by
  cases a with
  | stop i => left; rfl
  | zero => exact step_measure v hcf s htr hz .zero (fun i h => by cases h)
  | run i tm vo => exact step_measure v hcf s htr hz (.run i false vo) (fun j h => by cases h)

theorem stepQ_side (v : Variant) (hcf : v.closeFix = false) (s : St) (htr : triggered s = true)
    (hz : v.zeroFix = true ∨ s.zq = false) (a : Act) :
    triggered (stepQ v s a) = true ∧ (v.zeroFix = true ∨ (stepQ v s a).zq = false) ∧ (stepQ v s a).n = s.n := by
  rcases stepQ_measure v hcf s htr hz a with h | h
  · rw [h]; exact ⟨htr, hz, rfl⟩
  · exact h.2

theorem setTh_ne (s : St) (i : Nat) (t t' : Th) (ht : s.ths[i]? = some t) (hne : t' ≠ t) : setTh s i t' ≠ s := by
  intro h
  have hi : i < s.ths.length := (List.getElem?_eq_some_iff.mp ht).1
  have h1 : (setTh s i t').ths[i]? = some t' := by simp [setTh, hi]
  rw [h, ht] at h1
  exact hne (Option.some.inj h1).symm

theorem gvtPhaseRun_quiet (v : Variant) (s : St) (i : Nat) (t : Th) (hq : Quiet s) (ht : t.tph = .idle) :
    gvtPhaseRun v s i t false = (s, t, false) := by
  simp [gvtPhaseRun, ht, hq.1]

/-- where a quiet thread is after its next step, if that step is not a spin in a barrier: with no GVT round
about, the threads just walk from the loop head to the second barrier of the drain -/
def qnext (t : Th) : Th :=
  match t.pc with
  | .head => { t with pc := .flush }
  | .body => { t with pc := .head }
  | .flush => { t with pc := .barArrive 0 }
  | .barArrive k => { t with pc := .barWait k, nb := t.nb + 1 }
  | .barWait k => { t with pc := afterBarrier k }
  | _ => t

/-- the thread waits in a barrier that not everybody has reached -/
def heldBack (s : St) (t : Th) : Bool :=
  match t.pc with
  | .barWait _ => !(s.ths.all fun u => decide (t.nb ≤ u.nb))
  | _ => false

theorem heldBack_barWait {s : St} {t : Th} (h : heldBack s t = true) : ∃ k, t.pc = .barWait k := by
  unfold heldBack at h
  split at h
  · exact ⟨_, by assumption⟩
  · cases h

theorem runTh_quiet (v : Variant) (hcf : v.closeFix = false) (s : St) (htr : triggered s = true) (hq : Quiet s)
    (i : Nat) (t : Th) (vo : Bool) (ht : quietTh t) :
    runTh v s i t false vo = if heldBack s t then s else setTh s i (qnext t) := by
  have hnte : ¬ s.nodesToEnd > 0 := by
    simp only [triggered, decide_eq_true_eq] at htr; omega
  obtain ⟨hidle, hpc⟩ := ht
  unfold runTh qnext heldBack
  rcases hpc with ⟨hp, _⟩ | ⟨hp, _⟩ | ⟨hp, _⟩ | ⟨hp, _⟩ | ⟨hp, _⟩ | ⟨hp, _⟩ | ⟨hp, _⟩ <;> rw [hp]
  · simp only [hnte, if_false, Bool.false_eq_true]
  · simp only [gvtPhaseRun_quiet v s i t hq hidle, Bool.false_and, Bool.false_eq_true, if_false]
  · simp only [hcf, hidle, ne_eq, not_true_eq_false, Bool.false_eq_true, if_false]
  · simp only [Bool.false_eq_true, if_false]
  · cases s.ths.all fun u => decide (t.nb ≤ u.nb) <;> rfl
  · simp only [Bool.false_eq_true, if_false]
  · cases s.ths.all fun u => decide (t.nb ≤ u.nb) <;> rfl

theorem quietTh_qnext {t : Th} (ht : quietTh t) : quietTh (qnext t) ∨ (t.pc = .barWait 1 ∧ t.nb = 2) := by
  obtain ⟨hidle, hpc⟩ := ht
  unfold qnext
  rcases hpc with ⟨hp, hn⟩ | ⟨hp, hn⟩ | ⟨hp, hn⟩ | ⟨hp, hn⟩ | ⟨hp, hn⟩ | ⟨hp, hn⟩ | ⟨hp, hn⟩ <;> rw [hp]
  case inr.inr.inr.inr.inr.inr => exact Or.inr ⟨rfl, hn⟩
  all_goals exact Or.inl ⟨hidle, by simp [hn, afterBarrier]⟩

theorem qnext_ne {t : Th} (ht : quietTh t) : qnext t ≠ t := by
  intro h
  have := congrArg Th.pc h
  unfold qnext at this
  rcases ht.2 with ⟨hp, _⟩ | ⟨hp, _⟩ | ⟨hp, _⟩ | ⟨hp, _⟩ | ⟨hp, _⟩ | ⟨hp, _⟩ | ⟨hp, _⟩ <;> rw [hp] at this <;>
    cases this

theorem quietTh_barWait {t : Th} {k : Nat} (ht : quietTh t) (hk : t.pc = .barWait k) : 1 ≤ t.nb := by
  rcases ht.2 with ⟨hp, hn⟩ | ⟨hp, hn⟩ | ⟨hp, hn⟩ | ⟨hp, hn⟩ | ⟨hp, hn⟩ | ⟨hp, hn⟩ | ⟨hp, hn⟩
  any_goals omega
  all_goals rw [hp] at hk; cases hk

theorem quiet_setTh (s : St) (i : Nat) (t' : Th) (h : Quiet s) (ht' : quietTh t') : Quiet (setTh s i t') := by
  obtain ⟨h1, h2, h3⟩ := h
  refine ⟨h1, h2, fun u hu => ?_⟩
  rcases List.mem_or_eq_of_mem_set hu with hu | rfl
  · exact h3 u hu
  · exact ht'

theorem quiet_step (v : Variant) (hcf : v.closeFix = false) (s : St) (htr : triggered s = true) (hq : Quiet s)
    (a : Act) : Quiet (stepQ v s a) ∨ milestone (stepQ v s a) = true := by
  cases a with
  | stop i => exact Or.inl hq
  | zero =>
    simp only [stepQ, step]
    split <;> exact Or.inl hq
  | run i tm vo =>
    simp only [stepQ, step]
    split
    next t ht =>
      have hqt := hq.2.2 t (List.mem_of_getElem? ht)
      rw [runTh_quiet v hcf s htr hq i t vo hqt]
      cases hheld : heldBack s t
      · rw [if_neg Bool.false_ne_true]
        rcases quietTh_qnext hqt with hq' | ⟨hb, hn⟩
        · exact Or.inl (quiet_setTh s i _ hq hq')
        · -- the thread leaves the second barrier: every thread has arrived there
          unfold heldBack at hheld
          rw [hb] at hheld
          have hg : ∀ u ∈ s.ths, t.nb ≤ u.nb := by simpa using hheld
          simp only [milestone, setTh, List.all_eq_true, decide_eq_true_eq]
          refine Or.inr fun u hu => ?_
          rcases List.mem_or_eq_of_mem_set hu with hu | rfl
          · have := hg u hu; omega
          · unfold qnext; rw [hb]; exact Nat.le_of_eq hn.symm
      · exact Or.inl hq
    next => exact Or.inl hq

/-- **Deadlock-freedom of the F1 region** (all thread counts): in a quiet state in which termination has been
decided and the milestone is not yet reached, some thread's step changes the state, whatever the schedule's
choices for it. -/
theorem quiet_live (v : Variant) (hcf : v.closeFix = false) (s : St) (htr : triggered s = true) (hq : Quiet s)
    (hm : milestone s = false) :
    ∃ i, i < s.n ∧ ∀ a, owns a i → stepQ v s a ≠ s := by
  -- a thread that is not held back by a barrier moves
  have key : ∀ t ∈ s.ths, heldBack s t = false → ∃ i, i < s.n ∧ ∀ a, owns a i → stepQ v s a ≠ s := by
    intro t htm hfree
    obtain ⟨i, hi, hit⟩ := List.getElem_of_mem htm
    have ht : s.ths[i]? = some t := by rw [List.getElem?_eq_getElem hi, hit]
    refine ⟨i, hi, forall_owns.mpr fun tm vo => ?_⟩
    simp only [stepQ, step, ht]
    rw [runTh_quiet v hcf s htr hq i t vo (hq.2.2 t htm), hfree, if_neg Bool.false_ne_true]
    exact setTh_ne s i t _ ht (qnext_ne (hq.2.2 t htm))
  -- a thread that has not arrived at the second barrier
  simp only [milestone, List.all_eq_false, decide_eq_true_eq, Nat.not_le] at hm
  obtain ⟨t, htm, hlt⟩ := hm
  cases hheld : heldBack s t
  · exact key t htm hheld
  · -- it is held back in the first barrier by some thread that has not arrived there: that one is free
    obtain ⟨k, hk⟩ := heldBack_barWait hheld
    unfold heldBack at hheld
    rw [hk] at hheld
    obtain ⟨u, hu, hlu⟩ : ∃ u ∈ s.ths, u.nb < t.nb := by simpa using hheld
    cases hheld' : heldBack s u
    · exact key u hu hheld'
    · obtain ⟨k', hk'⟩ := heldBack_barWait hheld'
      have := quietTh_barWait (hq.2.2 u hu) hk'
      omega

end RootSim.Shutdown
