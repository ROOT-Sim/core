import RootSim.Model.StatsLoop
import RootSim.Proofs.ListSet
/-!
# The GVT round is a barrier: every thread goes through every round

Inductive invariant of the loop model `RootSim.StatsLoop` (any number of threads, any schedule, both
variants of the flush loop). Each thread has a *position* in the current round (`code`); the positions of all
threads lie in one of twelve windows (`Stage`), which is what the four thread phases A-D and the node phases of
`gvt.c` enforce, and in each window the shared counters `c_a c_b c_c c_d gvt_nodes total_msg_received` are
functions of how many threads stand at each position of the window (`Stage.Holds`). Consequence (`GInv_final` in
`Proofs/StatsLoopInv.lean`): when all threads have reached the barrier of `gvt_msg_drain`, every thread has been
handed the value of every round that was started, in the worker loop or in the flush loop.
-/
namespace RootSim.StatsLoop

/-! ## Positions -/

/-- The position the phases of a thread stand for (`nphase`, `tphase`).
`0` idle · `1..4` first A-D reduction (thread phase A,B,C,D) · `5` `node_sent_reduce` · `6` `node_sent_reduce_wait`
· `7` `node_sent_wait` · `8..11` second A-D reduction · `12` `node_min_reduce` · `13` `node_min_reduce_wait`
(the reducer) · `14` `node_min_wait` · `15` `node_done` (value received) · `17` none of these. -/
def pos : Nat → Nat → Nat
  | 0, 0 => 0
  | 0, 1 => 1 | 0, 2 => 2 | 0, 3 => 3 | 0, 4 => 4
  | 1, 1 => 5 | 2, 1 => 6 | 3, 1 => 7
  | 4, 1 => 8 | 4, 2 => 9 | 4, 3 => 10 | 4, 4 => 11
  | 5, 1 => 12 | 6, 1 => 13 | 7, 1 => 14 | 8, 1 => 15
  | _, _ => 17

/-- Position w.r.t. round number `R` (= rounds started so far) of a thread that has received `tot` values: a
thread that lacks the value of round `R` stands at `0..14`; one that has it stands at `15`, or is idle and through
with the round: `16`. -/
def codeAt (R np tp tot : Nat) : Nat :=
  if tot + 1 = R then (if pos np tp < 15 then pos np tp else 17)
  else if tot = R then (if pos np tp = 15 then 15 else if pos np tp = 0 then 16 else 17)
  else 17

def code (R : Nat) (th : Th) : Nat := codeAt R th.nphase th.tphase (th.records + th.discarded)

theorem codeAt_in {R np tp tot : Nat} (h : tot + 1 = R) :
    codeAt R np tp tot = if pos np tp < 15 then pos np tp else 17 := if_pos h

theorem codeAt_out {R np tp tot : Nat} (h : tot = R) :
    codeAt R np tp tot = if pos np tp = 15 then 15 else if pos np tp = 0 then 16 else 17 := by
  rw [codeAt, if_neg (by omega), if_pos h]

theorem codeAt_cases {R np tp tot : Nat} (h : codeAt R np tp tot ≠ 17) :
    (tot + 1 = R ∧ pos np tp < 15 ∧ codeAt R np tp tot = pos np tp) ∨
    (tot = R ∧ pos np tp = 15 ∧ codeAt R np tp tot = 15) ∨
    (tot = R ∧ pos np tp = 0 ∧ codeAt R np tp tot = 16) := by
  by_cases h1 : tot + 1 = R
  · rw [codeAt_in h1] at h ⊢
    by_cases hp : pos np tp < 15
    · exact .inl ⟨h1, hp, if_pos hp⟩
    · exact absurd (if_neg hp) h
  · by_cases h2 : tot = R
    · rw [codeAt_out h2] at h ⊢
      by_cases hp : pos np tp = 15
      · exact .inr (.inl ⟨h2, hp, if_pos hp⟩)
      · rw [if_neg hp] at h ⊢
        by_cases hp0 : pos np tp = 0
        · exact .inr (.inr ⟨h2, hp0, if_pos hp0⟩)
        · exact absurd (if_neg hp0) h
    · exact absurd (by rw [codeAt, if_neg h1, if_neg h2]) h

theorem pos_eq_zero {np tp : Nat} : pos np tp = 0 → np = 0 ∧ tp = 0 := by
  unfold pos
  split <;> omega

theorem pos_eq_15 {np tp : Nat} : pos np tp = 15 → np = 8 ∧ tp = 1 := by
  unfold pos
  split <;> omega

/-- an idle thread phase goes with the idle node phase only -/
theorem pos_idle (np : Nat) : pos np 0 = 17 ∨ (pos np 0 = 0 ∧ np = 0) := by
  generalize h : 0 = tp
  unfold pos
  split <;> omega

def cnt (R : Nat) (ths : List Th) (k : Nat) : Nat := ths.countP (fun th => code R th == k)

/-- the count vector after one thread has moved from `a` to `b` -/
def upd (c : Nat → Nat) (a b : Nat) : Nat → Nat :=
  fun k => c k - (if a = k then 1 else 0) + (if b = k then 1 else 0)

theorem upd_self (c : Nat → Nat) (a : Nat) (h : c a ≠ 0) : upd c a a = c := by
  funext k
  by_cases hk : a = k
  · subst hk; simp only [upd, if_true]; omega
  · simp [upd, hk]

theorem cnt_pos (R : Nat) (ths : List Th) (i : Nat) (th : Th) (h : ths[i]? = some th) :
    cnt R ths (code R th) ≠ 0 :=
  Nat.ne_of_gt (List.countP_pos_iff.mpr ⟨th, List.mem_of_getElem? h, by simp⟩)

theorem cnt_set (R : Nat) (ths : List Th) (i : Nat) (th th' : Th) (h : ths[i]? = some th) :
    cnt R (ths.set i th') = upd (cnt R ths) (code R th) (code R th') := by
  funext k
  have hp := cnt_pos R ths i th h
  have key : cnt R (ths.set i th') k + (if code R th = k then 1 else 0) =
      cnt R ths k + (if code R th' = k then 1 else 0) := by
    simpa only [cnt, beq_iff_eq] using countP_set_add h th' (fun th => code R th == k)
  by_cases hk : code R th = k
  · rw [hk] at hp; simp only [upd, hk, if_true] at key ⊢; omega
  · simp only [upd, hk, if_false] at key ⊢; omega

theorem cnt_all (R : Nat) (ths : List Th) (k : Nat) (h : cnt R ths k = ths.length) :
    ∀ th ∈ ths, code R th = k := by
  intro th hm
  have := (List.countP_eq_length (p := fun th => code R th == k) (l := ths)).mp h th hm
  simpa using this

theorem cnt_const (R : Nat) (ths : List Th) (k : Nat) (h : ∀ th ∈ ths, code R th = k) (j : Nat) :
    cnt R ths j = if j = k then ths.length else 0 := by
  split
  · subst j; exact List.countP_eq_length.mpr fun th hm => by simp [h th hm]
  · rename_i hj
    exact List.countP_eq_zero.mpr fun th hm => by simp [h th hm, Ne.symm hj]

/-! ## The invariant on the counts -/

/-- the shared variables the invariant speaks about -/
structure Ab where
  cA : Nat
  cB : Nat
  cC : Nat
  cD : Nat
  gn : Nat
  tr : Int
  st : Nat
  cp : Nat

def absSh (sh : Sh) : Ab :=
  { cA := sh.cA, cB := sh.cB, cC := sh.cC, cD := sh.cD, gn := sh.gvtNodes, tr := sh.totalRecv,
    st := sh.started, cp := sh.completed }

def Ab.is (s : Ab) (cA cB cC cD gn : Nat) (tr : Int) : Prop :=
  s.cA = cA ∧ s.cB = cB ∧ s.cC = cC ∧ s.cD = cD ∧ s.gn = gn ∧ s.tr = tr

/-- The window the threads are in: `idle` no round in progress; `a1 b1 c1` the first A-D reduction (threads
gather at 2, then at 3, then at 4); `sent` the count of sent messages is reduced, `scat` the last thread through 5
waits at 6 for the scatter, the others at 7; `a2 b2 c2` the second A-D reduction; `min0` nobody is through 12 yet,
`min1` the minimum is reduced (the first thread through 12 is the reducer, at 13); `done` the value is handed out. -/
inductive Stage | idle | a1 | b1 | c1 | sent | scat | a2 | b2 | c2 | min0 | min1 | done

def Stage.lo : Stage → Nat
  | .idle => 16 | .a1 => 0 | .b1 => 2 | .c1 => 3 | .sent => 4 | .scat => 6 | .a2 => 7 | .b2 => 9 | .c2 => 10
  | .min0 => 11 | .min1 => 11 | .done => 14

def Stage.hi : Stage → Nat
  | .idle => 16 | .a1 => 2 | .b1 => 3 | .c1 => 4 | .sent => 7 | .scat => 7 | .a2 => 9 | .b2 => 10 | .c2 => 11
  | .min0 => 12 | .min1 => 14 | .done => 16

def Win (σ : Stage) (c : Nat → Nat) : Prop := ∀ k, c k ≠ 0 → σ.lo ≤ k ∧ k ≤ σ.hi

/-- the shared variables in stage `σ`, as functions of the counts inside its window -/
def Stage.Holds (n : Nat) (c : Nat → Nat) (s : Ab) : Stage → Prop
  | .idle => c 16 = n ∧ s.is 0 0 0 0 0 0
  | .a1 => c 0 + c 1 + c 2 = n ∧ 1 ≤ c 1 + c 2 ∧ s.is 0 (c 2) 0 0 1 0
  | .b1 => c 2 + c 3 = n ∧ 1 ≤ n ∧ s.is (c 3) (c 2 + c 3) 0 0 1 0
  | .c1 => c 3 + c 4 = n ∧ 1 ≤ n ∧ s.is (c 3 + c 4) (c 3) 0 0 1 0
  | .sent => c 4 + c 5 + c 7 = n ∧ 1 ≤ c 4 + c 5 ∧ c 6 = 0 ∧ s.is (c 4) 0 (c 7) 0 1 ((c 7 : Nat) : Int)
  | .scat => c 6 = 1 ∧ c 7 + 1 = n ∧ s.is 0 0 n 0 1 (n : Int)
  | .a2 => c 7 + c 8 + c 9 = n ∧ 1 ≤ n ∧ s.is 0 (c 9) n 0 1 0
  | .b2 => c 9 + c 10 = n ∧ 1 ≤ n ∧ s.is (c 10) (c 9 + c 10) n 0 1 0
  | .c2 => c 10 + c 11 = n ∧ 1 ≤ n ∧ s.is (c 10 + c 11) (c 10) n 0 1 0
  | .min0 => c 11 + c 12 = n ∧ 1 ≤ n ∧ s.is (c 11) 0 n 0 1 0
  | .min1 => c 11 + c 12 + c 14 + 1 = n ∧ c 13 = 1 ∧ s.is (c 11) 0 n (1 + c 14) 1 0
  | .done => c 14 + c 15 + c 16 = n ∧ 1 ≤ c 14 + c 15 ∧ s.is 0 0 0 (c 14 + c 15) 1 0

/-- `started` runs one ahead of `completed` exactly while a round is in progress -/
def AInv (n : Nat) (c : Nat → Nat) (s : Ab) : Prop :=
  s.st = s.cp + s.gn ∧ ∃ σ : Stage, Win σ c ∧ σ.Holds n c s

theorem Win.zero {σ : Stage} {c : Nat → Nat} (hW : Win σ c) (k : Nat) (hk : ¬ (σ.lo ≤ k ∧ k ≤ σ.hi)) :
    c k = 0 :=
  Classical.byContradiction fun h => hk (hW k h)

/-- A thread moves from `a` to `b`, inside the window or opening the next one: then nobody is left below
the new window (`hz`, over the positions `σ.lo .. σ'.lo - 1`). -/
theorem Win.move {σ σ' : Stage} {c : Nat → Nat} {a b : Nat} (hW : Win σ c)
    (hb : σ'.lo ≤ b ∧ b ≤ σ'.hi) (hhi : σ.hi ≤ σ'.hi)
    (hz : ∀ k ∈ List.range' σ.lo (σ'.lo - σ.lo), upd c a b k = 0) : Win σ' (upd c a b) := by
  intro k hk
  by_cases hkb : b = k
  · exact hkb ▸ hb
  · have hck : c k ≠ 0 := by
      intro h0; apply hk; simp [upd, h0, hkb]
    have := hW k hck
    refine ⟨Nat.le_of_not_lt fun hlt => hk (hz k (List.mem_range'_1.mpr ⟨this.1, ?_⟩)), Nat.le_trans this.2 hhi⟩
    omega

theorem Win.stay {σ : Stage} {c : Nat → Nat} {a b : Nat} (hW : Win σ c) (hb : σ.lo ≤ b ∧ b ≤ σ.hi) :
    Win σ (upd c a b) :=
  hW.move hb (Nat.le_refl _) fun _ hk => absurd hk (by rw [Nat.sub_self]; exact List.not_mem_nil)

/-- One call of `gvt_phase_run` by a thread at position `a` (not the call that starts a round): the
thread moves to `b`, the shared variables from `s` to `s'`; the Boolean says "a value was returned".
The move marked *impossible* is excluded by the invariant. -/
inductive Move (n : Nat) : Nat → Nat → Ab → Ab → Bool → Prop
  | stay (a s) : Move n a a s s false
  | join (s) : s.cB ≠ 0 → Move n 0 1 s s false
  | joinLate (s) : s.cB ≠ 0 → Move n 16 17 s s false                       -- impossible
  | ab (k s) : (k = 1 ∨ k = 8) → s.cA = 0 → Move n k (k+1) s { s with cB := s.cB + 1 } false
  | bc (k s) : (k = 2 ∨ k = 9) → s.cB = n → Move n k (k+1) s { s with cA := s.cA + 1 } false
  | cd (k s) : (k = 3 ∨ k = 10) → s.cA = n → Move n k (k+1) s { s with cB := s.cB - 1 } false
  | de (k s) : (k = 4 ∨ k = 11) → s.cB = 0 → Move n k (k+1) s { s with cA := s.cA - 1 } false
  | sent (s) : s.cA = 0 → s.cC ≠ n - 1 → Move n 5 7 s { s with tr := s.tr + 1, cC := s.cC + 1 } false
  | sentLast (s) : s.cA = 0 → s.cC = n - 1 → Move n 5 6 s { s with tr := s.tr + 1, cC := s.cC + 1 } false
  | scatter (s) : Move n 6 7 s { s with tr := s.tr - (n : Int) } false
  | recvd (s) : s.tr = 0 → Move n 7 8 s s false
  | minFirst (s) : s.cD = 0 → Move n 12 13 s { s with cD := s.cD + 1 } false
  | minLater (s) : s.cD ≠ 0 → Move n 12 14 s { s with cD := s.cD + 1 } false
  | reduced (s) : s.cD = n → Move n 13 15 s { s with cC := s.cC - n } true
  | released (s) : s.cC = 0 → Move n 14 15 s s true
  | done (s) : Move n 15 16 s { s with cD := s.cD - 1, gn := if s.cD = 1 then s.gn - 1 else s.gn,
                                       cp := if s.cD = 1 then s.cp + 1 else s.cp } false

/-- no move starts a round -/
theorem Move.st_eq {n a b : Nat} {s s' : Ab} {v : Bool} (h : Move n a b s s' v) : s'.st = s.st := by
  cases h <;> rfl

/-- In a goal about concrete positions: unfold what the stages say, evaluate the updated counts (`c a - 1`,
`c b + 1`, `c k` elsewhere), leave the arithmetic to `omega`. The problems are small: a window has at most four
positions. -/
macro "count_arith" : tactic => `(tactic| (
  simp only [Stage.Holds, Ab.is, Stage.lo, upd, Nat.reduceEqDiff, if_true, if_false, Nat.add_zero, Nat.sub_zero,
    true_and, and_true] at *
  omega))

/-- the same with the count at the source position written as a successor (`hc : c a = m + 1`), so that `omega`
meets no truncated subtraction `c a - 1`; a statement about the positions below a window is spelt out;
`simp` itself closes the goal when the stage puts nobody at `a`; the shared variables, which the stage gives as
functions of the counts, are substituted before `omega` sees them -/
macro "move_arith" hc:ident : tactic => `(tactic| (
  simp only [Stage.Holds, Ab.is, Stage.lo, upd, Nat.reduceEqDiff, if_true, if_false, Nat.add_zero, Nat.sub_zero,
    true_and, and_true, false_and, and_false, $hc:ident, Nat.add_sub_cancel, Nat.reduceSub, List.range',
    Nat.reduceAdd, List.forall_mem_cons, List.not_mem_nil, false_imp_iff, implies_true] at * <;>
  subst_vars <;>
  omega))

/-- the stages whose window contains the position the thread stands at: the others close by evaluation -/
macro "stages_at" hw:ident : tactic => `(tactic|
  simp only [Stage.lo, Stage.hi, Nat.reduceLeDiff, false_and, and_false] at $hw:ident)

/-- **Every move preserves the invariant on the counts.** A guard that counts to `n` or to `0` opens the next
window. -/
theorem AInv_move (n : Nat) (c : Nat → Nat) (a b : Nat) (s s' : Ab) (v : Bool)
    (hm : Move n a b s s' v) (hpos : c a ≠ 0) (h : AInv n c s) : AInv n (upd c a b) s' := by
  obtain ⟨hst, σ, hW, hσ⟩ := h
  have hw := hW a hpos
  obtain ⟨m, hc⟩ := Nat.exists_eq_add_one_of_ne_zero hpos
  obtain ⟨cA, cB, cC, cD, gn, tr, st, cp⟩ := s
  cases hm
  case stay => rw [upd_self c a hpos]; exact ⟨hst, σ, hW, hσ⟩
  case join hg =>
    cases σ <;> stages_at hw
    case a1 => exact ⟨hst, .a1, hW.stay (by decide), by move_arith hc⟩
  case joinLate hg =>
    -- an idle thread that is through with the round sees `c_b = 0`
    cases σ <;> stages_at hw <;> move_arith hc
  case ab hk hg =>
    rcases hk with rfl | rfl <;> cases σ <;> stages_at hw
    case inl.a1 => exact ⟨hst, .a1, hW.stay (by decide), by move_arith hc⟩
    case inr.a2 => exact ⟨hst, .a2, hW.stay (by decide), by move_arith hc⟩
  case bc hk hg =>
    -- in `a1` (`a2`) the guard `c_b = n` says that every thread stands at 2 (9): this one opens `b1` (`b2`)
    rcases hk with rfl | rfl <;> cases σ <;> stages_at hw
    case inl.a1 =>
      have := hW.zero 3 (by decide)
      exact ⟨hst, .b1, hW.move (by decide) (by decide) (by move_arith hc), by move_arith hc⟩
    case inl.b1 => exact ⟨hst, .b1, hW.stay (by decide), by move_arith hc⟩
    case inr.a2 =>
      have := hW.zero 10 (by decide)
      exact ⟨hst, .b2, hW.move (by decide) (by decide) (by move_arith hc), by move_arith hc⟩
    case inr.b2 => exact ⟨hst, .b2, hW.stay (by decide), by move_arith hc⟩
  case cd hk hg =>
    -- `c_a = n`: every thread stands at 3 (10)
    rcases hk with rfl | rfl <;> cases σ <;> stages_at hw
    case inl.b1 =>
      have := hW.zero 4 (by decide)
      exact ⟨hst, .c1, hW.move (by decide) (by decide) (by move_arith hc), by move_arith hc⟩
    case inl.c1 => exact ⟨hst, .c1, hW.stay (by decide), by move_arith hc⟩
    case inr.b2 =>
      have := hW.zero 11 (by decide)
      exact ⟨hst, .c2, hW.move (by decide) (by decide) (by move_arith hc), by move_arith hc⟩
    case inr.c2 => exact ⟨hst, .c2, hW.stay (by decide), by move_arith hc⟩
  case de hk hg =>
    -- `c_b = 0`: nobody is left at 3 (10)
    rcases hk with rfl | rfl <;> cases σ <;> stages_at hw
    case inl.c1 =>
      have := hW.zero 5 (by decide); have := hW.zero 6 (by decide); have := hW.zero 7 (by decide)
      exact ⟨hst, .sent, hW.move (by decide) (by decide) (by move_arith hc), by move_arith hc⟩
    case inl.sent => exact ⟨hst, .sent, hW.stay (by decide), by move_arith hc⟩
    case inr.c2 =>
      have := hW.zero 12 (by decide)
      exact ⟨hst, .min0, hW.move (by decide) (by decide) (by move_arith hc), by move_arith hc⟩
    case inr.min0 => exact ⟨hst, .min0, hW.stay (by decide), by move_arith hc⟩
    case inr.min1 => exact ⟨hst, .min1, hW.stay (by decide), by move_arith hc⟩
  case sent hg hg2 =>
    -- not the last one through 5: somebody else is still at 4 or 5
    cases σ <;> stages_at hw
    case sent => exact ⟨hst, .sent, hW.stay (by decide), by move_arith hc⟩
  case sentLast hg hg2 =>
    -- `c_c = n - 1`: all the others wait at 7
    cases σ <;> stages_at hw
    case sent => exact ⟨hst, .scat, hW.move (by decide) (by decide) (by move_arith hc), by move_arith hc⟩
  case scatter =>
    cases σ <;> stages_at hw
    case sent => move_arith hc
    case scat =>
      have := hW.zero 8 (by decide); have := hW.zero 9 (by decide)
      exact ⟨hst, .a2, hW.move (by decide) (by decide) (by move_arith hc), by move_arith hc⟩
  case recvd hg =>
    -- in `sent` and `scat` the threads at 7 are counted in `total_msg_received`
    cases σ <;> stages_at hw
    case sent => move_arith hc
    case scat => move_arith hc
    case a2 => exact ⟨hst, .a2, hW.stay (by decide), by move_arith hc⟩
  case minFirst hg =>
    -- `c_d = 0`: the first thread through 12 becomes the reducer
    cases σ <;> stages_at hw
    case min0 =>
      have := hW.zero 13 (by decide); have := hW.zero 14 (by decide)
      exact ⟨hst, .min1, hW.move (by decide) (by decide) (by move_arith hc), by move_arith hc⟩
    case min1 => move_arith hc
  case minLater hg =>
    cases σ <;> stages_at hw
    case min0 => move_arith hc
    case min1 => exact ⟨hst, .min1, hW.stay (by decide), by move_arith hc⟩
  case reduced hg =>
    -- `c_d = n`: every other thread waits at 14
    cases σ <;> stages_at hw
    case min1 =>
      have := hW.zero 15 (by decide); have := hW.zero 16 (by decide)
      exact ⟨hst, .done, hW.move (by decide) (by decide) (by move_arith hc), by move_arith hc⟩
  case released hg =>
    -- in `min1` the reducer has not yet taken `n` off `c_c`
    cases σ <;> stages_at hw
    case min1 => move_arith hc
    case done => exact ⟨hst, .done, hW.stay (by decide), by move_arith hc⟩
  case done =>
    cases σ <;> stages_at hw
    case done =>
      by_cases h1 : cD = 1
      · -- the last thread to leave closes the round
        simp only [h1, if_true]
        exact ⟨by move_arith hc, .idle, hW.move (by decide) (by decide) (by move_arith hc), by move_arith hc⟩
      · simp only [h1, if_false]
        exact ⟨hst, .done, hW.stay (by decide), by move_arith hc⟩

end RootSim.StatsLoop
