import RootSim.Proofs.GenModelContract
import RootSim.Proofs.TimeWarp
import RootSim.Proofs.TimeWarpD
/-!
# The relativised contracts are enough: `M` and `Spec.clamp M` have the same runs

The sequential executor (`Spec.Reachable`), the content-level Time Warp machine (`TW.Reachable`) and the
relaxed tagged machine (`TWD.Reachable`) only ever invoke the handler on ADMISSIBLE arguments
(`Spec.Admissible`: existing LP; a model event or the LP's own `LP_INIT`). Hence, for a model that satisfies the
relativised contract `V2On` (resp. `V2sOn`), every run of `M` is a run of `clamp M`, which satisfies the global
contract `V2` (resp. `V2s`) — and the end-to-end theorems apply.

Both Time Warp machines build their successor states from the handler folded over parts of a history
(`lpState`, `outsFrom`, `toutsFrom`); `M` and `clamp M` agree on these folds as soon as the history is
admissible (`AdmList`), which the machines' invariants give.
-/
namespace RootSim.Spec
open RootSim

variable {σ : Type} {M : SimModel σ}

def AdmList (ℓ : Nat) (L : List Event) : Prop := ∀ e ∈ L, e.type < LP_INIT ∨ e = initEv ℓ

theorem admList_init (ℓ : Nat) : AdmList ℓ [initEv ℓ] := fun _ he => .inr (List.mem_singleton.mp he)

/-- a well-formed history (`LP_INIT` first, then model events), seen through `f`, is admissible -/
theorem admList_of_wf {α : Type} (f : α → Event) {ℓ : Nat} {L : List α} {a : α} (hh : L.head? = some a)
    (ha : f a = initEv ℓ) (ht : ∀ u ∈ L.tail, (f u).type < LP_INIT) : AdmList ℓ (L.map f) := by
  cases L with
  | nil => cases hh
  | cons b L =>
    cases hh
    exact List.forall_mem_cons.mpr ⟨.inr ha, List.forall_mem_map.mpr fun u hu => .inl (ht u hu)⟩

theorem stFrom_clamp {ℓ : Nat} (hℓ : ℓ < M.nLps) {L : List Event} (h : AdmList ℓ L) (s : σ) :
    stFrom (clamp M) ℓ s L = stFrom M ℓ s L := by
  induction L generalizing s with
  | nil => rfl
  | cons e L ih =>
    obtain ⟨he, hL⟩ := List.forall_mem_cons.mp h
    rw [stFrom, stFrom, clamp_handler_of ⟨hℓ, he⟩, ih hL]

theorem outsFrom_clamp {ℓ : Nat} (hℓ : ℓ < M.nLps) {L : List Event} (h : AdmList ℓ L) (s : σ) :
    outsFrom (clamp M) ℓ s L = outsFrom M ℓ s L := by
  induction L generalizing s with
  | nil => rfl
  | cons e L ih =>
    obtain ⟨he, hL⟩ := List.forall_mem_cons.mp h
    rw [outsFrom, outsFrom, clamp_handler_of ⟨hℓ, he⟩, ih hL]

theorem lpState_clamp {ℓ : Nat} (hℓ : ℓ < M.nLps) {L : List Event} (h : AdmList ℓ L) :
    lpState (clamp M) ℓ L = lpState M ℓ L := stFrom_clamp hℓ h _

theorem lt_of_past_eq {α : Type} {past : Nat → List α} {n ℓ : Nat} (hout : ∀ ℓ, n ≤ ℓ → past ℓ = [])
    {K U : List α} {o : α} (hpast : past ℓ = K ++ o :: U) : ℓ < n :=
  Nat.lt_of_not_le fun hge =>
    List.append_ne_nil_of_right_ne_nil K (List.cons_ne_nil o U) (hpast.symm.trans (hout ℓ hge))

theorem dispatch_clamp {s : SeqState σ} {e : Event} (hd : e.dest < M.nLps)
    (ht : e.type < LP_INIT ∨ e = initEv e.dest) : dispatch (clamp M) s e = dispatch M s e := by
  rw [dispatch, dispatch, clamp_handler_of ⟨hd, ht⟩]

theorem initN_clamp {n : Nat} (h : n ≤ M.nLps) : initN (clamp M) n = initN M n := by
  induction n with
  | zero => rfl
  | succ n ih =>
    rw [initN_succ, initN_succ, ih (Nat.le_of_succ_le h)]
    exact dispatch_clamp (show (initEv n).dest < M.nLps from h) (.inr rfl)

theorem init_clamp : init (clamp M) = init M := initN_clamp (Nat.le_refl _)

/-- in every sequential run of a `V2` model everything pending is a model event for an existing LP -/
theorem reachable_pendOk {N : SimModel σ} (V : V2 N) {q : SeqState σ} (hq : Reachable N q) :
    ∀ x ∈ q.pending, x.dest < N.nLps ∧ x.type < LP_INIT := by
  induction hq with
  | init =>
    intro x hx
    rw [init_eq_initN, (initN_spec N N.nLps).1] at hx
    obtain ⟨ℓ, _, hx⟩ := List.mem_flatMap.mp hx
    exact (V _ _ _ x hx).2
  | step _ hs ih =>
    cases hs
    intro x hx
    rcases List.mem_append.mp hx with h | h
    · exact ih x (List.mem_of_mem_erase h)
    · exact (V _ _ _ x h).2

theorem reachable_clamp (V : V2On M) {q : SeqState σ} (hq : Reachable M q) : Reachable (clamp M) q := by
  induction hq with
  | init => exact init_clamp (M := M) ▸ Reachable.init
  | @step s _ _ hs ih =>
    cases hs with | mk e hmem hmin =>
    have hok := reachable_pendOk ((V2On_iff_clamp M).mp V) ih e hmem
    rw [← dispatch_clamp (M := M) hok.1 (.inl hok.2)]
    exact ih.step (.mk s e hmem hmin)

end RootSim.Spec

namespace RootSim.TW
open RootSim RootSim.Spec

variable {σ : Type} {M : SimModel σ}

theorem Inv.adm {N : SimModel σ} {s : TWState} (I : Inv N s) {ℓ : Nat} (hℓ : ℓ < N.nLps) :
    AdmList ℓ (s.past ℓ) :=
  List.map_id (s.past ℓ) ▸ admList_of_wf id (I.head ℓ hℓ) rfl fun e he => (I.dest ℓ hℓ e he).2

theorem outsAll_clamp {D : Nat → List Event} (h : ∀ ℓ, ℓ < M.nLps → AdmList ℓ (D ℓ)) :
    outsAll (clamp M) D = outsAll M D :=
  congrArg List.flatten (List.map_congr_left fun ℓ hℓ =>
    outsFrom_clamp (M := M) (List.mem_range.mp hℓ) (h ℓ (List.mem_range.mp hℓ)) _)

theorem init_clamp : TW.init (clamp M) = TW.init M :=
  congrArg (TWState.mk _ · _) (outsAll_clamp fun ℓ hℓ => by
    show AdmList ℓ (if ℓ < M.nLps then [initEv ℓ] else [])
    rw [if_pos hℓ]; exact admList_init ℓ)

theorem execResult_clamp {ℓ : Nat} (hℓ : ℓ < M.nLps) {e h : Event} {T : List Event} (htype : e.type < LP_INIT)
    (hA : AdmList ℓ (h :: T)) (s : TWState) : execResult (clamp M) s ℓ e h T = execResult M s ℓ e h T := by
  rw [← splitUndo_append e T] at hA
  obtain ⟨hK, hU⟩ := List.forall_mem_append.mp (show AdmList ℓ (keepOf e h T ++ undoOf e T) from hA)
  rw [execResult, execResult, lpState_clamp hℓ hK, outsFrom_clamp hℓ hU,
    clamp_handler_of ⟨hℓ, .inl htype⟩]

theorem antiRollbackResult_clamp {ℓ : Nat} (hℓ : ℓ < M.nLps) {o : Event} {K U : List Event}
    (hA : AdmList ℓ (K ++ o :: U)) (s : TWState) :
    antiRollbackResult (clamp M) s ℓ o K U = antiRollbackResult M s ℓ o K U := by
  obtain ⟨hK, hU⟩ := List.forall_mem_append.mp hA
  rw [antiRollbackResult, antiRollbackResult, lpState_clamp hℓ hK, outsFrom_clamp hℓ hU]

theorem Step.toClamp {s s' : TWState} (I : Inv (clamp M) s) (h : Step M s s') : Step (clamp M) s s' := by
  cases h with
  | exec ℓ e h T hmem hdest hℓ htype hpast =>
    rw [← execResult_clamp hℓ htype (hpast ▸ I.adm hℓ)]
    exact .exec s ℓ e h T hmem hdest hℓ htype hpast
  | annihilate o hp ha => exact .annihilate s o hp ha
  | antiRollback ℓ o K U ha hpast hK =>
    have hℓ : ℓ < M.nLps := lt_of_past_eq I.out hpast
    rw [← antiRollbackResult_clamp hℓ (hpast ▸ I.adm hℓ)]
    exact .antiRollback s ℓ o K U ha hpast hK

theorem reachable_clamp (V : V2On M) {s : TWState} (hr : Reachable M s) : Reachable (clamp M) s := by
  induction hr with
  | init => exact init_clamp (M := M) ▸ Reachable.init
  | step _ hs ih => exact ih.step (hs.toClamp (reachable_inv_V2 ((V2On_iff_clamp M).mp V) ih))

end RootSim.TW

namespace RootSim.TWD
open RootSim RootSim.Spec RootSim.TW RootSim.TWG

variable {σ : Type} {M : SimModel σ}

theorem toutsFrom_clamp {ℓ : Nat} (hℓ : ℓ < M.nLps) {L : List TEntry} (h : AdmList ℓ (evs L)) (s : σ) :
    toutsFrom (clamp M) ℓ s L = toutsFrom M ℓ s L := by
  induction L generalizing s with
  | nil => rfl
  | cons u L ih =>
    obtain ⟨he, hL⟩ := List.forall_mem_cons.mp h
    rw [toutsFrom, toutsFrom, clamp_handler_of ⟨hℓ, he⟩, ih hL]

theorem toutsAll_clamp {D : Nat → List TEntry} (h : ∀ ℓ, ℓ < M.nLps → AdmList ℓ (evs (D ℓ))) :
    toutsAll (clamp M) D = toutsAll M D :=
  congrArg List.flatten (List.map_congr_left fun ℓ hℓ =>
    toutsFrom_clamp (M := M) (List.mem_range.mp hℓ) (h ℓ (List.mem_range.mp hℓ)) _)

theorem init_clamp : TWG.init (clamp M) = TWG.init M :=
  congrArg (TWGState.mk _ · _ _) (toutsAll_clamp fun ℓ hℓ => by
    show AdmList ℓ (evs (if ℓ < M.nLps then [initEntry ℓ] else []))
    rw [if_pos hℓ]; exact admList_init ℓ)

theorem BInv.adm {N : SimModel σ} {s : TWGState} (I : BInv N s) {ℓ : Nat} (hℓ : ℓ < N.nLps) :
    AdmList ℓ (evs (s.past ℓ)) :=
  admList_of_wf TEntry.ev (I.head ℓ hℓ) rfl fun u hu => (I.dest ℓ hℓ u hu).2

theorem execResult_clamp {ℓ : Nat} (hℓ : ℓ < M.nLps) {m : TMsg} {h : TEntry} {Kp W : List TEntry}
    (htype : m.ev.type < LP_INIT) (hA : AdmList ℓ (evs (h :: Kp ++ W))) (s : TWGState) :
    execResult (clamp M) s ℓ m h Kp W = execResult M s ℓ m h Kp W := by
  rw [evs_append] at hA
  obtain ⟨hK, hU⟩ := List.forall_mem_append.mp hA
  rw [execResult, execResult, lpState_clamp hℓ hK, toutsFrom_clamp hℓ hU,
    clamp_handler_of ⟨hℓ, .inl htype⟩]

theorem antiRollbackResult_clamp {ℓ : Nat} (hℓ : ℓ < M.nLps) {o : TEntry} {K U : List TEntry}
    (hA : AdmList ℓ (evs (K ++ o :: U))) (s : TWGState) :
    TWG.antiRollbackResult (clamp M) s ℓ o K U = TWG.antiRollbackResult M s ℓ o K U := by
  rw [evs_append] at hA
  obtain ⟨hK, hU⟩ := List.forall_mem_append.mp hA
  rw [TWG.antiRollbackResult, TWG.antiRollbackResult, lpState_clamp hℓ hK, toutsFrom_clamp hℓ hU]

theorem Step.toClamp {s s' : TWGState} (I : BInv (clamp M) s) (h : Step M s s') : Step (clamp M) s s' := by
  cases h with
  | exec ℓ m h T V W hmem hdest hℓ htype hpast hsplit hstop =>
    have hT : h :: T = h :: (T.take (keepLen m.ev T) ++ V) ++ W := by
      rw [List.cons_append, List.append_assoc, ← hsplit]
      exact congrArg _ (List.take_append_drop _ T).symm
    rw [← execResult_clamp hℓ htype (hT ▸ hpast ▸ I.adm hℓ)]
    exact .exec s ℓ m h T V W hmem hdest hℓ htype hpast hsplit hstop
  | annihilate o hp ha => exact .annihilate s o hp ha
  | antiRollback ℓ o K U ha hpast hK =>
    have hℓ : ℓ < M.nLps := lt_of_past_eq I.out hpast
    rw [← antiRollbackResult_clamp hℓ (hpast ▸ I.adm hℓ)]
    exact .antiRollback s ℓ o K U ha hpast hK

theorem reachable_clamp (V : V2On M) {s : TWGState} (hr : Reachable M s) : Reachable (clamp M) s := by
  induction hr with
  | init => exact init_clamp (M := M) ▸ Reachable.init
  | step _ hs ih => exact ih.step (hs.toClamp (reachable_dinv ((V2On_iff_clamp M).mp V) ih).b)

end RootSim.TWD
