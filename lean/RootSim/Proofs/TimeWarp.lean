import RootSim.Model.TimeWarp
import RootSim.Proofs.SpecV2
/-! The invariant of the abstract global Time Warp machine (`Model/TimeWarp.lean`): in every reachable
state the per-LP histories are well formed (I1) and "pending + processed = sent + anti" holds as an
equation between multiplicities for every event content (I2). It uses the model contract only for
"destinations exist, types are model types", so it holds under `Spec.V2`. From the invariant and a lower
bound `g` of everything pending, `Spec.Hist M s.past g` follows. -/
namespace RootSim.TW
open RootSim RootSim.Spec List

variable {σ : Type}

/-! ### the backward scan of `match_straggler_msg` -/

theorem splitUndo_append (e : Event) (l : List Event) : (splitUndo e l).1 ++ (splitUndo e l).2 = l := by
  induction l with
  | nil => rfl
  | cons x l ih =>
    simp only [splitUndo]
    split
    · rename_i h
      simp only [Bool.and_eq_true, List.isEmpty_iff] at h
      rw [h.1] at ih
      simpa using ih
    · simp [ih]

theorem splitUndo_undone (e : Event) : ∀ l, ∀ x ∈ (splitUndo e l).2, Event.before e x = true := by
  intro l
  induction l with
  | nil => simp [splitUndo]
  | cons a l ih =>
    simp only [splitUndo]
    split
    · rename_i h
      simp only [Bool.and_eq_true] at h
      intro x hx
      rcases List.mem_cons.mp hx with hx | hx
      · rw [hx]; exact h.2
      · exact ih x hx
    · exact ih

/-- the last kept entry is not after the straggler: that is where the scan stops -/
theorem splitUndo_last (e : Event) (l : List Event) (k : Event)
    (h : (splitUndo e l).1.getLast? = some k) : Event.before e k = false := by
  induction l with
  | nil => cases h
  | cons x l ih =>
    simp only [splitUndo] at h
    split at h
    · cases h
    · rename_i hc
      cases hK : (splitUndo e l).1 with
      | nil =>
        rw [hK] at h hc
        cases h
        simpa using hc
      | cons a K =>
        rw [hK, List.getLast?_cons_cons] at h
        exact ih (by rw [hK]; exact h)

theorem pairwise_snoc_of_last {α : Type} {R : α → α → Prop} {l : List α} {e : α}
    (htr : ∀ a k, R a k → R k e → R a e) (hs : l.Pairwise R) (hl : ∀ k, l.getLast? = some k → R k e) :
    (l ++ [e]).Pairwise R := by
  rw [List.pairwise_append]
  refine ⟨hs, List.pairwise_singleton _ _, fun a ha b hb => ?_⟩
  rw [List.mem_singleton.mp hb]
  cases hk : l.getLast? with
  | none => rw [List.getLast?_eq_none_iff.mp hk] at ha; cases ha
  | some k =>
    obtain ⟨ys, rfl⟩ := List.getLast?_eq_some_iff.mp hk
    rcases List.mem_append.mp ha with h | h
    · exact htr a k ((List.pairwise_append.mp hs).2.2 a h k (List.mem_singleton_self k)) (hl k hk)
    · rw [List.mem_singleton.mp h]; exact hl k hk

/-- in a sorted history the kept part with the straggler appended is sorted: the earlier kept entries are
not after the last one, and the order is negatively transitive -/
theorem sorted_keep_snoc {e : Event} {T : List Event}
    (hs : T.Pairwise (fun a b => Event.before b a = false)) :
    ((splitUndo e T).1 ++ [e]).Pairwise (fun a b => Event.before b a = false) := by
  rw [← splitUndo_append e T, List.pairwise_append] at hs
  exact pairwise_snoc_of_last (fun _ _ h₁ h₂ => Event.not_before_trans h₂ h₁) hs.1 (splitUndo_last e T)

theorem keep_snoc (e h : Event) (T : List Event) :
    keepOf e h T ++ [e] = h :: ((splitUndo e T).1 ++ [e]) := rfl

theorem keep_undo (e h : Event) (T : List Event) : keepOf e h T ++ undoOf e T = h :: T := by
  simp [keepOf, undoOf, splitUndo_append]

theorem outsFrom_ok {M : SimModel σ} (V : V2 M) {ℓ : Nat} {st : σ} {l : List Event} {y : Event}
    (h : y ∈ outsFrom M ℓ st l) : y.dest < M.nLps ∧ y.type < LP_INIT := by
  obtain ⟨P, c, S, _, hy⟩ := mem_outsFrom M ℓ st l h
  exact (V ℓ _ c y hy).2

/-- (I1) well-formed histories, (I2) the counting invariant; plus: LPs that do not exist have no
history, and every message and anti-message is a model event for an existing LP -/
structure Inv (M : SimModel σ) (s : TWState) : Prop where
  out    : ∀ ℓ, M.nLps ≤ ℓ → s.past ℓ = []
  head   : ∀ ℓ, ℓ < M.nLps → (s.past ℓ).head? = some (initEv ℓ)
  dest   : ∀ ℓ, ℓ < M.nLps → ∀ e ∈ (s.past ℓ).tail, e.dest = ℓ ∧ e.type < LP_INIT
  sorted : ∀ ℓ, ℓ < M.nLps → (s.past ℓ).tail.Pairwise (fun a b => Event.before b a = false)
  pendOk : ∀ x ∈ s.pending, x.dest < M.nLps ∧ x.type < LP_INIT
  antiOk : ∀ x ∈ s.antis, x.dest < M.nLps ∧ x.type < LP_INIT
  cnt    : ∀ x : Event, s.pending.count x + (restAll M.nLps s.past).count x =
             (outsAll M s.past).count x + s.antis.count x

theorem flatMap_congr_mem {f h : Nat → List Event} (L : List Nat) (hfh : ∀ a ∈ L, f a = h a) :
    L.flatMap f = L.flatMap h := by
  induction L with
  | nil => rfl
  | cons a L ih =>
    rw [List.flatMap_cons, List.flatMap_cons, hfh a mem_cons_self,
      ih fun b hb => hfh b (List.mem_cons_of_mem _ hb)]

theorem init_pending (M : SimModel σ) : (init M).pending = outsAll M (fun ℓ => [initEv ℓ]) := by
  show outsAll M (initPast M) = _
  unfold outsAll
  apply flatMap_congr_mem
  intro ℓ hℓ
  simp [initPast, List.mem_range.mp hℓ]

theorem init_past (M : SimModel σ) {ℓ : Nat} (hℓ : ℓ < M.nLps) : (init M).past ℓ = [initEv ℓ] := by
  simp [init, initPast, hℓ]

theorem inv_init {M : SimModel σ} (V : V2 M) : Inv M (init M) := by
  refine ⟨?_, ?_, ?_, ?_, ?_, ?_, ?_⟩
  · intro ℓ hℓ
    exact if_neg (Nat.not_lt.mpr hℓ)
  · intro ℓ hℓ; rw [init_past M hℓ]; rfl
  · intro ℓ hℓ e he; rw [init_past M hℓ] at he; simp at he
  · intro ℓ hℓ; rw [init_past M hℓ]; exact List.Pairwise.nil
  · intro x hx
    obtain ⟨ℓ, _, hx⟩ := List.mem_flatMap.mp hx
    exact outsFrom_ok V hx
  · intro x hx; simp [init] at hx
  · intro x
    have hr : restAll M.nLps (init M).past = [] :=
      List.flatMap_eq_nil_iff.mpr fun ℓ hℓ => by rw [init_past M (List.mem_range.mp hℓ)]; rfl
    rw [hr]
    rfl

section steps
variable {M : SimModel σ} {s : TWState}

/-- what the steps have in common: the history of one LP `ℓ` and the two bags change. The invariant is
kept if the new history `v` is well formed, the bags contain model events for existing LPs, and the
bag equation balances between what `ℓ` had processed and sent and what it has now. -/
theorem Inv.update (I : Inv M s) {ℓ : Nat} (hℓ : ℓ < M.nLps) {v p a : List Event}
    (hhead : v.head? = some (initEv ℓ))
    (hdest : ∀ e ∈ v.tail, e.dest = ℓ ∧ e.type < LP_INIT)
    (hsorted : v.tail.Pairwise (fun a b => Event.before b a = false))
    (hp : ∀ x ∈ p, x.dest < M.nLps ∧ x.type < LP_INIT)
    (ha : ∀ x ∈ a, x.dest < M.nLps ∧ x.type < LP_INIT)
    (hcnt : ∀ x, p.count x + v.tail.count x + (outs M ℓ (s.past ℓ)).count x + s.antis.count x =
      s.pending.count x + (s.past ℓ).tail.count x + (outs M ℓ v).count x + a.count x) :
    Inv M { past := upd s.past ℓ v, pending := p, antis := a } := by
  have hlp : ∀ ℓ', ℓ' < M.nLps → (upd s.past ℓ v ℓ').head? = some (initEv ℓ') ∧
      (∀ e ∈ (upd s.past ℓ v ℓ').tail, e.dest = ℓ' ∧ e.type < LP_INIT) ∧
      (upd s.past ℓ v ℓ').tail.Pairwise (fun a b => Event.before b a = false) := by
    intro ℓ' hℓ'
    by_cases hne : ℓ' = ℓ
    · subst hne; rw [upd_same]; exact ⟨hhead, hdest, hsorted⟩
    · rw [upd_other _ _ hne]; exact ⟨I.head ℓ' hℓ', I.dest ℓ' hℓ', I.sorted ℓ' hℓ'⟩
  refine ⟨fun ℓ' hℓ' => ?_, fun ℓ' hℓ' => (hlp ℓ' hℓ').1, fun ℓ' hℓ' => (hlp ℓ' hℓ').2.1,
    fun ℓ' hℓ' => (hlp ℓ' hℓ').2.2, hp, ha, fun x => ?_⟩
  · show upd s.past ℓ v ℓ' = []
    rw [upd_other _ _ (Nat.ne_of_gt (Nat.lt_of_lt_of_le hℓ hℓ'))]
    exact I.out ℓ' hℓ'
  · have hc := I.cnt x
    have hr := restAll_exchange (additive_count x) hℓ s.past v
    have ho := outsAll_exchange (additive_count x) M hℓ s.past v
    have := hcnt x
    show p.count x + (restAll M.nLps (upd s.past ℓ v)).count x =
      (outsAll M (upd s.past ℓ v)).count x + a.count x
    omega

theorem Inv.exec (V : V2 M) (I : Inv M s) {ℓ : Nat} {e h : Event} {T : List Event}
    (hmem : e ∈ s.pending) (hdest : e.dest = ℓ) (hℓ : ℓ < M.nLps) (htype : e.type < LP_INIT)
    (hpast : s.past ℓ = h :: T) : Inv M (execResult M s ℓ e h T) := by
  have hh : h = initEv ℓ := by
    have := I.head ℓ hℓ
    rw [hpast] at this
    simpa using this
  have hTd := I.dest ℓ hℓ
  have hTs := I.sorted ℓ hℓ
  rw [hpast, List.tail_cons] at hTd hTs
  have happ : (splitUndo e T).1 ++ undoOf e T = T := splitUndo_append e T
  refine I.update hℓ (by rw [keep_snoc, hh]; rfl) ?_ (sorted_keep_snoc hTs) ?_ ?_ ?_
  · intro a ha
    rcases List.mem_append.mp ha with ha | ha
    · exact hTd a (by rw [← happ]; exact List.mem_append_left _ ha)
    · rw [List.mem_singleton.mp ha]; exact ⟨hdest, htype⟩
  · intro x hx
    rcases List.mem_append.mp hx with hx | hx
    · rcases List.mem_append.mp hx with hx | hx
      · exact I.pendOk x (List.mem_of_mem_erase hx)
      · have := hTd x (by rw [← happ]; exact List.mem_append_right _ hx)
        exact ⟨by rw [this.1]; exact hℓ, this.2⟩
    · exact (V ℓ _ e x hx).2
  · intro x hx
    rcases List.mem_append.mp hx with hx | hx
    · exact I.antiOk x hx
    · exact outsFrom_ok V hx
  · intro x
    -- with the old bag, history and outputs decomposed, both sides are the same sum
    have hT : T.count x = (splitUndo e T).1.count x + (undoOf e T).count x := by
      rw [← List.count_append, happ]
    have ho : outs M ℓ (h :: T) = outs M ℓ (keepOf e h T) ++
        outsFrom M ℓ (lpState M ℓ (keepOf e h T)) (undoOf e T) := by
      rw [← outs_append, keep_undo]
    rw [hpast, ho, outs_snoc, keep_snoc, ← count_erase_add hmem x]
    simp only [List.tail_cons, List.count_append, hT]
    ac_rfl

theorem Inv.annihilate (I : Inv M s) {o : Event} (hp : o ∈ s.pending) (ha : o ∈ s.antis) :
    Inv M (annihilateResult s o) := by
  refine ⟨I.out, I.head, I.dest, I.sorted, ?_, ?_, ?_⟩
  · intro x hx; exact I.pendOk x (List.mem_of_mem_erase hx)
  · intro x hx; exact I.antiOk x (List.mem_of_mem_erase hx)
  · intro x
    -- the same copy of `o` leaves both sides of the bag equation
    have hc := I.cnt x
    rw [← count_erase_add hp x, ← count_erase_add ha x, Nat.add_right_comm, ← Nat.add_assoc] at hc
    exact Nat.add_right_cancel hc

theorem Inv.antiRollback_V2 (V : V2 M) (I : Inv M s) {ℓ : Nat} {o : Event} {K U : List Event}
    (ha : o ∈ s.antis) (hpast : s.past ℓ = K ++ o :: U) (hK : K ≠ []) :
    Inv M (antiRollbackResult M s ℓ o K U) := by
  have hℓ : ℓ < M.nLps := Nat.lt_of_not_le fun hge => by
    have := I.out ℓ hge
    rw [hpast] at this
    simp at this
  obtain ⟨k0, Kt, rfl⟩ := List.exists_cons_of_ne_nil hK
  have hhd := I.head ℓ hℓ
  have hTd := I.dest ℓ hℓ
  have hTs := I.sorted ℓ hℓ
  rw [hpast] at hhd hTd hTs
  simp only [List.cons_append, List.tail_cons, List.head?_cons] at hhd hTd hTs
  refine I.update hℓ hhd (fun a ha' => hTd a (List.mem_append_left _ ha'))
    (List.pairwise_append.mp hTs).1 ?_ ?_ ?_
  · intro x hx
    rcases List.mem_append.mp hx with hx | hx
    · exact I.pendOk x hx
    · have := hTd x (List.mem_append_right _ (List.mem_cons_of_mem _ hx))
      exact ⟨by rw [this.1]; exact hℓ, this.2⟩
  · intro x hx
    rcases List.mem_append.mp hx with hx | hx
    · exact I.antiOk x (List.mem_of_mem_erase hx)
    · exact outsFrom_ok V hx
  · intro x
    -- as for `exec`: decompose the old history, its outputs and the anti-message bag
    rw [hpast, outs_append, List.cons_append, List.tail_cons (as := Kt ++ o :: U),
      ← List.singleton_append (l := U), ← count_erase_add ha x]
    simp only [List.tail_cons, List.count_append]
    ac_rfl

theorem Inv.antiRollback (V : V2s M) (I : Inv M s) {ℓ : Nat} {o : Event} {K U : List Event}
    (ha : o ∈ s.antis) (hpast : s.past ℓ = K ++ o :: U) (hK : K ≠ []) :
    Inv M (antiRollbackResult M s ℓ o K U) :=
  I.antiRollback_V2 V.toV2 ha hpast hK

theorem Inv.step (V : V2 M) (I : Inv M s) {s' : TWState} (h : Step M s s') : Inv M s' := by
  cases h with
  | exec ℓ e h T hmem hdest hℓ htype hpast => exact I.exec V hmem hdest hℓ htype hpast
  | annihilate o hp ha => exact I.annihilate hp ha
  | antiRollback ℓ o K U ha hpast hK => exact I.antiRollback_V2 V ha hpast hK

end steps

theorem reachable_inv_V2 {M : SimModel σ} (V : V2 M) {s : TWState} (hr : Reachable M s) : Inv M s := by
  induction hr with
  | init => exact inv_init V
  | step _ hs ih => exact ih.step V hs

/-! ### from the invariant to the hypotheses of prefix uniqueness -/

theorem Inv.hist {M : SimModel σ} {s : TWState} (I : Inv M s) {g : Nat}
    (hp : ∀ x ∈ s.pending, g ≤ x.t) (ha : ∀ x ∈ s.antis, g ≤ x.t) : Hist M s.past g := by
  refine ⟨I.head, I.dest, I.sorted,
    arrived_of_count_eq (fun ℓ hℓ e he => (I.dest ℓ hℓ e he).1) fun e he hd => ?_⟩
  have h1 : s.pending.count e = 0 :=
    List.count_eq_zero.mpr fun hm => Nat.not_lt.mpr (hp e hm) he
  have h2 : s.antis.count e = 0 :=
    List.count_eq_zero.mpr fun hm => Nat.not_lt.mpr (ha e hm) he
  have hc := I.cnt e
  rwa [h1, h2, Nat.zero_add, Nat.add_zero,
    count_restAll (fun ℓ hℓ e he => (I.dest ℓ hℓ e he).1) hd] at hc

/-! ### the executable step functions perform exactly the steps of the relation -/

theorem split_of_getElem? {α : Type} {l : List α} {i : Nat} {o : α} (ho : l[i]? = some o) (hi : 0 < i) :
    l = l.take i ++ o :: l.drop (i + 1) ∧ l.take i ≠ [] := by
  obtain ⟨hlt, hoi⟩ := List.getElem?_eq_some_iff.mp ho
  refine ⟨by rw [← hoi, List.getElem_cons_drop, List.take_append_drop], fun hnil => ?_⟩
  rcases List.take_eq_nil_iff.mp hnil with h0 | h0
  · exact Nat.lt_irrefl _ (h0 ▸ hi)
  · rw [h0] at hlt; cases hlt

theorem getElem?_of_split {α : Type} (K : List α) (o : α) (U : List α) :
    (K ++ o :: U)[K.length]? = some o ∧ (K ++ o :: U).take K.length = K ∧
      (K ++ o :: U).drop (K.length + 1) = U := by
  simp

theorem exec?_sound {M : SimModel σ} {s s' : TWState} {ℓ : Nat} {e : Event}
    (h : exec? M s ℓ e = some s') : Step M s s' := by
  unfold exec? at h
  split at h
  · rename_i hc
    split at h
    · cases h
    · rename_i hd T hpast
      cases h
      exact Step.exec s ℓ e hd T hc.1 hc.2.1 hc.2.2.1 hc.2.2.2 hpast
  · cases h

theorem annihilate?_sound {M : SimModel σ} {s s' : TWState} {o : Event}
    (h : annihilate? s o = some s') : Step M s s' := by
  unfold annihilate? at h
  split at h
  · rename_i hc
    cases h
    exact Step.annihilate s o hc.1 hc.2
  · cases h

theorem antiRollback?_sound {M : SimModel σ} {s s' : TWState} {ℓ i : Nat}
    (h : antiRollback? M s ℓ i = some s') : Step M s s' := by
  unfold antiRollback? at h
  split at h
  · cases h
  · rename_i o ho
    split at h
    · rename_i hc
      cases h
      obtain ⟨hsplit, hne⟩ := split_of_getElem? ho hc.1
      exact Step.antiRollback s ℓ o _ _ hc.2 hsplit hne
    · cases h

theorem step?_sound {M : SimModel σ} {s s' : TWState} {a : Action} (h : step? M s a = some s') :
    Step M s s' := by
  cases a with
  | exec ℓ e => exact exec?_sound h
  | annihilate o => exact annihilate?_sound h
  | antiRollback ℓ i => exact antiRollback?_sound h

theorem step?_complete {M : SimModel σ} {s s' : TWState} (h : Step M s s') :
    ∃ a, step? M s a = some s' := by
  cases h with
  | exec ℓ e hd T hmem hdest hℓ htype hpast =>
    refine ⟨.exec ℓ e, ?_⟩
    simp only [step?, exec?, hmem, hdest, hℓ, htype, and_self, if_true, hpast]
  | annihilate o hp ha =>
    refine ⟨.annihilate o, ?_⟩
    simp only [step?, annihilate?, hp, ha, and_self, if_true]
  | antiRollback ℓ o K U ha hpast hK =>
    refine ⟨.antiRollback ℓ K.length, ?_⟩
    obtain ⟨hget, htake, hdrop⟩ := getElem?_of_split K o U
    rw [← hpast] at hget htake hdrop
    simp only [step?, antiRollback?, hget, List.length_pos_iff.mpr hK, ha, and_self, if_true, htake,
      hdrop]

theorem run?_reachable {M : SimModel σ} (as : List Action) {s s' : TWState}
    (hr : Reachable M s) (h : run? M s as = some s') : Reachable M s' := by
  induction as generalizing s with
  | nil => cases h; exact hr
  | cons a as ih =>
    unfold run? at h
    split at h
    · cases h
    · rename_i s1 hs1
      exact ih (Reachable.step hr (step?_sound hs1)) h

theorem lowerBound_sound {s : TWState} {g : Nat} (h : lowerBound s g = true) :
    (∀ x ∈ s.pending, g ≤ x.t) ∧ (∀ x ∈ s.antis, g ≤ x.t) := by
  unfold lowerBound at h
  simp only [Bool.and_eq_true, List.all_eq_true, decide_eq_true_eq] at h
  exact h

/-- a state with nothing pending and no anti-message IS a final state of a sequential run -/
theorem Inv.quiescent_sequential {M : SimModel σ} (V : V2s M) {s : TWState} (I : Inv M s)
    (hp : s.pending = []) (ha : s.antis = []) :
    ∃ q, Spec.Reachable M q ∧ q.pending = [] ∧ ∀ ℓ, ℓ < M.nLps → q.disp ℓ = s.past ℓ :=
  Spec.quiescent_sequential (fun _ => .of_V2s (I.hist (by simp [hp]) (by simp [ha])) V) fun x => by
    have hi := I.cnt x
    rwa [hp, ha, List.count_nil, Nat.zero_add, Nat.add_zero] at hi

end RootSim.TW
