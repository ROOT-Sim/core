import RootSim.Model.MQueue
import RootSim.Proofs.ListSet
/-!
Helper lemmas for C15 (buffer half): the inductive invariant of the lock-free insertion buffer,
for every number of producers and every interleaving.
-/
namespace RootSim.MQueue

/-- the pointers `h, next h, next (next h), …` spell exactly the (finite) list `l` and end in `NULL` -/
def IsChain (next : Nat → Option Nat) : Option Nat → List Nat → Prop
  | h, [] => h = none
  | h, a :: l => h = some a ∧ IsChain next (next a) l

theorem IsChain.frame {next : Nat → Option Nat} {h : Option Nat} {l : List Nat} (hc : IsChain next h l)
    (m : Nat) (v : Option Nat) (hm : m ∉ l) : IsChain (fun j => if j = m then v else next j) h l := by
  induction l generalizing h with
  | nil => exact hc
  | cons a l ih =>
    obtain ⟨h1, h2⟩ := hc
    have ham : a ≠ m := fun e => hm (e ▸ List.mem_cons_self)
    refine ⟨h1, ?_⟩
    have := ih h2 (fun hin => hm (List.mem_cons_of_mem _ hin))
    simpa [ham] using this

theorem IsChain.of_some {next : Nat → Option Nat} {m : Nat} :
    ∀ {l : List Nat}, IsChain next (some m) l → ∃ rest, l = m :: rest ∧ IsChain next (next m) rest
  | [], h => nomatch h
  | _ :: rest, ⟨h1, h2⟩ => by cases h1; exact ⟨rest, rfl, h2⟩

theorem IsChain.of_none {next : Nat → Option Nat} : ∀ {l : List Nat}, IsChain next none l → l = []
  | [], _ => rfl
  | _ :: _, h => nomatch h.1

/-- everything that has been inserted and is not pending: shared list, detached list, private heap, extracted -/
def all4 (s : St) : List Nat := s.lst ++ s.det ++ s.priv ++ s.out

structure QInv (s : St) : Prop where
  /-- the shared list is the finite, `NULL`-terminated chain `lst` starting at `head` -/
  chainL : IsChain s.next s.head s.lst
  /-- while walking, the consumer's cursor points to the chain `det`; otherwise nothing is detached -/
  chainD : match s.cons with
           | .walk cur => IsChain s.next cur s.det
           | _ => s.det = []
  /-- no duplicates among list / detached / private / extracted -/
  nodup : (all4 s).Nodup
  bound : ∀ m ∈ all4 s, m < s.nmsgs
  /-- a pending producer's node is fresh and in none of them -/
  pendFresh : ∀ (p m : Nat), s.prod[p]? = some (PPc.loaded m) → m < s.nmsgs ∧ m ∉ all4 s
  pendInj : ∀ (p q m : Nat), s.prod[p]? = some (PPc.loaded m) → s.prod[q]? = some (PPc.loaded m) → p = q
  /-- **no loss, no duplication**: the completed inserts are exactly list + detached + private + extracted -/
  perm : s.comp.Perm (all4 s)
  /-- while a consumer operation is in progress, what was completed-and-not-extracted at its `swap`
  is detached or private -/
  snapW : s.cons ≠ .idle → ∀ m ∈ s.snap, m ∈ s.det ∨ m ∈ s.priv

theorem init_inv (n : Nat) : QInv (init n) := by
  have hp : ∀ (p m : Nat), (init n).prod[p]? ≠ some (PPc.loaded m) := by
    intro p m h
    simp only [init, List.getElem?_replicate] at h
    split at h <;> cases h
  exact { chainL := rfl, chainD := rfl, nodup := .nil, bound := fun _ h => (nomatch h),
          pendFresh := fun p m h => absurd h (hp p m), pendInj := fun p _ m h => absurd h (hp p m),
          perm := .nil, snapW := fun _ _ h => (nomatch h) }

theorem mem_all4 {s : St} {m : Nat} : m ∈ all4 s ↔ m ∈ s.lst ∨ m ∈ s.det ∨ m ∈ s.priv ∨ m ∈ s.out := by
  simp [all4]

theorem chainD_frame {next : Nat → Option Nat} {cons : CPc} {det : List Nat}
    (h : match cons with | .walk cur => IsChain next cur det | _ => det = []) (m : Nat) (v : Option Nat)
    (hm : m ∉ det) :
    match (generalizing := false) cons with
    | .walk cur => IsChain (fun j => if j = m then v else next j) cur det
    | _ => det = [] := by
  cases cons with
  | walk cur => exact h.frame m v hm
  | idle => exact h
  | ready => exact h

theorem QInv.det_nil {s : St} (hi : QInv s) (hc : s.cons = .idle ∨ s.cons = .ready) : s.det = [] := by
  have := hi.chainD
  rcases hc with hc | hc <;> rwa [hc] at this

/-- a step that leaves the message counter, the producers and the completed inserts alone, and permutes
list + detached + private + extracted, keeps everything of the invariant that speaks of these -/
theorem QInv.of_perm {s s' : St} (hi : QInv s) (hn : s'.nmsgs = s.nmsgs) (hp : s'.prod = s.prod)
    (hc : s'.comp = s.comp) (hperm : (all4 s').Perm (all4 s)) (hL : IsChain s'.next s'.head s'.lst)
    (hD : match s'.cons with | .walk cur => IsChain s'.next cur s'.det | _ => s'.det = [])
    (hS : s'.cons ≠ .idle → ∀ m ∈ s'.snap, m ∈ s'.det ∨ m ∈ s'.priv) : QInv s' where
  chainL := hL
  chainD := hD
  nodup := hperm.nodup_iff.2 hi.nodup
  bound m hm := hn ▸ hi.bound m (hperm.mem_iff.1 hm)
  pendFresh p m h := by
    rw [hp] at h
    exact ⟨hn ▸ (hi.pendFresh p m h).1, fun hin => (hi.pendFresh p m h).2 (hperm.mem_iff.1 hin)⟩
  pendInj p q m h1 h2 := by
    rw [hp] at h1 h2
    exact hi.pendInj p q m h1 h2
  perm := hc ▸ hi.perm.trans hperm.symm
  snapW := hS

theorem insLoad_spec {s s' : St} {p ts : Nat} (h : insLoad s p ts = some s') :
    s.prod[p]? = some PPc.idle ∧
    s' = { s with nmsgs := s.nmsgs + 1,
                  t := fun j => if j = s.nmsgs then ts else s.t j,
                  next := fun j => if j = s.nmsgs then s.head else s.next j,
                  prod := s.prod.set p (.loaded s.nmsgs) } := by
  unfold insLoad at h
  split at h
  · rename_i hp; exact ⟨hp, (Option.some.inj h).symm⟩
  · cases h

theorem insLoad_inv {s s' : St} {p ts : Nat} (hi : QInv s) (h : insLoad s p ts = some s') : QInv s' := by
  obtain ⟨hp, rfl⟩ := insLoad_spec h
  have hfresh : s.nmsgs ∉ all4 s := fun hin => Nat.lt_irrefl _ (hi.bound _ hin)
  have hlt : ∀ x m, s.prod[x]? = some (PPc.loaded m) → m < s.nmsgs := fun x m hx => (hi.pendFresh x m hx).1
  refine ⟨hi.chainL.frame _ _ (fun hin => hfresh (mem_all4.2 (.inl hin))),
    chainD_frame hi.chainD _ _ (fun hin => hfresh (mem_all4.2 (.inr (.inl hin)))), hi.nodup,
    fun m hm => Nat.lt_succ_of_lt (hi.bound m hm), ?_, ?_, hi.perm, hi.snapW⟩
  · intro q m hq
    rcases getElem?_set_cases hq with ⟨_, e⟩ | ⟨_, hq'⟩
    · cases e; exact ⟨Nat.lt_succ_self _, hfresh⟩
    · exact ⟨Nat.lt_succ_of_lt (hlt q m hq'), (hi.pendFresh q m hq').2⟩
  · intro q r m hq hr
    rcases getElem?_set_cases hq with ⟨eq, e⟩ | ⟨_, hq'⟩
    · rcases getElem?_set_cases hr with ⟨er, _⟩ | ⟨_, hr'⟩
      · exact eq.trans er.symm
      · cases e; exact absurd (hlt r _ hr') (Nat.lt_irrefl _)
    · rcases getElem?_set_cases hr with ⟨_, e⟩ | ⟨_, hr'⟩
      · cases e; exact absurd (hlt q _ hq') (Nat.lt_irrefl _)
      · exact hi.pendInj q r m hq' hr'

theorem insCas_spec {s s' : St} {p : Nat} {sp : Bool} (h : insCas s p sp = some s') :
    ∃ m, s.prod[p]? = some (PPc.loaded m) ∧
      ((sp = false ∧ s.head = s.next m ∧
          s' = { s with head := some m, prod := s.prod.set p .idle, lst := m :: s.lst, comp := m :: s.comp }) ∨
       s' = setNext s m s.head) := by
  unfold insCas at h
  split at h
  · rename_i m hp
    refine ⟨m, hp, ?_⟩
    split at h
    · rename_i hc
      simp only [Bool.and_eq_true, Bool.not_eq_true', beq_iff_eq] at hc
      exact .inl ⟨hc.1, hc.2, (Option.some.inj h).symm⟩
    · exact .inr (Option.some.inj h).symm
  · cases h

theorem insCas_inv {s s' : St} {p : Nat} {sp : Bool} (hi : QInv s) (h : insCas s p sp = some s') : QInv s' := by
  obtain ⟨m, hp, hcase⟩ := insCas_spec h
  have hpf := hi.pendFresh p m hp
  rcases hcase with ⟨_, hhead, rfl⟩ | rfl
  · -- the CAS succeeds: `m` becomes the new head
    refine ⟨⟨rfl, hhead ▸ hi.chainL⟩, hi.chainD, List.nodup_cons.2 ⟨hpf.2, hi.nodup⟩, ?_, ?_, ?_,
      .cons m hi.perm, hi.snapW⟩
    · intro x hx
      rcases List.mem_cons.1 hx with rfl | hx
      · exact hpf.1
      · exact hi.bound x hx
    · intro q m' hq
      rcases getElem?_set_cases hq with ⟨_, e⟩ | ⟨hne, hq'⟩
      · cases e
      · refine ⟨(hi.pendFresh q m' hq').1, fun hin => ?_⟩
        rcases List.mem_cons.1 hin with rfl | hin
        · exact hne (hi.pendInj q p m' hq' hp)
        · exact (hi.pendFresh q m' hq').2 hin
    · intro q r m' hq hr
      rcases getElem?_set_cases hq with ⟨_, e⟩ | ⟨_, hq'⟩
      · cases e
      · rcases getElem?_set_cases hr with ⟨_, e⟩ | ⟨_, hr'⟩
        · cases e
        · exact hi.pendInj q r m' hq' hr'
  · -- the CAS fails: `msg->next` is refreshed, nothing else changes
    exact hi.of_perm rfl rfl rfl (.refl _) (hi.chainL.frame _ _ (fun hin => hpf.2 (mem_all4.2 (.inl hin))))
      (chainD_frame hi.chainD _ _ (fun hin => hpf.2 (mem_all4.2 (.inr (.inl hin))))) hi.snapW

theorem swap_spec {s s' : St} (h : swap s = some s') :
    s.cons = .idle ∧ s' = { s with cons := .walk s.head, head := none, det := s.lst, lst := [],
                                   snap := s.lst ++ s.priv } := by
  unfold swap at h
  split at h
  · rename_i hc; exact ⟨hc, (Option.some.inj h).symm⟩
  all_goals cases h

theorem swap_inv {s s' : St} (hi : QInv s) (h : swap s = some s') : QInv s' := by
  obtain ⟨hc, rfl⟩ := swap_spec h
  refine hi.of_perm rfl rfl rfl (.of_eq ?_) rfl hi.chainL (fun _ m hm => List.mem_append.1 hm)
  simp only [all4, hi.det_nil (.inl hc), List.nil_append, List.append_nil]

theorem walk_spec {s s' : St} (h : walk s = some s') :
    (∃ m, s.cons = .walk (some m) ∧
        s' = { s with priv := m :: s.priv, cons := .walk (s.next m), det := s.det.tail }) ∨
    (s.cons = .walk none ∧ s' = { s with cons := .ready }) := by
  unfold walk at h
  split at h
  · rename_i m hc; exact .inl ⟨m, hc, (Option.some.inj h).symm⟩
  · rename_i hc; exact .inr ⟨hc, (Option.some.inj h).symm⟩
  · cases h

theorem walk_inv {s s' : St} (hi : QInv s) (h : walk s = some s') : QInv s' := by
  have hcd := hi.chainD
  rcases walk_spec h with ⟨m, hc, rfl⟩ | ⟨hc, rfl⟩
  · -- the cursor's node is the head of the detached list; it goes to the private heap
    rw [hc] at hcd
    obtain ⟨rest, hdet, hrest⟩ := hcd.of_some
    refine hi.of_perm rfl rfl rfl ?_ hi.chainL (hdet ▸ hrest) (fun _ x hx => ?_)
    · simp only [all4, hdet, List.tail_cons, List.append_assoc, List.cons_append]
      exact .append_left _ List.perm_middle
    · rcases hi.snapW (hc ▸ nofun) x hx with h1 | h1
      · rcases List.mem_cons.1 (hdet ▸ h1) with rfl | h1
        · exact .inr List.mem_cons_self
        · exact .inl (hdet ▸ h1)
      · exact .inr (List.mem_cons_of_mem _ h1)
  · rw [hc] at hcd
    exact hi.of_perm rfl rfl rfl (.refl _) hi.chainL hcd.of_none (fun _ => hi.snapW (hc ▸ nofun))

theorem extract_spec {s s' : St} {c : Option Nat} (h : extract s c = some s') :
    s.cons = .ready ∧
    ((∃ m, c = some m ∧ isMin s m = true ∧ s' = { s with cons := .idle, priv := s.priv.erase m, out := m :: s.out }) ∨
     (c = none ∧ s.priv = [] ∧ s' = { s with cons := .idle })) := by
  unfold extract at h
  split at h
  · rename_i m hc
    split at h
    · rename_i hm; exact ⟨hc, .inl ⟨m, rfl, hm, (Option.some.inj h).symm⟩⟩
    · cases h
  · rename_i hc
    split at h
    · rename_i he; exact ⟨hc, .inr ⟨rfl, List.isEmpty_iff.1 he, (Option.some.inj h).symm⟩⟩
    · cases h
  · cases h

theorem isMin_mem {s : St} {m : Nat} (h : isMin s m = true) : m ∈ s.priv ∧ ∀ j ∈ s.priv, s.t m ≤ s.t j := by
  simp only [isMin, Bool.and_eq_true, List.contains_iff_mem, List.all_eq_true, decide_eq_true_eq] at h
  exact h

theorem extract_inv {s s' : St} {c : Option Nat} (hi : QInv s) (h : extract s c = some s') : QInv s' := by
  obtain ⟨hc, hcase⟩ := extract_spec h
  have hdet := hi.det_nil (.inr hc)
  rcases hcase with ⟨m, _, hm, rfl⟩ | ⟨_, _, rfl⟩
  · refine hi.of_perm rfl rfl rfl ?_ hi.chainL hdet (fun hne => absurd rfl hne)
    simp only [all4, List.append_assoc]
    exact .append_left _ (.append_left _ (List.perm_middle.trans
      (((List.perm_cons_erase (isMin_mem hm).1).symm).append_right _)))
  · exact hi.of_perm rfl rfl rfl (.refl _) hi.chainL hdet (fun hne => absurd rfl hne)

theorem peek_spec {s s' : St} {v : Nat} (h : peek s = some (s', v)) :
    s.cons = .ready ∧ s' = { s with cons := .idle } ∧ v = minT s := by
  unfold peek at h
  split at h
  · rename_i hc
    cases Option.some.inj h
    exact ⟨hc, rfl, rfl⟩
  all_goals cases h

theorem peek_inv {s s' : St} {v : Nat} (hi : QInv s) (h : peek s = some (s', v)) : QInv s' := by
  obtain ⟨hc, rfl, _⟩ := peek_spec h
  exact hi.of_perm rfl rfl rfl (.refl _) hi.chainL (hi.det_nil (.inr hc)) (fun hne => absurd rfl hne)

theorem step_inv {s s' : St} {a : Act} (hi : QInv s) (h : step s a = some s') : QInv s' := by
  cases a with
  | insLoad p ts => exact insLoad_inv hi h
  | insCas p sp => exact insCas_inv hi h
  | swap => exact swap_inv hi h
  | walk => exact walk_inv hi h
  | extract c => exact extract_inv hi h
  | peek =>
    simp only [step, Option.map_eq_some_iff] at h
    obtain ⟨⟨s1, v⟩, h1, rfl⟩ := h
    exact peek_inv hi h1

theorem foldl_min_le (t : Nat → Nat) (l : List Nat) (acc : Nat) :
    l.foldl (fun a j => min a (t j)) acc ≤ acc ∧ ∀ j ∈ l, l.foldl (fun a j => min a (t j)) acc ≤ t j := by
  induction l generalizing acc with
  | nil => simp
  | cons x l ih =>
    simp only [List.foldl_cons]
    have h1 := ih (min acc (t x))
    refine ⟨Nat.le_trans h1.1 (Nat.min_le_left _ _), ?_⟩
    intro j hj
    rcases List.mem_cons.mp hj with rfl | hj
    · exact Nat.le_trans h1.1 (Nat.min_le_right _ _)
    · exact h1.2 j hj

theorem minT_le {s : St} {m : Nat} (h : m ∈ s.priv) : minT s ≤ s.t m :=
  (foldl_min_le s.t s.priv SIMTIME_MAX).2 m h

inductive Reachable : St → Prop
  | init (n : Nat) : Reachable (init n)
  | step {s s' : St} (a : Act) : Reachable s → step s a = some s' → Reachable s'

theorem exec_cons {s s' : St} {a : Act} {as : List Act} :
    exec s (a :: as) = some s' ↔ ∃ s1, step s a = some s1 ∧ exec s1 as = some s' := by
  rw [exec]
  cases step s a with
  | none => exact ⟨fun h => (nomatch h), fun ⟨_, e, _⟩ => (nomatch e)⟩
  | some s1 => exact ⟨fun h => ⟨s1, rfl, h⟩, fun ⟨_, e, h⟩ => Option.some.inj e ▸ h⟩

theorem exec_reachable {s s' : St} (acts : List Act) (hr : Reachable s) (he : exec s acts = some s') :
    Reachable s' := by
  induction acts generalizing s with
  | nil => exact Option.some.inj he ▸ hr
  | cons a as ih =>
    obtain ⟨s1, h1, h2⟩ := exec_cons.1 he
    exact ih (.step a hr h1) h2

/-- actions that end a consumer operation -/
def finishes : Act → Bool
  | .extract _ => true
  | .peek => true
  | _ => false

/-- what one step leaves alone: time stamps of existing messages never change and ids are never reused; a step
inside a consumer operation keeps the operation's snapshot and the extracted messages -/
theorem step_frame {s s' : St} {a : Act} (h : step s a = some s') :
    (s.nmsgs ≤ s'.nmsgs ∧ ∀ m, m < s.nmsgs → s'.t m = s.t m) ∧
    (finishes a = false → s.cons ≠ .idle → s'.snap = s.snap ∧ s'.out = s.out ∧ s'.cons ≠ .idle) := by
  cases a with
  | insLoad p ts =>
    obtain ⟨_, rfl⟩ := insLoad_spec h
    exact ⟨⟨Nat.le_succ _, fun m hm => if_neg (Nat.ne_of_lt hm)⟩, fun _ hc => ⟨rfl, rfl, hc⟩⟩
  | insCas p sp =>
    obtain ⟨m, _, ⟨_, _, rfl⟩ | rfl⟩ := insCas_spec h
    all_goals exact ⟨⟨Nat.le_refl _, fun _ _ => rfl⟩, fun _ hc => ⟨rfl, rfl, hc⟩⟩
  | swap =>
    obtain ⟨hi, rfl⟩ := swap_spec h
    exact ⟨⟨Nat.le_refl _, fun _ _ => rfl⟩, fun _ hc => absurd hi hc⟩
  | walk =>
    rcases walk_spec h with ⟨m, _, rfl⟩ | ⟨_, rfl⟩
    all_goals exact ⟨⟨Nat.le_refl _, fun _ _ => rfl⟩, fun _ _ => ⟨rfl, rfl, nofun⟩⟩
  | extract c =>
    obtain ⟨_, ⟨m, _, _, rfl⟩ | ⟨_, _, rfl⟩⟩ := extract_spec h
    all_goals exact ⟨⟨Nat.le_refl _, fun _ _ => rfl⟩, fun hf => nomatch hf⟩
  | peek =>
    simp only [step, Option.map_eq_some_iff] at h
    obtain ⟨⟨s1, v⟩, h1, rfl⟩ := h
    obtain ⟨_, rfl, _⟩ := peek_spec h1
    exact ⟨⟨Nat.le_refl _, fun _ _ => rfl⟩, fun hf => nomatch hf⟩

theorem exec_keeps {s s' : St} (acts : List Act) (h : exec s acts = some s')
    (hf : ∀ a ∈ acts, finishes a = false) (hc : s.cons ≠ .idle) :
    s'.snap = s.snap ∧ s'.out = s.out ∧ s'.cons ≠ .idle := by
  induction acts generalizing s with
  | nil => cases Option.some.inj h; exact ⟨rfl, rfl, hc⟩
  | cons a as ih =>
    obtain ⟨s1, h1, h2⟩ := exec_cons.1 h
    have k1 := (step_frame h1).2 (hf a List.mem_cons_self) hc
    have k2 := ih h2 (fun b hb => hf b (List.mem_cons_of_mem _ hb)) k1.2.2
    exact ⟨k2.1.trans k1.1, k2.2.1.trans k1.2.1, k2.2.2⟩

theorem exec_t_stable {s s' : St} (acts : List Act) (h : exec s acts = some s') :
    s.nmsgs ≤ s'.nmsgs ∧ ∀ m, m < s.nmsgs → s'.t m = s.t m := by
  induction acts generalizing s with
  | nil => cases Option.some.inj h; exact ⟨Nat.le_refl _, fun _ _ => rfl⟩
  | cons a as ih =>
    obtain ⟨s1, h1, h2⟩ := exec_cons.1 h
    have k1 := (step_frame h1).1
    have k2 := ih h2
    exact ⟨Nat.le_trans k1.1 k2.1, fun m hm => (k2.2 m (Nat.lt_of_lt_of_le hm k1.1)).trans (k1.2 m hm)⟩

end RootSim.MQueue
