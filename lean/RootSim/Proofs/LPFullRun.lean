import RootSim.Proofs.LPFull
/-! Runs of the complete LP step function: arbitrary sequences of `process_msg` steps, checkpoints and fossil collections on one
LP; the early list over a whole run; a remote event and its anti-message in any order. -/
namespace RootSim.LPFull
open RootSim RootSim.LP

variable {σ : Type}
variable {h : σ → Event → σ × List Event} {ev : Nat → Event} {init : σ} {base : List Nat}

/-- the inputs of one `process_msg` step -/
structure Inp where
  m : Nat
  f : Nat
  look : Nat → Msg
  alloc : Nat → Nat

inductive Op where
  | msg (i : Inp)
  | ckpt
  | fossil (gvt ep : Nat)

/-- the releases of `fossil_lp_collect` (fossil.c:52-58): from index `n - 1` down to 0, every entry that is not a local sent one -/
def fossilFrees (dropped : List Entry) : List Action :=
  dropped.reverse.filterMap (fun e => match e with
    | .sent _ => none
    | .rsent m => some (Action.free m)
    | .past m => some (Action.free m))

def stepOp (h : σ → Event → σ × List Event) (ev : Nat → Event) (remote : Nat → Bool) (s : St σ) :
    Op → Option (St σ × List Action)
  | .msg i => step h ev i.look remote i.alloc s i.m i.f
  | .ckpt => some ({ s with lp := checkpoint s.lp }, [])
  | .fossil gvt ep =>
    match fossil (fun m => (ev m).t) s.lp gvt ep with
    | some o => some ({ s with lp := fixBound o.lp }, fossilFrees o.dropped)
    | none => some ({ s with lp := fixBound s.lp }, [])

/-- annotated trace: (state before the operation, operation, its actions), oldest first -/
abbrev Trace (σ : Type) := List (St σ × Op × List Action)

def run (h : σ → Event → σ × List Event) (ev : Nat → Event) (remote : Nat → Bool) :
    St σ → List Op → Option (St σ × Trace σ)
  | s, [] => some (s, [])
  | s, op :: ops =>
    match stepOp h ev remote s op with
    | none => none
    | some r =>
      match run h ev remote r.1 ops with
      | none => none
      | some r2 => some (r2.1, (s, op, r.2) :: r2.2)

/-- all actions of a trace, in order -/
def Trace.acts (T : Trace σ) : List Action := T.flatMap (fun x => x.2.2)

theorem run_nil {remote : Nat → Bool} {s s' : St σ} {T : Trace σ} (hr : run h ev remote s [] = some (s', T)) :
    s' = s ∧ T = [] := by
  cases hr; exact ⟨rfl, rfl⟩

theorem run_cons {remote : Nat → Bool} {s s' : St σ} {op : Op} {ops : List Op} {T : Trace σ}
    (hr : run h ev remote s (op :: ops) = some (s', T)) :
    ∃ s1 a1 T1, stepOp h ev remote s op = some (s1, a1) ∧ run h ev remote s1 ops = some (s', T1) ∧ T = (s, op, a1) :: T1 := by
  rw [run] at hr
  split at hr
  · cases hr
  · rename_i r hso
    split at hr
    · cases hr
    · rename_i r2 hr2
      cases hr
      exact ⟨r.1, r.2, r2.2, hso, hr2, rfl⟩

theorem run_cons_of {remote : Nat → Bool} {s s1 s' : St σ} {op : Op} {ops : List Op} {a1 : List Action} {T1 : Trace σ}
    (hso : stepOp h ev remote s op = some (s1, a1)) (hr : run h ev remote s1 ops = some (s', T1)) :
    run h ev remote s (op :: ops) = some (s', (s, op, a1) :: T1) := by
  rw [run, hso]
  dsimp only
  rw [hr]

theorem stepOp_exact {remote : Nat → Bool} {s s' : St σ} {op : Op} {acts : List Action}
    (hE : ∃ base, LInv h ev init base s.lp) (hs : stepOp h ev remote s op = some (s', acts)) :
    ∃ base, LInv h ev init base s'.lp := by
  obtain ⟨base, hI⟩ := hE
  cases op with
  | msg i => exact ⟨base, step_linv hI hs⟩
  | ckpt => cases hs; exact ⟨base, checkpoint_inv hI⟩
  | fossil gvt ep =>
    rw [stepOp] at hs
    split at hs
    · rename_i o ho
      cases hs
      exact ⟨_, fixBound_linv (fossil_inv hI _ gvt ep ho).2.2.2.2⟩
    · cases hs; exact ⟨base, fixBound_linv hI⟩

theorem run_exact {remote : Nat → Bool} : ∀ (ops : List Op) (s s' : St σ) (T : Trace σ),
    (∃ base, LInv h ev init base s.lp) → run h ev remote s ops = some (s', T) → ∃ base, LInv h ev init base s'.lp
  | [], s, s', T, hE, hr => (run_nil hr).1 ▸ hE
  | op :: ops, s, s', T, hE, hr => by
    obtain ⟨s1, a1, T1, hso, hr1, _⟩ := run_cons hr
    exact run_exact ops s1 s' T1 (stepOp_exact hE hso) hr1

theorem run_append {remote : Nat → Bool} : ∀ (o1 o2 : List Op) (s s' : St σ) (T : Trace σ),
    run h ev remote s (o1 ++ o2) = some (s', T) →
    ∃ s1 T1 T2, run h ev remote s o1 = some (s1, T1) ∧ run h ev remote s1 o2 = some (s', T2) ∧ T = T1 ++ T2
  | [], o2, s, s', T, hr => ⟨s, [], T, rfl, hr, rfl⟩
  | op :: o1, o2, s, s', T, hr => by
    obtain ⟨s1, a1, T1, hso, hr1, rfl⟩ := run_cons hr
    obtain ⟨s2, T2, T3, q1, q2, rfl⟩ := run_append o1 o2 s1 s' T1 hr1
    exact ⟨s2, _, T3, run_cons_of hso q1, q2, rfl⟩

theorem run_snoc {remote : Nat → Bool} {ops : List Op} {op : Op} {s s' : St σ} {T : Trace σ}
    (hr : run h ev remote s (ops ++ [op]) = some (s', T)) :
    ∃ s1 T1 a, run h ev remote s ops = some (s1, T1) ∧ stepOp h ev remote s1 op = some (s', a) ∧ T = T1 ++ [(s1, op, a)] := by
  obtain ⟨s1, T1, T2, q1, q2, rfl⟩ := run_append ops [op] s s' T hr
  obtain ⟨s2, a, T3, hso, hr3, rfl⟩ := run_cons q2
  obtain ⟨rfl, rfl⟩ := run_nil hr3
  exact ⟨s1, T1, a, q1, hso, rfl⟩

/-- (id word, m_seq) a remote anti-message carries when it is dequeued with flag word `f` (`a_msg->raw_flags -= MSG_FLAG_ANTI`) -/
def Inp.antiKey (i : Inp) : Nat × Nat := (i.f + 1, (i.look i.m).mSeq)
/-- (id word, m_seq) of a dequeued remote event, after the `fetch_add(PROCESSED)` -/
def Inp.eventKey (i : Inp) : Nat × Nat := (i.f + 2, (i.look i.m).mSeq)

/-- the trace entry is the dequeue of a remote anti-message that finds no processed event with its (id, seq) in the history:
the message and its key -/
def parkedBy (x : St σ × Op × List Action) : Option (Nat × (Nat × Nat)) :=
  match x.2.1 with
  | .msg i =>
    if i.f % 2 = 1 ∧ 3 < i.f ∧ findRemote i.look x.1.lp.hist (i.f + 1) (i.look i.m).mSeq = 0 then some (i.m, i.antiKey)
    else none
  | _ => none

/-- the trace entry is the dequeue of a remote event (flag word even, not 0) with key `K` -/
def dequeuesEvent (K : Nat × Nat) (x : St σ × Op × List Action) : Bool :=
  match x.2.1 with
  | .msg i => i.f % 2 == 0 && i.f != 0 && i.eventKey == K
  | _ => false

/-- **specification of the early list**: the anti-messages that were parked at some point of the trace and whose event has not
been dequeued at any later point; newest first -/
def waiting : Trace σ → List (Nat × (Nat × Nat))
  | [] => []
  | x :: post =>
    match parkedBy x with
    | some aK => if post.all (fun y => !dequeuesEvent aK.2 y) then waiting post ++ [aK] else waiting post
    | none => waiting post

theorem waiting_snoc : ∀ (T : Trace σ) (x : St σ × Op × List Action),
    waiting (T ++ [x]) =
      (match parkedBy x with | some aK => [aK] | none => []) ++ (waiting T).filter (fun aK => !dequeuesEvent aK.2 x)
  | [], x => by
    simp only [List.nil_append, waiting]
    cases parkedBy x <;> rfl
  | y :: T, x => by
    simp only [List.cons_append, waiting]
    rw [waiting_snoc T x]
    cases parkedBy y with
    | none => rfl
    | some bK =>
      dsimp only
      rw [List.all_append, List.all_cons, List.all_nil, Bool.and_true]
      cases T.all (fun y => !dequeuesEvent bK.2 y) with
      | false => rfl
      | true =>
        cases hq : dequeuesEvent bK.2 x with
        | true => simp [hq]
        | false => simp [hq, List.filter_append]

theorem waiting_sublist : ∀ (T : Trace σ), (waiting T).Sublist (T.filterMap parkedBy).reverse
  | [] => by simp [waiting]
  | x :: post => by
    have ih := waiting_sublist post
    simp only [waiting, List.filterMap_cons]
    cases hx : parkedBy x with
    | none => simpa using ih
    | some aK =>
      simp only [List.reverse_cons]
      split
      · exact List.Sublist.append ih (List.Sublist.refl _)
      · exact ih.trans (List.sublist_append_left _ _)


/-- the hypothesis "a parked anti-message keeps its id word and sequence number while it waits": whenever a remote event is
dequeued, every anti-message waiting at that moment shows, in that step's snapshot, the key it was parked with -/
def KeysStable (T : Trace σ) : Prop :=
  ∀ pre x post, T = pre ++ x :: post → ∀ aK ∈ waiting pre, ∀ i, x.2.1 = Op.msg i → i.f % 2 = 0 → i.f ≠ 0 →
    keyAt i.look aK.1 = aK.2

theorem KeysStable.prefix {T1 T2 : Trace σ} (hk : KeysStable (T1 ++ T2)) : KeysStable T1 := by
  intro pre x post hT
  exact hk pre x (post ++ T2) (by rw [hT]; simp)

theorem filter_none_key (W : List (Nat × (Nat × Nat))) (K : Nat × Nat) (key : Nat → Nat × Nat)
    (hkey : ∀ aK ∈ W, key aK.1 = aK.2) (hall : ∀ c ∈ W.map (·.1), key c ≠ K) :
    W.filter (fun aK => !(K == aK.2)) = W := by
  rw [List.filter_eq_self]
  intro aK haK
  have := hall aK.1 (List.mem_map_of_mem haK)
  rw [hkey aK haK] at this
  simpa using this.symm

/-- removing the (unique) entry with key `K` from a list of (message, key) pairs with pairwise different keys -/
theorem filter_unique_key (W : List (Nat × (Nat × Nat))) (l1 l2 : List Nat) (b : Nat) (K : Nat × Nat)
    (key : Nat → Nat × Nat)
    (hW : W.map (·.1) = l1 ++ b :: l2) (hnd : (W.map (·.2)).Nodup)
    (hkey : ∀ aK ∈ W, key aK.1 = aK.2) (hb : key b = K) :
    (W.filter (fun aK => !(K == aK.2))).map (·.1) = l1 ++ l2 := by
  obtain ⟨W1, W2', rfl, h2, h3⟩ := List.map_eq_append_iff.mp hW
  obtain ⟨bK, W2, rfl, h4, h5⟩ := List.map_eq_cons_iff.mp h3
  have hbK : bK.2 = K := by
    rw [← hkey bK (by simp), h4, hb]
  -- the keys are pairwise different: nobody else carries `K`
  rw [List.map_append, List.map_cons, List.perm_middle.nodup_iff, ← List.map_append] at hnd
  have hother : ∀ aK ∈ W1 ++ W2, (!(K == aK.2)) = true := fun aK haK => by
    have : aK.2 ≠ K := fun heq => (List.nodup_cons.mp hnd).1 (by rw [hbK, ← heq]; exact List.mem_map_of_mem haK)
    simpa using this.symm
  rw [List.filter_append, List.filter_cons, hbK, List.filter_eq_self.mpr fun aK h => hother aK (List.mem_append_left _ h),
    List.filter_eq_self.mpr fun aK h => hother aK (List.mem_append_right _ h)]
  simp only [BEq.rfl, Bool.not_true, Bool.false_eq_true, if_false, List.map_append, h2, h5]

theorem filter_const_true {α : Type} (l : List α) : l.filter (fun _ => true) = l :=
  List.filter_eq_self.mpr (fun _ _ => rfl)

theorem waiting_snoc_keep (T : Trace σ) (x : St σ × Op × List Action) (hd : ∀ K, dequeuesEvent K x = false) :
    waiting (T ++ [x]) = (match parkedBy x with | some aK => [aK] | none => []) ++ waiting T := by
  rw [waiting_snoc, List.filter_eq_self.mpr fun aK _ => by rw [hd]; rfl]

/-- induction over a list from its end (a run is followed one operation at a time, the trace grows at the end) -/
theorem snoc_induction {α : Type} {P : List α → Prop} (nil : P []) (snoc : ∀ l a, P l → P (l ++ [a])) (l : List α) : P l := by
  rw [← List.reverse_reverse l]
  induction l.reverse with
  | nil => exact nil
  | cons a t ih => rw [List.reverse_cons]; exact snoc _ _ ih

/-- **the early list is exact over every run**: starting with an empty list, after any sequence of `process_msg` steps,
checkpoints and fossil collections, `earlyAntis` is — in this order — the list `waiting` of the trace. -/
theorem earlyAntis_eq_waiting {remote : Nat → Bool} : ∀ (ops : List Op) (s0 s' : St σ) (T : Trace σ),
    s0.earlyAntis = [] → run h ev remote s0 ops = some (s', T) →
    ((T.filterMap parkedBy).map (·.2)).Nodup → KeysStable T →
    s'.earlyAntis = (waiting T).map (·.1) := by
  intro ops
  induction ops using snoc_induction with
  | nil =>
    intro s0 s' T h0 hr _ _
    obtain ⟨rfl, rfl⟩ := run_nil hr
    exact h0
  | snoc ops op ih =>
    intro s0 s2 T h0 hr hnd hks
    obtain ⟨s1, T1, a2, hr1, hso, rfl⟩ := run_snoc hr
    have hnd1 : ((T1.filterMap parkedBy).map (·.2)).Nodup := by
      rw [List.filterMap_append, List.map_append] at hnd
      exact (List.nodup_append.mp hnd).1
    have ih1 := ih s0 s1 T1 h0 hr1 hnd1 hks.prefix
    have hWnd : ((waiting T1).map (·.2)).Nodup :=
      List.Nodup.sublist ((waiting_sublist T1).map (·.2))
        (by rw [List.map_reverse]; exact List.pairwise_reverse.mpr (hnd1.imp Ne.symm))
    cases op with
    | ckpt =>
      cases hso
      rw [waiting_snoc_keep _ _ (fun _ => rfl)]
      exact ih1
    | fossil gvt ep =>
      have : s2.earlyAntis = s1.earlyAntis := by
        rw [stepOp] at hso
        split at hso <;> cases hso <;> rfl
      rw [waiting_snoc_keep _ _ (fun _ => rfl), this]
      exact ih1
    | msg i =>
      have hstab : ∀ aK ∈ waiting T1, i.f % 2 = 0 → i.f ≠ 0 → keyAt i.look aK.1 = aK.2 :=
        fun aK haK he h0' => hks T1 (s1, Op.msg i, a2) [] rfl aK haK i rfl he h0'
      -- the two tests of the specification do not look at the actions `a` of the trace entry
      have hpark : ∀ a, parkedBy (s1, Op.msg i, a) =
          if i.f % 2 = 1 ∧ 3 < i.f ∧ findRemote i.look s1.lp.hist (i.f + 1) (i.look i.m).mSeq = 0 then some (i.m, i.antiKey)
          else none := fun _ => rfl
      have hdeq : ∀ a K, dequeuesEvent K (s1, Op.msg i, a) = (i.f % 2 == 0 && i.f != 0 && i.eventKey == K) := fun _ _ => rfl
      -- an anti-message dequeues no event
      have hodd : i.f % 2 = 1 → ∀ a K, dequeuesEvent K (s1, Op.msg i, a) = false := fun ho a K => by
        rw [hdeq, ho]; rfl
      -- nothing parked, no event dequeued: the list and the specification stay as they are
      have same : ∀ a, ¬ (i.f % 2 = 1 ∧ 3 < i.f ∧ findRemote i.look s1.lp.hist (i.f + 1) (i.look i.m).mSeq = 0) →
          (∀ K, dequeuesEvent K (s1, Op.msg i, a) = false) →
          s1.earlyAntis = (waiting (T1 ++ [(s1, Op.msg i, a)])).map (·.1) := fun a hn hd => by
        rw [waiting_snoc_keep _ _ hd, hpark, if_neg hn]; exact ih1
      -- a remote event: the waiting anti-messages with its key leave
      have heven : ∀ a, i.f % 2 = 0 → i.f ≠ 0 → waiting (T1 ++ [(s1, Op.msg i, a)]) =
          (waiting T1).filter (fun aK => !(i.eventKey == aK.2)) := fun a he hne => by
        rw [waiting_snoc, hpark, if_neg fun hc => not_even_of_odd hc.1 he]
        refine congrArg (List.filter · _) (funext fun aK => ?_)
        rw [hdeq, he, bne_iff_ne.mpr hne]; rfl
      -- an ordinary message leaves the list alone; no waiting anti-message has its key
      have exec : ∀ a, i.f % 2 = 0 → (i.f = 0 ∨ ∀ c ∈ s1.earlyAntis, keyAt i.look c ≠ (i.f + 2, (i.look i.m).mSeq)) →
          s1.earlyAntis = (waiting (T1 ++ [(s1, Op.msg i, a)])).map (·.1) := fun a h1 hno => by
        by_cases hf0 : i.f = 0
        · exact same a (fun hc => not_even_of_odd hc.1 h1) (fun K => by rw [hdeq, hf0]; rfl)
        · rw [heven a h1 hf0, filter_none_key (waiting T1) i.eventKey (keyAt i.look) (fun aK haK => hstab aK haK h1 hf0)
            (by rw [← ih1]; exact hno.resolve_left hf0)]
          exact ih1
      obtain ⟨k, _, c⟩ := step_case hso
      cases c with
      | park h1 h2 hz =>
        rw [waiting_snoc_keep _ _ (hodd h1 _), hpark, if_pos ⟨h1, h2, hz⟩]
        exact congrArg (i.m :: ·) ih1
      | remoteAnti _ _ _ _ h1 _ hfind => exact same _ (fun hc => Nat.succ_ne_zero _ (hfind.symm.trans hc.2.2)) (hodd h1 _)
      | localAnti _ _ _ hf => exact same _ (fun hc => not_local_of_gt hc.2.1 (.inl hf)) (hodd (odd_of_local (.inl hf)) _)
      | discard hf => exact same _ (fun hc => not_local_of_gt hc.2.1 (.inr hf)) (hodd (odd_of_local (.inr hf)) _)
      | earlyMatch hl hb _ h1 h2 =>
        -- exactly the waiting entry with this key disappears
        rw [heven _ h1 h2]
        exact (filter_unique_key (waiting T1) _ _ _ i.eventKey (keyAt i.look) (by rw [← ih1, hl]) hWnd
          (fun aK haK => hstab aK haK h1 h2) hb).symm
      | straggler _ _ h1 hno | inOrder _ h1 hno => exact exec _ h1 hno

/-- a remote event `e` and its anti-message `a`: `w` = id word of the event on arrival (`raw_flags`, a multiple of 4 in the
real system; what is used: even and ≥ 4), `q` = `m_seq` -/
structure Pair where
  e : Nat
  a : Nat
  w : Nat
  q : Nat

/-- the key both carry when they are compared: id word + PROCESSED, sequence number -/
def Pair.key (P : Pair) : Nat × Nat := (P.w + 2, P.q)

structure Pair.Ok (P : Pair) : Prop where
  ne : P.e ≠ P.a
  even : P.w % 2 = 0
  big : 4 ≤ P.w

def Op.isA (P : Pair) : Op → Bool
  | .msg i => i.m == P.a
  | _ => false

def Op.isE (P : Pair) : Op → Bool
  | .msg i => i.m == P.e
  | _ => false

/-- What the environment guarantees for one operation on state `s` (`d` = the anti-message has already been dequeued):
* the snapshot shows the key of the pair exactly on `e` (while processed) and on `a` (while parked): ids are unique among the
  messages that reach the LP, and the id word / sequence number of a message in the history or on the early list do not change;
* `e` is dequeued with flag word `w`, only while it is not processed (it is in the queue) and not after the cancellation
  (its buffer is released then); `a` is dequeued with flag word `w + 1`, once;
* every other dequeued remote message has a different key;
* fossil collection does not release `e` or `a` (an event that can still be cancelled is not below the GVT). -/
def OkOp (P : Pair) (ev : Nat → Event) (d : Bool) (s : St σ) : Op → Prop
  | .msg i =>
    (∀ x ∈ pastMsgs s.lp.hist, (x = P.e → keyAt i.look x = P.key) ∧ (x ≠ P.e → keyAt i.look x ≠ P.key)) ∧
    (∀ b ∈ s.earlyAntis, (b = P.a → keyAt i.look b = P.key) ∧ (b ≠ P.a → keyAt i.look b ≠ P.key)) ∧
    (i.m = P.e → i.f = P.w ∧ (i.look i.m).mSeq = P.q ∧ P.e ∉ pastMsgs s.lp.hist ∧ (d = true → P.a ∈ s.earlyAntis)) ∧
    (i.m = P.a → i.f = P.w + 1 ∧ (i.look i.m).mSeq = P.q ∧ d = false) ∧
    (i.m ≠ P.e → i.m ≠ P.a →
      (i.f % 2 = 1 → 3 < i.f → i.antiKey ≠ P.key) ∧ (i.f % 2 = 0 → i.f ≠ 0 → i.eventKey ≠ P.key))
  | .ckpt => True
  | .fossil gvt ep => ∀ o, fossil (fun m => (ev m).t) s.lp gvt ep = some o →
      P.e ∉ frees (fossilFrees o.dropped) ∧ P.a ∉ frees (fossilFrees o.dropped)

/-- the environment's guarantees along a whole run -/
def Legal (P : Pair) (h : σ → Event → σ × List Event) (ev : Nat → Event) (remote : Nat → Bool) :
    Bool → St σ → List Op → Prop
  | _, _, [] => True
  | d, s, op :: ops => OkOp P ev d s op ∧
      ∀ s1 a1, stepOp h ev remote s op = some (s1, a1) → Legal P h ev remote (d || op.isA P) s1 ops

/-- the invariant of the pair; `F` = the buffers released so far -/
structure PInv (P : Pair) (d : Bool) (s : St σ) (F : List Nat) : Prop where
  e_not_early : P.e ∉ s.earlyAntis
  a_not_past : P.a ∉ pastMsgs s.lp.hist
  e_once : (pastMsgs s.lp.hist).count P.e ≤ 1
  a_once : s.earlyAntis.count P.a ≤ 1
  before : d = false → P.a ∉ s.earlyAntis ∧ F.count P.e = 0 ∧ F.count P.a = 0
  parked : d = true → P.a ∈ s.earlyAntis → P.e ∉ pastMsgs s.lp.hist ∧ F.count P.e = 0 ∧ F.count P.a = 0
  done : d = true → P.a ∉ s.earlyAntis → P.e ∉ pastMsgs s.lp.hist ∧ F.count P.e = 1 ∧ F.count P.a = 1

theorem not_mem_of_count_le {l1 l2 : List Nat} {x : Nat} (hc : l1.count x ≤ l2.count x) (hx : x ∉ l2) : x ∉ l1 := by
  rw [← List.count_eq_zero] at hx ⊢; omega

/-- an operation that neither adds the pair to the processed messages / the early list nor releases it keeps the invariant -/
theorem pinv_mono {P : Pair} {d : Bool} {s s1 : St σ} {F F1 : List Nat} (hinv : PInv P d s F)
    (hpe : (pastMsgs s1.lp.hist).count P.e ≤ (pastMsgs s.lp.hist).count P.e)
    (hpa : (pastMsgs s1.lp.hist).count P.a ≤ (pastMsgs s.lp.hist).count P.a)
    (hea : s1.earlyAntis.count P.a = s.earlyAntis.count P.a)
    (hee : P.e ∉ s1.earlyAntis)
    (hFe : F1.count P.e = F.count P.e) (hFa : F1.count P.a = F.count P.a) : PInv P d s1 F1 := by
  have hmem : P.a ∈ s1.earlyAntis ↔ P.a ∈ s.earlyAntis := by
    rw [← List.count_pos_iff, ← List.count_pos_iff, hea]
  refine ⟨hee, not_mem_of_count_le hpa hinv.a_not_past, Nat.le_trans hpe hinv.e_once, hea ▸ hinv.a_once, fun hd => ?_,
    fun hd hm => ?_, fun hd hm => ?_⟩
  · obtain ⟨h1, h2, h3⟩ := hinv.before hd
    exact ⟨fun hm => h1 (hmem.mp hm), hFe.trans h2, hFa.trans h3⟩
  · obtain ⟨h1, h2, h3⟩ := hinv.parked hd (hmem.mp hm)
    exact ⟨not_mem_of_count_le hpe h1, hFe.trans h2, hFa.trans h3⟩
  · obtain ⟨h1, h2, h3⟩ := hinv.done hd (fun hm' => hm (hmem.mpr hm'))
    exact ⟨not_mem_of_count_le hpe h1, hFe.trans h2, hFa.trans h3⟩

theorem count_pastMsgs_take_le (hist : List Entry) (k x : Nat) :
    (pastMsgs (hist.take k)).count x ≤ (pastMsgs hist).count x :=
  (pastMsgs_take_sub hist k).count_le x

theorem count_two (F : List Nat) (x y z : Nat) : (F ++ [y, z]).count x = F.count x + (if y = x then 1 else 0) + (if z = x then 1 else 0) := by
  simp [List.count_append, List.count_cons]; omega

theorem count_one (F : List Nat) (x y : Nat) : (F ++ [y]).count x = F.count x + (if y = x then 1 else 0) := by
  simp [List.count_append, List.count_cons]

theorem eq_zero_of_add_succ_le_one {a b : Nat} (h : a + (b + 1) ≤ 1) : a = 0 := by omega

theorem not_mem_remove_of_once {l1 l2 : List Nat} {b : Nat} (h : (l1 ++ b :: l2).count b ≤ 1) : b ∉ l1 ++ l2 := by
  rw [List.count_append, List.count_cons_self] at h
  rw [← List.count_eq_zero, List.count_append]
  omega

theorem not_mem_remove {l1 l2 : List Nat} {b x : Nat} (hx : x ∉ l1 ++ b :: l2) : x ∉ l1 ++ l2 := fun hm =>
  hx ((List.mem_append.mp hm).elim (List.mem_append_left _) fun h2 => List.mem_append_right _ (List.mem_cons_of_mem _ h2))

theorem Pair.Ok.anti_flag {P : Pair} (hP : P.Ok) {f : Nat} (hf : f = P.w + 1) : f % 2 = 1 ∧ 3 < f := by
  subst hf
  exact ⟨by rw [Nat.add_mod, hP.even], Nat.lt_succ_of_le (Nat.le_of_succ_le hP.big)⟩

theorem Pair.Ok.event_flag {P : Pair} (hP : P.Ok) {f : Nat} (hf : f = P.w) : f % 2 = 0 ∧ 3 < f := by
  subst hf
  exact ⟨hP.even, hP.big⟩

theorem pinv_step_msg {P : Pair} (hP : P.Ok) {remote : Nat → Bool} {d : Bool} {s s1 : St σ} {F : List Nat} {i : Inp}
    {a1 : List Action} (hinv : PInv P d s F) (hI : LInv h ev init base s.lp) (hok : OkOp P ev d s (Op.msg i))
    (hs : step h ev i.look remote i.alloc s i.m i.f = some (s1, a1)) :
    PInv P (d || (Op.msg i).isA P) s1 (F ++ frees a1) := by
  obtain ⟨L1, L2, LE, LA, LO⟩ := hok
  have hne := hP.ne
  -- the flag word tells the two messages of the pair apart; `d` changes when the anti-message is dequeued
  have fE : i.m = P.e → i.f % 2 = 0 ∧ 3 < i.f := fun hme => hP.event_flag (LE hme).1
  have fA : i.m = P.a → i.f % 2 = 1 ∧ 3 < i.f := fun hma => hP.anti_flag (LA hma).1
  have hdA : i.m = P.a → (d || (Op.msg i).isA P) = true := fun hma => by simp [Op.isA, hma]
  have hdN : i.m ≠ P.a → (d || (Op.msg i).isA P) = d := fun hma => by simp [Op.isA, hma]
  have htake := count_pastMsgs_take_le s.lp.hist
  have hsum := step_summary hI hs
  -- only the history and the early list of the new state matter: make them variables
  obtain ⟨⟨hist1, _, _, _, _⟩, early1⟩ := s1
  dsimp only at hsum
  rcases hsum with ⟨h1, h2, hz, hh, he, hacts⟩ | ⟨h1, h2, A, G, x, B, a, hkx, hh, he, hfr⟩ |
    ⟨hf, k, hh, he, hfr⟩ | ⟨h1, h2, b, l1, l2, hl, hb, hh, he, hacts⟩ | ⟨h1, hno, k, hh, he, hfr⟩
  · -- a remote anti-message is parked
    have hme : i.m ≠ P.e := fun hme => not_even_of_odd h1 (fE hme).1
    subst hh he
    rw [hacts, show frees [Action.earlyPark i.m] = [] from rfl, List.append_nil]
    by_cases hma : i.m = P.a
    · obtain ⟨hfa, hq, rfl⟩ := LA hma
      obtain ⟨b1, b2, b3⟩ := hinv.before rfl
      have henp : P.e ∉ pastMsgs s.lp.hist := fun hmem =>
        findRemote_zero hz _ hmem (by rw [(L1 _ hmem).1 rfl, Pair.key, hfa, hq])
      rw [hdA hma, hma]
      refine ⟨fun hm => ?_, hinv.a_not_past, hinv.e_once, ?_, nofun, fun _ _ => ⟨henp, b2, b3⟩,
        fun _ hn => absurd (List.mem_cons_self ..) hn⟩
      · exact (List.mem_cons.mp hm).elim hne hinv.e_not_early
      · rw [List.count_cons_self, List.count_eq_zero.mpr b1]; exact Nat.le_refl 1
    · rw [hdN hma]
      refine pinv_mono hinv (Nat.le_refl _) (Nat.le_refl _) (List.count_cons_of_ne hma) (fun hm => ?_) rfl rfl
      exact (List.mem_cons.mp hm).elim (Ne.symm hme) hinv.e_not_early
  · -- a remote anti-message cancels the processed event `x`
    have hme : i.m ≠ P.e := fun hme => not_even_of_odd h1 (fE hme).1
    have hxm : x ∈ pastMsgs s.lp.hist := by rw [a.pastMsgs]; exact List.mem_append_right _ (List.mem_cons_self ..)
    subst hh he
    rw [hfr]
    by_cases hma : i.m = P.a
    · obtain ⟨hfa, hq, rfl⟩ := LA hma
      obtain ⟨b1, b2, b3⟩ := hinv.before rfl
      have hxe : x = P.e := Classical.byContradiction fun hxe => (L1 x hxm).2 hxe (by rw [hkx, Pair.key, hfa, hq])
      subst hxe
      -- the only processed entry of the event is the one that is undone
      have henp : P.e ∉ pastMsgs (s.lp.hist.take A.length) := by
        have := hinv.e_once
        rw [a.pastMsgs, List.count_append, List.count_cons_self] at this
        rw [a.take, ← List.count_eq_zero]
        exact eq_zero_of_add_succ_le_one this
      rw [hdA hma, hma]
      refine ⟨hinv.e_not_early, not_mem_of_count_le (htake _ _) hinv.a_not_past, Nat.le_trans (htake _ _) hinv.e_once,
        hinv.a_once, nofun, fun _ hm => absurd hm b1, fun _ _ => ⟨henp, ?_, ?_⟩⟩
      · rw [count_two, if_pos rfl, if_neg hne.symm, b2]
      · rw [count_two, if_neg hne, if_pos rfl, b3]
    · rw [hdN hma]
      have hkey := (LO hme hma).1 h1 h2
      have hxe : x ≠ P.e := fun hxe => hkey (by rw [← (L1 _ hxm).1 hxe, hkx]; rfl)
      have hxa : x ≠ P.a := fun hxa => hinv.a_not_past (hxa ▸ hxm)
      exact pinv_mono hinv (htake _ _) (htake _ _) rfl hinv.e_not_early
        (by rw [count_two, if_neg hxe, if_neg hme]; rfl) (by rw [count_two, if_neg hxa, if_neg hma]; rfl)
  · -- a local anti-message
    have hme : i.m ≠ P.e := fun hme => not_even_of_odd (odd_of_local hf) (fE hme).1
    have hma : i.m ≠ P.a := fun hma => not_local_of_gt (fA hma).2 hf
    subst hh he
    rw [hdN hma, hfr]
    exact pinv_mono hinv (htake _ _) (htake _ _) rfl hinv.e_not_early
      (by rw [count_one, if_neg hme]; rfl) (by rw [count_one, if_neg hma]; rfl)
  · -- a remote event finds its anti-message waiting
    have hma : i.m ≠ P.a := fun hma => not_even_of_odd (fA hma).1 h1
    have hbm : b ∈ s.earlyAntis := by rw [hl]; exact List.mem_append_right _ (List.mem_cons_self ..)
    have hee : P.e ∉ l1 ++ l2 := not_mem_remove (hl ▸ hinv.e_not_early)
    subst hh he
    rw [hdN hma, hacts, show frees [Action.earlyMatch i.m b, Action.free i.m, Action.free b] = [i.m, b] from rfl]
    by_cases hme : i.m = P.e
    · obtain ⟨hfe, hq, henp, hda⟩ := LE hme
      have hba : b = P.a := Classical.byContradiction fun hba => (L2 b hbm).2 hba (by rw [hb, Pair.key, hfe, hq])
      subst hba
      have hdt : d = true := by
        cases d with
        | true => rfl
        | false => exact absurd hbm (hinv.before rfl).1
      subst hdt
      obtain ⟨p1, p2, p3⟩ := hinv.parked rfl hbm
      have hna : P.a ∉ l1 ++ l2 := not_mem_remove_of_once (hl ▸ hinv.a_once)
      refine ⟨hee, hinv.a_not_past, hinv.e_once, ?_, nofun, fun _ hm => absurd hm hna, fun _ _ => ⟨p1, ?_, ?_⟩⟩
      · rw [List.count_eq_zero.mpr hna]; exact Nat.zero_le 1
      · rw [hme, count_two, if_pos rfl, if_neg hne.symm, p2]
      · rw [hme, count_two, if_neg hne, if_pos rfl, p3]
    · have hkey := (LO hme hma).2 h1 h2
      have hba : b ≠ P.a := fun hba => hkey (by rw [← (L2 b hbm).1 hba, hb]; rfl)
      have hbe : b ≠ P.e := fun hbe => hinv.e_not_early (hbe ▸ hbm)
      refine pinv_mono hinv (Nat.le_refl _) (Nat.le_refl _) ?_ hee
        (by rw [count_two, if_neg hme, if_neg hbe]; rfl) (by rw [count_two, if_neg hma, if_neg hba]; rfl)
      rw [hl, List.count_append, List.count_append, List.count_cons_of_ne hba]
  · -- an ordinary message is processed
    have hma : i.m ≠ P.a := fun hma => not_even_of_odd (fA hma).1 h1
    subst he
    rw [hdN hma, hfr, List.append_nil]
    by_cases hme : i.m = P.e
    · obtain ⟨hfe, hq, henp, hda⟩ := LE hme
      have hna : P.a ∉ s.earlyAntis := fun hm =>
        hno.elim (fun h0 => absurd (fE hme).2 (by rw [h0]; decide))
          (fun hno => hno _ hm (by rw [(L2 _ hm).1 rfl, Pair.key, hfe, hq]))
      have hdf : d = false := by
        cases d with
        | false => rfl
        | true => exact absurd (hda rfl) hna
      subst hdf
      have hnt : P.e ∉ pastMsgs (s.lp.hist.take k) := not_mem_of_count_le (htake _ _) henp
      refine ⟨hinv.e_not_early, ?_, ?_, hinv.a_once, fun _ => hinv.before rfl, nofun, nofun⟩
      · rw [hh, hme]
        exact fun hm => (List.mem_append.mp hm).elim (not_mem_of_count_le (htake _ _) hinv.a_not_past)
          (fun h2 => hne (List.mem_singleton.mp h2).symm)
      · rw [hh, hme, List.count_append, List.count_eq_zero.mpr hnt, List.count_singleton_self]; exact Nat.le_refl 1
    · refine pinv_mono hinv ?_ ?_ rfl hinv.e_not_early rfl rfl
      · rw [hh, List.count_append, List.count_singleton, beq_false_of_ne hme]; exact htake k P.e
      · rw [hh, List.count_append, List.count_singleton, beq_false_of_ne hma]; exact htake k P.a

theorem frees_fossilFrees_sub (dropped : List Entry) (x : Nat) (hx : x ∉ frees (fossilFrees dropped)) :
    (frees (fossilFrees dropped)).count x = 0 := List.count_eq_zero.mpr hx

theorem pinv_step {P : Pair} (hP : P.Ok) {remote : Nat → Bool} {d : Bool} {s s1 : St σ} {F : List Nat} {op : Op}
    {a1 : List Action} (hinv : PInv P d s F) (hE : ∃ base, LInv h ev init base s.lp) (hok : OkOp P ev d s op)
    (hs : stepOp h ev remote s op = some (s1, a1)) : PInv P (d || op.isA P) s1 (F ++ frees a1) := by
  obtain ⟨base, hI⟩ := hE
  cases op with
  | msg i => exact pinv_step_msg hP hinv hI hok hs
  | ckpt =>
    cases hs
    rw [show (d || Op.ckpt.isA P) = d from Bool.or_false d, show frees [] = [] from rfl, List.append_nil]
    exact pinv_mono hinv (Nat.le_refl _) (Nat.le_refl _) rfl hinv.e_not_early rfl rfl
  | fossil gvt ep =>
    rw [show (d || (Op.fossil gvt ep).isA P) = d from Bool.or_false d]
    rw [stepOp] at hs
    split at hs
    · rename_i o ho
      cases hs
      obtain ⟨he, ha⟩ := hok o ho
      obtain ⟨hh, _⟩ := fossil_inv hI _ gvt ep ho
      have hsub : (pastMsgs o.lp.hist).Sublist (pastMsgs s.lp.hist) := by
        rw [hh, pastMsgs_append]; exact List.sublist_append_right _ _
      refine pinv_mono hinv (hsub.count_le _) (hsub.count_le _) rfl hinv.e_not_early ?_ ?_
      · rw [List.count_append, List.count_eq_zero.mpr he]; rfl
      · rw [List.count_append, List.count_eq_zero.mpr ha]; rfl
    · cases hs
      rw [show frees [] = [] from rfl, List.append_nil]
      exact pinv_mono hinv (Nat.le_refl _) (Nat.le_refl _) rfl hinv.e_not_early rfl rfl

theorem acts_cons (x : St σ × Op × List Action) (T : Trace σ) : Trace.acts (x :: T) = x.2.2 ++ Trace.acts T := by
  simp [Trace.acts]

theorem acts_append (T1 T2 : Trace σ) : Trace.acts (T1 ++ T2) = Trace.acts T1 ++ Trace.acts T2 := by
  simp [Trace.acts]

/-- a legal run, cut after the operations `o1`: the invariants hold at the cut, the rest of the run is legal -/
theorem legal_run_split {P : Pair} (hP : P.Ok) {remote : Nat → Bool} : ∀ (o1 o2 : List Op) (d : Bool) (s s' : St σ)
    (F : List Nat) (T : Trace σ), PInv P d s F → (∃ base, LInv h ev init base s.lp) → Legal P h ev remote d s (o1 ++ o2) →
    run h ev remote s (o1 ++ o2) = some (s', T) →
    ∃ s1 T1 T2, T = T1 ++ T2 ∧ run h ev remote s o1 = some (s1, T1) ∧ run h ev remote s1 o2 = some (s', T2) ∧
      PInv P (d || o1.any (fun op => op.isA P)) s1 (F ++ frees (Trace.acts T1)) ∧ (∃ base, LInv h ev init base s1.lp) ∧
      Legal P h ev remote (d || o1.any (fun op => op.isA P)) s1 o2
  | [], o2, d, s, s', F, T, hinv, hE, hl, hr => by
    refine ⟨s, [], T, rfl, rfl, hr, ?_, hE, ?_⟩ <;> rw [List.any_nil, Bool.or_false]
    · rw [show frees (Trace.acts ([] : Trace σ)) = [] from rfl, List.append_nil]; exact hinv
    · exact hl
  | op :: o1, o2, d, s, s', F, T, hinv, hE, hl, hr => by
    obtain ⟨s1, a1, T1, hso, hr1, rfl⟩ := run_cons hr
    obtain ⟨s2, T2, T3, rfl, q1, q2, q3, q4, q5⟩ := legal_run_split hP o1 o2 _ s1 s' _ T1 (pinv_step hP hinv hE hl.1 hso)
      (stepOp_exact hE hso) (hl.2 s1 a1 hso) hr1
    refine ⟨s2, _, T3, rfl, run_cons_of hso q1, q2, ?_, q4, ?_⟩
    · rw [List.any_cons, ← Bool.or_assoc, acts_cons, frees_append, ← List.append_assoc]; exact q3
    · rw [List.any_cons, ← Bool.or_assoc]; exact q5

theorem pinv_run {P : Pair} (hP : P.Ok) {remote : Nat → Bool} (ops : List Op) (d : Bool) (s s' : St σ) (F : List Nat)
    (T : Trace σ) (hinv : PInv P d s F) (hE : ∃ base, LInv h ev init base s.lp) (hl : Legal P h ev remote d s ops)
    (hr : run h ev remote s ops = some (s', T)) :
    PInv P (d || ops.any (fun op => op.isA P)) s' (F ++ frees (Trace.acts T)) := by
  obtain ⟨s1, T1, T2, rfl, _, q2, q3, _⟩ := legal_run_split hP ops [] d s s' F T hinv hE (by rwa [List.append_nil])
    (by rwa [List.append_nil])
  obtain ⟨rfl, rfl⟩ := run_nil q2
  rwa [List.append_nil]

/-- the anti-message finds its event processed: it is not parked -/
theorem a_step_done {P : Pair} (hP : P.Ok) {remote : Nat → Bool} {s s1 : St σ} {F : List Nat} {i : Inp} {a1 : List Action}
    (hinv : PInv P false s F) (hok : OkOp P ev false s (Op.msg i)) (hma : i.m = P.a)
    (hep : P.e ∈ pastMsgs s.lp.hist)
    (hs : step h ev i.look remote i.alloc s i.m i.f = some (s1, a1)) : P.a ∉ s1.earlyAntis := by
  obtain ⟨L1, _, _, LA, _⟩ := hok
  obtain ⟨hfa, hq, _⟩ := LA hma
  obtain ⟨hodd, h3⟩ := hP.anti_flag hfa
  obtain ⟨k, _, c⟩ := step_case hs
  cases c with
  | park _ _ hz =>
    refine absurd ?_ (findRemote_zero hz _ hep)
    rw [(L1 _ hep).1 rfl, Pair.key, hfa, hq]
  | remoteAnti => exact (hinv.before rfl).1
  | localAnti _ _ _ hf => exact (not_local_of_gt h3 (.inl hf)).elim
  | discard hf => exact (not_local_of_gt h3 (.inr hf)).elim
  | earlyMatch _ _ _ hev | straggler _ _ hev | inOrder _ hev => exact (not_even_of_odd hodd hev).elim

/-- the event finds its anti-message waiting: the anti-message leaves the list -/
theorem e_step_done {P : Pair} (hP : P.Ok) {remote : Nat → Bool} {d : Bool} {s s1 : St σ} {F : List Nat} {i : Inp}
    {a1 : List Action} (hinv : PInv P d s F) (hok : OkOp P ev d s (Op.msg i))
    (hme : i.m = P.e) (hap : P.a ∈ s.earlyAntis)
    (hs : step h ev i.look remote i.alloc s i.m i.f = some (s1, a1)) : P.a ∉ s1.earlyAntis := by
  obtain ⟨_, L2, LE, _, _⟩ := hok
  obtain ⟨hfe, hq, _, _⟩ := LE hme
  obtain ⟨hev, h3⟩ := hP.event_flag hfe
  have hkey : keyAt i.look P.a = (i.f + 2, (i.look i.m).mSeq) := by rw [(L2 _ hap).1 rfl, Pair.key, hfe, hq]
  obtain ⟨k, _, c⟩ := step_case hs
  cases c with
  | park hodd | remoteAnti _ _ _ _ hodd => exact (not_even_of_odd hodd hev).elim
  | localAnti _ _ _ hf => exact (not_local_of_gt h3 (.inl hf)).elim
  | discard hf => exact (not_local_of_gt h3 (.inr hf)).elim
  | @earlyMatch l1 l2 b hl hb =>
    have hbm : b ∈ s.earlyAntis := by rw [hl]; simp
    have hba : b = P.a := Classical.byContradiction fun hba => (L2 b hbm).2 hba (by rw [hb, Pair.key, hfe, hq])
    subst hba
    exact not_mem_remove_of_once (hl ▸ hinv.a_once)
  | straggler _ _ _ hno | inOrder _ _ hno =>
    rcases hno with h0 | hno
    · exact absurd h3 (by rw [h0]; decide)
    · exact absurd hkey (hno _ hap)

theorem count_append_ge (F G : List Nat) (x : Nat) : F.count x ≤ (F ++ G).count x := by
  rw [List.count_append]; omega


/-- neither message of the pair has been seen by the LP yet -/
def Pair.Fresh (P : Pair) (s : St σ) : Prop :=
  P.e ∉ pastMsgs s.lp.hist ∧ P.a ∉ pastMsgs s.lp.hist ∧ P.e ∉ s.earlyAntis ∧ P.a ∉ s.earlyAntis

theorem pinv_init {P : Pair} {s : St σ} (hf : P.Fresh s) : PInv P false s [] := by
  obtain ⟨h1, h2, h3, h4⟩ := hf
  refine ⟨h3, h2, by rw [List.count_eq_zero.mpr h1]; omega, by rw [List.count_eq_zero.mpr h4]; omega, ?_, by simp, by simp⟩
  intro _; exact ⟨h4, rfl, rfl⟩

/-- once the pair is cancelled it stays cancelled: with `d = true`, "the anti-message has been released" excludes "parked" -/
theorem done_of_count {P : Pair} {s : St σ} {F : List Nat} (hinv : PInv P true s F) (hc : 1 ≤ F.count P.a) :
    P.e ∉ pastMsgs s.lp.hist ∧ P.a ∉ s.earlyAntis ∧ F.count P.e = 1 ∧ F.count P.a = 1 := by
  have hna : P.a ∉ s.earlyAntis := by
    intro hm
    have := (hinv.parked rfl hm).2.2
    omega
  obtain ⟨h1, h2, h3⟩ := hinv.done rfl hna
  exact ⟨h1, hna, h2, h3⟩

theorem remote_cancel_core {P : Pair} (hP : P.Ok) {remote : Nat → Bool} {s0 s' : St σ} {T : Trace σ}
    (hE : ∃ base, LInv h ev init base s0.lp) (hfresh : P.Fresh s0)
    (pre post : List Op) (iA : Inp) (hA : iA.m = P.a)
    (hlegal : Legal P h ev remote false s0 (pre ++ Op.msg iA :: post))
    (hrun : run h ev remote s0 (pre ++ Op.msg iA :: post) = some (s', T))
    (hcomplete : (∃ s1 T1, run h ev remote s0 pre = some (s1, T1) ∧ P.e ∈ pastMsgs s1.lp.hist) ∨
                 (∃ op ∈ post, op.isE P = true)) :
    P.e ∉ pastMsgs s'.lp.hist ∧ P.a ∉ s'.earlyAntis ∧
    (frees (Trace.acts T)).count P.e = 1 ∧ (frees (Trace.acts T)).count P.a = 1 := by
  obtain ⟨s1, T1, Tr, rfl, hr1, hrr, hinv1, hE1, hl1⟩ := legal_run_split hP pre _ false s0 s' [] T (pinv_init hfresh) hE
    hlegal hrun
  -- the anti-message is dequeued for the first time here
  rw [(hl1.1.2.2.2.1 hA).2.2, List.nil_append] at hinv1
  rw [(hl1.1.2.2.2.1 hA).2.2] at hl1
  obtain ⟨s2, aA, Tp, hso, hr2, rfl⟩ := run_cons hrr
  have hinv2 := pinv_step hP hinv1 hE1 hl1.1 hso
  have hE2 := stepOp_exact hE1 hso
  have hl2 := hl1.2 s2 aA hso
  rw [show (false || (Op.msg iA).isA P) = true by simp [Op.isA, hA]] at hinv2 hl2
  rw [acts_append, acts_cons, frees_append, frees_append, ← List.append_assoc]
  -- once the anti-message's buffer is released, the rest of a legal run keeps the pair cancelled
  have finish : ∀ {s3 : St σ} {F : List Nat} {ops : List Op} {Tq : Trace σ}, PInv P true s3 F → 1 ≤ F.count P.a →
      (∃ base, LInv h ev init base s3.lp) → Legal P h ev remote true s3 ops → run h ev remote s3 ops = some (s', Tq) →
      P.e ∉ pastMsgs s'.lp.hist ∧ P.a ∉ s'.earlyAntis ∧
      (F ++ frees (Trace.acts Tq)).count P.e = 1 ∧ (F ++ frees (Trace.acts Tq)).count P.a = 1 :=
    fun hinv hc hE3 hl3 hr3 => done_of_count (pinv_run hP _ true _ s' _ _ hinv hE3 hl3 hr3)
      (Nat.le_trans hc (count_append_ge _ _ _))
  rcases hcomplete with ⟨s1', T1', hr1', hep⟩ | ⟨opE, hmem, hisE⟩
  · -- the event is processed when the anti-message arrives
    rw [hr1] at hr1'; cases hr1'
    have hna := a_step_done hP hinv1 hl1.1 hA hep hso
    exact finish hinv2 (Nat.le_of_eq (hinv2.done rfl hna).2.2.symm) hE2 hl2 hr2
  · -- the event is dequeued after the anti-message
    obtain ⟨p1, p2, rfl⟩ := List.append_of_mem hmem
    obtain ⟨s4, T4, T5, rfl, _, hr5, hinv4, hE4, hl4⟩ := legal_run_split hP p1 _ true s2 s' _ Tp hinv2 hE2 hl2 hr2
    obtain ⟨s5, aE, T6, hso5, hr6, rfl⟩ := run_cons hr5
    cases opE with
    | ckpt => cases hisE
    | fossil gvt ep => cases hisE
    | msg iE =>
      have hmE : iE.m = P.e := by simpa [Op.isE] using hisE
      have hna := e_step_done hP hinv4 hl4.1 hmE ((hl4.1.2.2.1 hmE).2.2.2 rfl) hso5
      have hinv5 := pinv_step hP hinv4 hE4 hl4.1 hso5
      have := finish hinv5 (Nat.le_of_eq (hinv5.done rfl hna).2.2.symm) (stepOp_exact hE4 hso5) (hl4.2 s5 aE hso5) hr6
      rw [acts_append, acts_cons, frees_append, frees_append, ← List.append_assoc, ← List.append_assoc]
      exact this

theorem run_ops {remote : Nat → Bool} : ∀ (ops : List Op) (s s' : St σ) (T : Trace σ),
    run h ev remote s ops = some (s', T) → T.map (fun x => x.2.1) = ops
  | [], s, s', T, hr => by rw [(run_nil hr).2]; rfl
  | op :: ops, s, s', T, hr => by
    obtain ⟨s1, a1, T1, _, hr1, rfl⟩ := run_cons hr
    rw [List.map_cons, run_ops ops s1 s' T1 hr1]

/-- the key a dequeued remote anti-message carries (`none`: the operation is not the dequeue of a remote anti-message) -/
def Op.antiKey? : Op → Option (Nat × Nat)
  | .msg i => if i.f % 2 = 1 ∧ 3 < i.f then some i.antiKey else none
  | _ => none

theorem parkedBy_some {x : St σ × Op × List Action} {aK : Nat × (Nat × Nat)} (hp : parkedBy x = some aK) :
    ∃ i, x.2.1 = Op.msg i ∧ i.f % 2 = 1 ∧ 3 < i.f ∧ aK = (i.m, i.antiKey) := by
  unfold parkedBy at hp
  split at hp
  · rename_i i hi
    split at hp
    · rename_i hc
      simp only [Option.some.injEq] at hp
      exact ⟨i, hi, hc.1, hc.2.1, hp.symm⟩
    · simp at hp
  · simp at hp

theorem parked_keys_sublist : ∀ (T : Trace σ),
    ((T.filterMap parkedBy).map (·.2)).Sublist ((T.map (fun x => x.2.1)).filterMap Op.antiKey?)
  | [] => by simp
  | x :: T => by
    have ih := parked_keys_sublist T
    simp only [List.filterMap_cons, List.map_cons]
    cases hp : parkedBy x with
    | none =>
      simp only
      cases Op.antiKey? x.2.1 with
      | none => exact ih
      | some k => exact ih.trans (List.sublist_cons_self _ _)
    | some aK =>
      obtain ⟨i, hi, h1, h2, rfl⟩ := parkedBy_some hp
      have : Op.antiKey? x.2.1 = some i.antiKey := by rw [hi]; simp [Op.antiKey?, h1, h2]
      rw [this]
      simp only [List.map_cons]
      exact ih.cons_cons _

/-- dequeued remote anti-messages with pairwise different (id, seq): the parked ones too -/
theorem parked_nodup_of_ops {remote : Nat → Bool} {ops : List Op} {s s' : St σ} {T : Trace σ}
    (hr : run h ev remote s ops = some (s', T)) (hnd : (ops.filterMap Op.antiKey?).Nodup) :
    ((T.filterMap parkedBy).map (·.2)).Nodup := by
  have := parked_keys_sublist T
  rw [run_ops ops s s' T hr] at this
  exact List.Nodup.sublist this hnd

/-- one snapshot function for the whole run that shows, on every remote anti-message, the key it is dequeued with: the keys
are stable -/
theorem keysStable_of_const {remote : Nat → Bool} {ops : List Op} {s s' : St σ} {T : Trace σ} (lk : Nat → Msg)
    (hr : run h ev remote s ops = some (s', T))
    (hlk : ∀ op ∈ ops, ∀ i, op = Op.msg i → i.look = lk ∧ (i.f % 2 = 1 → 3 < i.f → keyAt lk i.m = i.antiKey)) :
    KeysStable T := by
  have hops := run_ops ops s s' T hr
  have hmem : ∀ y ∈ T, y.2.1 ∈ ops := fun y hy => by rw [← hops]; exact List.mem_map_of_mem hy
  intro pre x post hT aK haK i hi _ _
  have h1 : aK ∈ (pre.filterMap parkedBy).reverse := (waiting_sublist pre).subset haK
  rw [List.mem_reverse, List.mem_filterMap] at h1
  obtain ⟨y, hy, hp⟩ := h1
  obtain ⟨j, hj, q1, q2, rfl⟩ := parkedBy_some hp
  have hyT : y ∈ T := by rw [hT]; exact List.mem_append_left _ hy
  have hxT : x ∈ T := by rw [hT]; simp
  have hj' := hlk _ (hmem y hyT) j hj
  have hi' := hlk _ (hmem x hxT) i hi
  rw [hi'.1]
  exact hj'.2 q1 q2

/-! ### decidability of the environment's guarantees (for the non-vacuity examples) -/

instance decOkOp (P : Pair) (ev : Nat → Event) (d : Bool) (s : St σ) : (op : Op) → Decidable (OkOp P ev d s op)
  | .msg i =>
    have i1 : Decidable (∀ x ∈ pastMsgs s.lp.hist, (x = P.e → keyAt i.look x = P.key) ∧ (x ≠ P.e → keyAt i.look x ≠ P.key)) :=
      inferInstance
    have i2 : Decidable (∀ b ∈ s.earlyAntis, (b = P.a → keyAt i.look b = P.key) ∧ (b ≠ P.a → keyAt i.look b ≠ P.key)) :=
      inferInstance
    have i3 : Decidable (i.m = P.e → i.f = P.w ∧ (i.look i.m).mSeq = P.q ∧ P.e ∉ pastMsgs s.lp.hist ∧
        (d = true → P.a ∈ s.earlyAntis)) := inferInstance
    have i4 : Decidable (i.m = P.a → i.f = P.w + 1 ∧ (i.look i.m).mSeq = P.q ∧ d = false) := inferInstance
    have i5 : Decidable (i.m ≠ P.e → i.m ≠ P.a →
        (i.f % 2 = 1 → 3 < i.f → i.antiKey ≠ P.key) ∧ (i.f % 2 = 0 → i.f ≠ 0 → i.eventKey ≠ P.key)) := inferInstance
    @instDecidableAnd _ _ i1 (@instDecidableAnd _ _ i2 (@instDecidableAnd _ _ i3 (@instDecidableAnd _ _ i4 i5)))
  | .ckpt => isTrue trivial
  | .fossil gvt ep =>
    match hf : fossil (fun m => (ev m).t) s.lp gvt ep with
    | some o => decidable_of_iff (P.e ∉ frees (fossilFrees o.dropped) ∧ P.a ∉ frees (fossilFrees o.dropped))
        ⟨fun hh o' ho' => by rw [hf] at ho'; cases ho'; exact hh, fun hh => hh o hf⟩
    | none => isTrue (fun o ho => by rw [hf] at ho; cases ho)

instance decLegal (P : Pair) (h : σ → Event → σ × List Event) (ev : Nat → Event) (remote : Nat → Bool) :
    (ops : List Op) → (d : Bool) → (s : St σ) → Decidable (Legal P h ev remote d s ops)
  | [], _, _ => isTrue trivial
  | op :: ops, d, s =>
    match hs : stepOp h ev remote s op with
    | some r =>
      have := decLegal P h ev remote ops (d || op.isA P) r.1
      decidable_of_iff (OkOp P ev d s op ∧ Legal P h ev remote (d || op.isA P) r.1 ops)
        ⟨fun hh => ⟨hh.1, fun s1 a1 hs1 => by rw [hs] at hs1; cases hs1; exact hh.2⟩,
         fun hh => ⟨hh.1, hh.2 r.1 r.2 (by rw [hs])⟩⟩
    | none => decidable_of_iff (OkOp P ev d s op)
        ⟨fun hh => ⟨hh, fun s1 a1 hs1 => by rw [hs] at hs1; cases hs1⟩, fun hh => hh.1⟩

end RootSim.LPFull
