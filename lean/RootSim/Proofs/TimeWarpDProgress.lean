import RootSim.Proofs.TimeWarpD
import RootSim.Proofs.TimeWarpGProgress
/-! From the invariant of the Time Warp machine with the straggler rule of the code (`Proofs/TimeWarpD.lean`) to
the two hypotheses of prefix uniqueness under V2 (`Proofs/SpecV2.lean`), for the UNTAINTED prefixes of the
histories (`TWD.cleanOf`): `Spec.Hist` and `Spec.Progress`. Below a lower bound `g` of everything pending the
untainted prefix and the whole history have the same entries (`DInv.clean_filter`): a doomed entry has its
anti-message in `antis` (time stamp `≥ g`), and the histories are sorted by time stamp. -/
namespace RootSim.TWD
open RootSim RootSim.Spec RootSim.TW RootSim.TWG List

variable {σ : Type}

/-! ### the untainted prefix and the tainted rest -/

theorem past_split (s : TWGState) (ℓ : Nat) : s.past ℓ = cleanPast s ℓ ++ taintedPast s ℓ := by
  unfold cleanPast taintedPast
  cases s.past ℓ with
  | nil => rfl
  | cons h T => simp [List.takeWhile_append_dropWhile]

theorem cleanPast_tail (s : TWGState) (ℓ : Nat) :
    (cleanPast s ℓ).tail = (s.past ℓ).tail.takeWhile (fun u => !decide (u.msg ∈ s.antis)) := by
  unfold cleanPast
  cases s.past ℓ with
  | nil => rfl
  | cons h T => rfl

theorem cleanPast_head? (s : TWGState) (ℓ : Nat) : (cleanPast s ℓ).head? = (s.past ℓ).head? := by
  unfold cleanPast
  cases s.past ℓ with
  | nil => rfl
  | cons h T => rfl

theorem tail_split (s : TWGState) (ℓ : Nat) :
    (s.past ℓ).tail = (cleanPast s ℓ).tail ++ taintedPast s ℓ := by
  rw [cleanPast_tail]
  exact (List.takeWhile_append_dropWhile).symm

theorem cleanPast_undoomed (s : TWGState) (ℓ : Nat) : ∀ u ∈ (cleanPast s ℓ).tail, u.msg ∉ s.antis := by
  intro u hu
  rw [cleanPast_tail] at hu
  have := List.all_eq_true.mp List.all_takeWhile u hu
  simpa using this

theorem tainted_head (s : TWGState) (ℓ : Nat) {x : TEntry} {R : List TEntry}
    (h : taintedPast s ℓ = x :: R) : x.msg ∈ s.antis := by
  have := List.head?_dropWhile_not (fun u => !decide (u.msg ∈ s.antis)) (s.past ℓ).tail
  rw [show List.dropWhile _ _ = x :: R from h] at this
  simpa using this

theorem cleanPast_eq_past {s : TWGState} (ha : s.antis = []) (ℓ : Nat) : cleanPast s ℓ = s.past ℓ := by
  have : taintedPast s ℓ = [] := by
    cases h : taintedPast s ℓ with
    | nil => rfl
    | cons x R => have := tainted_head s ℓ h; rw [ha] at this; simp at this
  conv => rhs; rw [past_split s ℓ, this, List.append_nil]

theorem cleanOf_eq_histOf {s : TWGState} (ha : s.antis = []) : cleanOf s = histOf s := by
  funext ℓ
  unfold cleanOf histOf
  rw [cleanPast_eq_past ha]

theorem histOf_split (s : TWGState) (ℓ : Nat) : histOf s ℓ = cleanOf s ℓ ++ evs (taintedPast s ℓ) := by
  unfold histOf cleanOf
  rw [← evs_append, ← past_split]

section inv
variable {M : SimModel σ} {s : TWGState}

theorem DInv.clean_head (I : DInv M s) {ℓ : Nat} (hℓ : ℓ < M.nLps) :
    (cleanOf s ℓ).head? = some (initEv ℓ) := by
  show (evs (cleanPast s ℓ)).head? = _
  unfold evs
  rw [List.head?_map, cleanPast_head?, I.b.head ℓ hℓ]; rfl

/-- **below a lower bound nothing is tainted**: every tainted entry has a time stamp `≥ g` -/
theorem DInv.tainted_ge (I : DInv M s) {g : Nat} (ha : ∀ x ∈ s.antis, g ≤ x.ev.t) (ℓ : Nat) :
    ∀ u ∈ taintedPast s ℓ, g ≤ u.ev.t := by
  intro u hu
  cases h : taintedPast s ℓ with
  | nil => rw [h] at hu; simp at hu
  | cons x R =>
    have hx := ha _ (tainted_head s ℓ h)
    rw [msg_ev] at hx
    have hs := I.s.tsorted ℓ
    rw [tail_split, h, evs_append, List.pairwise_append, evs_cons, List.pairwise_cons] at hs
    rw [h] at hu
    rcases List.mem_cons.mp hu with rfl | hu
    · exact hx
    · exact Nat.le_trans hx (hs.2.1.1 u.ev (mem_evs.mpr ⟨u, hu, rfl⟩))

theorem DInv.clean_filter (I : DInv M s) {g : Nat} (ha : ∀ x ∈ s.antis, g ≤ x.ev.t) (ℓ : Nat) :
    (cleanOf s ℓ).filter (below g) = (histOf s ℓ).filter (below g) := by
  rw [histOf_split, List.filter_append]
  have : (evs (taintedPast s ℓ)).filter (below g) = [] := by
    rw [List.filter_eq_nil_iff]
    intro a ha'
    obtain ⟨u, hu, rfl⟩ := mem_evs.mp ha'
    simp only [below, decide_eq_true_eq]
    exact Nat.not_lt.mpr (I.tainted_ge ha ℓ u hu)
  rw [this, List.append_nil]

theorem DInv.hist_tsorted (I : DInv M s) {ℓ : Nat} (hℓ : ℓ < M.nLps) :
    (histOf s ℓ).Pairwise (fun a b => a.t ≤ b.t) := by
  have hh := I.b.head ℓ hℓ
  obtain ⟨T, hT⟩ := List.head?_eq_some_iff.mp hh
  have hs := I.s.tsorted ℓ
  unfold histOf
  rw [hT] at hs ⊢
  rw [evs_cons, List.pairwise_cons]
  exact ⟨fun b _ => by simp [initEntry, initEv], hs⟩

theorem DInv.hist (V : V2 M) (I : DInv M s) {g : Nat}
    (hp : ∀ x ∈ s.pending, g ≤ x.ev.t) (ha : ∀ x ∈ s.antis, g ≤ x.ev.t) : Hist M (cleanOf s) g := by
  have hdest : ∀ ℓ, ℓ < M.nLps → ∀ e ∈ (cleanOf s ℓ).tail, e.dest = ℓ ∧ e.type < LP_INIT := by
    intro ℓ hℓ e he
    change e ∈ (evs (cleanPast s ℓ)).tail at he
    rw [← evs_tail] at he
    obtain ⟨u, hu, rfl⟩ := mem_evs.mp he
    exact I.b.dest ℓ hℓ u (by rw [tail_split]; exact List.mem_append_left _ hu)
  refine ⟨fun ℓ hℓ => I.clean_head hℓ, hdest, ?_, ?_⟩
  · intro ℓ hℓ
    show (evs (cleanPast s ℓ)).tail.Pairwise _
    rw [← evs_tail]
    have hpre : (cleanPast s ℓ).tail = (s.past ℓ).tail.take (cleanPast s ℓ).tail.length := by
      conv => rhs; rw [tail_split]
      exact (List.take_left' rfl).symm
    rw [hpre]
    apply I.s.csorted ℓ
    rw [← hpre]
    exact cleanPast_undoomed s ℓ
  · refine arrived_of_count_eq (fun ℓ hℓ e he => (hdest ℓ hℓ e he).1) fun e he hℓ => ?_
    have hc := I.b.core.cntEv e
    -- nothing at or above `g` is a copy of `e`: not what is pending, not the anti-messages, not the tainted
    -- entries, not what the invocations on tainted entries sent (V2)
    have hzero : ∀ l : List Event, (∀ x ∈ l, g ≤ x.t) → l.count e = 0 := fun l hl =>
      List.count_eq_zero.mpr (fun hx => absurd he (Nat.not_lt.mpr (hl e hx)))
    have hTg : ∀ ℓ', ∀ x ∈ evs (taintedPast s ℓ'), g ≤ x.t := fun ℓ' =>
      List.forall_mem_map.mpr (I.tainted_ge ha ℓ')
    have h1 := hzero (s.pending.map TMsg.ev) (List.forall_mem_map.mpr hp)
    have h2 := hzero (s.antis.map TMsg.ev) (List.forall_mem_map.mpr ha)
    have h3 : (restAll M.nLps (histOf s)).count e = (cleanOf s e.dest).tail.count e := by
      rw [count_restAll (fun ℓ' hℓ' x hx => (I.b.core.hist_dest hℓ' x hx).1) hℓ]
      show (evs (s.past e.dest)).tail.count e = (evs (cleanPast s e.dest)).tail.count e
      rw [← evs_tail, ← evs_tail, tail_split, evs_append, List.count_append, hzero _ (hTg e.dest)]
      rfl
    have h4 : (outsAll M (histOf s)).count e = (outsAll M (cleanOf s)).count e := by
      apply add_flatMap_congr (additive_count e)
      intro ℓ' _
      have := hzero (outsFrom M ℓ' (lpState M ℓ' (cleanOf s ℓ')) (evs (taintedPast s ℓ'))) (fun x hx => by
        obtain ⟨P0, c, S0, hl, hy⟩ := mem_outsFrom M ℓ' _ _ hx
        exact Nat.le_trans (hTg ℓ' c (by rw [hl]; simp)) (V.timeMono ℓ' _ c x hy))
      rw [histOf_split, outs_append, List.count_append, this]
      rfl
    omega

/-- **The machine's contribution under V2** (`TWG.CInv.progress`), for the untainted prefixes: whenever a
sequential run has followed them so far and some event of them below `g` is not dispatched yet, a minimal such
event is pending in the sequential run. The counting argument runs over the WHOLE histories (tainted entries
included): a tainted entry has a time stamp `≥ g`, so by V2 it neither is nor sends a copy of an event below
`g`. -/
theorem DInv.progress (V : V2 M) (I : DInv M s) {g : Nat}
    (hp : ∀ x ∈ s.pending, g ≤ x.ev.t) (ha : ∀ x ∈ s.antis, g ≤ x.ev.t) :
    Progress M (cleanOf s) g :=
  I.b.core.progress V hp ha (past_split s) (I.tainted_ge ha)

theorem DInv.progress_full (V : V2 M) (I : DInv M s) {g : Nat}
    (hp : ∀ x ∈ s.pending, g ≤ x.ev.t) (ha : ∀ x ∈ s.antis, g ≤ x.ev.t) :
    Progress M (histOf s) g :=
  I.b.core.progress V hp ha (C := s.past) (R := fun _ => []) (fun _ => (List.append_nil _).symm)
    (fun _ _ h => nomatch h)

end inv

/-- a state with nothing pending and no anti-message IS a final state of a sequential run -/
theorem DInv.quiescent_sequential {M : SimModel σ} (V : V2 M) {s : TWGState} (I : DInv M s)
    (hp : s.pending = []) (ha : s.antis = []) :
    ∃ q, Spec.Reachable M q ∧ q.pending = [] ∧ ∀ ℓ, ℓ < M.nLps → q.disp ℓ = histOf s ℓ :=
  I.b.core.quiescent_sequential V hp ha
    (fun _ => cleanOf_eq_histOf ha ▸ I.hist V (forall_mem_nil hp _) (forall_mem_nil ha _))

end RootSim.TWD
