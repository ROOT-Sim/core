/-!
# Generic liveness lemma: progress measure + deadlock-freedom ⇒ every weakly fair run terminates
-/
namespace RootSim.Fair

variable {σ α : Type}

/-- the state after the first `n` actions of the schedule `f` -/
def exec (step : σ → α → σ) (f : Nat → α) (s0 : σ) : Nat → σ
  | 0 => s0
  | n + 1 => step (exec step f s0 n) (f n)

/-- every thread is scheduled again and again (`owns a i`: `a` is an action by which thread `i` runs) -/
def FairSched (owns : α → Nat → Prop) (N : Nat) (f : Nat → α) : Prop := ∀ i, i < N → ∀ n, ∃ k, n ≤ k ∧ owns (f k) i

/-- up to the first step from `k` on that changes the state, the state stays the one reached at `k` -/
theorem first_change (step : σ → α → σ) (f : Nat → α) (s0 : σ) :
    ∀ d k, step (exec step f s0 k) (f (k + d)) ≠ exec step f s0 k →
      ∃ j, exec step f s0 j = exec step f s0 k ∧ step (exec step f s0 j) (f j) ≠ exec step f s0 j := by
  intro d
  induction d with
  | zero => intro k h; exact ⟨k, rfl, h⟩
  | succ d ih =>
    intro k h
    by_cases hch : step (exec step f s0 k) (f k) = exec step f s0 k
    · have hk1 : exec step f s0 (k + 1) = exec step f s0 k := hch
      obtain ⟨j, h1, h2⟩ := ih (k + 1) (by rw [hk1, Nat.add_assoc, Nat.add_comm 1 d]; exact h)
      exact ⟨j, h1.trans hk1, h2⟩
    · exact ⟨k, rfl, hch⟩

/-- Run-based form: the two hypotheses are only needed along the run itself. -/
theorem fair_terminates_run (step : σ → α → σ) (owns : α → Nat → Prop) (N : Nat) (final : σ → Prop) (m : σ → Nat)
    (f : Nat → α) (s0 : σ)
    (hmeasure : ∀ k, step (exec step f s0 k) (f k) ≠ exec step f s0 k → m (exec step f s0 (k + 1)) < m (exec step f s0 k))
    (hlive : ∀ k, ¬ final (exec step f s0 k) → ∃ i, i < N ∧ ∀ a, owns a i → step (exec step f s0 k) a ≠ exec step f s0 k)
    (hfair : FairSched owns N f) :
    ∃ n, final (exec step f s0 n) := by
  have key : ∀ b k, m (exec step f s0 k) = b → ∃ n, final (exec step f s0 n) := by
    intro b
    induction b using Nat.strongRecOn with
    | ind b ih =>
      intro k hb
      by_cases hf : final (exec step f s0 k)
      · exact ⟨k, hf⟩
      · -- an enabled thread is scheduled at some `k' ≥ k`; the first non-spin step from `k` on lowers `m`
        obtain ⟨i, hiN, hi⟩ := hlive k hf
        obtain ⟨k', hk', hown⟩ := hfair i hiN k
        obtain ⟨j, hj, hne⟩ := first_change step f s0 (k' - k) k
          (by rw [Nat.add_sub_of_le hk']; exact hi _ hown)
        exact ih _ (by rw [← hb, ← hj]; exact hmeasure j hne) (j + 1) rfl
  exact key _ 0 rfl

/-- **(i) + (ii) ⇒ (iii).** `R` is an invariant of the schedule's run; on `R`-states every non-spin step
decreases the measure `m`; in every non-final `R`-state some thread is enabled whatever choices the
schedule makes for it. Then every run in which every thread is scheduled again and again reaches a
final state. -/
theorem fair_terminates (step : σ → α → σ) (owns : α → Nat → Prop) (N : Nat) (final R : σ → Prop) (m : σ → Nat)
    (hR : ∀ s a, R s → R (step s a))
    (hmeasure : ∀ s a, R s → step s a ≠ s → m (step s a) < m s)
    (hlive : ∀ s, R s → ¬ final s → ∃ i, i < N ∧ ∀ a, owns a i → step s a ≠ s)
    (f : Nat → α) (hfair : FairSched owns N f) (s0 : σ) (h0 : R s0) :
    ∃ n, final (exec step f s0 n) := by
  have hRn : ∀ n, R (exec step f s0 n) := by
    intro n; induction n with
    | zero => exact h0
    | succ n ih => exact hR _ _ ih
  exact fair_terminates_run step owns N final m f s0 (fun k => hmeasure _ _ (hRn k)) (fun k => hlive _ (hRn k)) hfair

end RootSim.Fair
