import RootSim.Model.Alloc
/-! One buddy tree (`BT`): well-formedness, live blocks, malloc descent, free with coalescing,
`buddy_tree_visit`.  The effect of an operation on the live blocks is stated as a permutation
(`blocks` of the new tree ~ `blocks` of the old one plus / minus one block): membership, total size and,
with `blocks_sorted`, freshness all follow from it. -/
namespace RootSim.Alloc

theorem lt_add_two_pow (o k : Nat) : o < o + 2 ^ k := Nat.lt_add_of_pos_right (Nat.two_pow_pos k)

namespace BT

@[simp] theorem longest_free (k) : longest k free = k := rfl
@[simp] theorem longest_alloc (k) : longest k alloc = 0 := rfl
@[simp] theorem longest_split (k l r) : longest (k + 1) (split l r) = max (longest k l) (longest k r) := rfl
@[simp] theorem blocks_free (k o) : blocks k o free = [] := rfl
@[simp] theorem blocks_alloc (k o) : blocks k o alloc = [(o, k)] := rfl
@[simp] theorem blocks_split (k o l r) :
    blocks (k + 1) o (split l r) = blocks k o l ++ blocks k (o + 2 ^ k) r := rfl
@[simp] theorem WF_free (B k) : WF B k free ↔ B ≤ k := by simp [WF]
@[simp] theorem WF_alloc (B k) : WF B k alloc ↔ B ≤ k := by simp [WF]
@[simp] theorem WF_split_zero (B l r) : WF B 0 (split l r) ↔ False := Iff.rfl
@[simp] theorem WF_split (B k l r) :
    WF B (k + 1) (split l r) ↔ WF B k l ∧ WF B k r ∧ ¬(l = free ∧ r = free) := Iff.rfl

theorem WF.induction {B : Nat} {motive : (k : Nat) → (t : BT) → WF B k t → Prop}
    (free : ∀ k (h : B ≤ k), motive k .free ((WF_free B k).2 h))
    (alloc : ∀ k (h : B ≤ k), motive k .alloc ((WF_alloc B k).2 h))
    (split : ∀ k l r (hl : WF B k l) (hr : WF B k r) (hn : ¬(l = .free ∧ r = .free)),
      motive k l hl → motive k r hr → motive (k + 1) (.split l r) ⟨hl, hr, hn⟩)
    (k : Nat) (t : BT) (h : WF B k t) : motive k t h := by
  induction t generalizing k with
  | free => exact free k ((WF_free B k).1 h)
  | alloc => exact alloc k ((WF_alloc B k).1 h)
  | split l r ihl ihr =>
    cases k with
    | zero => exact h.elim
    | succ k => exact split k l r h.1 h.2.1 h.2.2 (ihl k h.1) (ihr k h.2.1)

theorem WF.le {B k t} (h : WF B k t) : B ≤ k := by
  induction k, t, h using WF.induction with
  | free k h => exact h
  | alloc k h => exact h
  | split k l r hl hr hn ihl ihr => exact Nat.le_succ_of_le ihl

theorem longest_le {B k t} (h : WF B k t) : longest k t ≤ k := by
  induction k, t, h using WF.induction with
  | free k h => exact Nat.le_refl k
  | alloc k h => exact Nat.zero_le k
  | split k l r hl hr hn ihl ihr => exact Nat.le_succ_of_le (Nat.max_le.2 ⟨ihl, ihr⟩)

theorem longest_split_lt {B k l r} (h : WF B (k + 1) (split l r)) : longest (k + 1) (split l r) < k + 1 :=
  Nat.lt_succ_of_le (Nat.max_le.2 ⟨longest_le h.1, longest_le h.2.1⟩)

theorem longest_eq_iff {B k t} (hB : 0 < B) (h : WF B k t) : longest k t = k ↔ t = free := by
  cases t with
  | free => simp
  | alloc => exact ⟨fun e => absurd e (Nat.ne_of_lt (Nat.lt_of_lt_of_le hB h.le)), fun e => nomatch e⟩
  | split l r =>
    cases k with
    | zero => exact h.elim
    | succ k => exact ⟨fun e => absurd e (Nat.ne_of_lt (longest_split_lt h)), fun e => nomatch e⟩

theorem mk_eq {B k l r} (hB : 0 < B) (hl : WF B k l) (hr : WF B k r) :
    mk (k + 1) l r = if l = free ∧ r = free then free else split l r := by
  simp only [mk, Nat.add_sub_cancel, longest_eq_iff hB hl, longest_eq_iff hB hr]

theorem WF_mk {B k l r} (hB : 0 < B) (hl : WF B k l) (hr : WF B k r) : WF B (k + 1) (mk (k + 1) l r) := by
  rw [mk_eq hB hl hr]
  split
  · exact Nat.le_succ_of_le hl.le
  · exact ⟨hl, hr, ‹_›⟩

theorem blocks_mk {B k l r} (hB : 0 < B) (hl : WF B k l) (hr : WF B k r) (o : Nat) :
    blocks (k + 1) o (mk (k + 1) l r) = blocks k o l ++ blocks k (o + 2 ^ k) r := by
  rw [mk_eq hB hl hr]
  split
  · rename_i h; simp [h.1, h.2]
  · rfl

theorem longest_mk {B k l r} (hB : 0 < B) (hl : WF B k l) (hr : WF B k r) :
    max (longest k l) (longest k r) ≤ longest (k + 1) (mk (k + 1) l r) := by
  rw [mk_eq hB hl hr]
  split
  · exact Nat.le_succ_of_le (Nat.max_le.2 ⟨longest_le hl, longest_le hr⟩)
  · exact Nat.le_refl _

theorem blocks_bounds {B k t} (h : WF B k t) {o o' j : Nat} (hm : (o', j) ∈ blocks k o t) :
    B ≤ j ∧ j ≤ k ∧ o ≤ o' ∧ o' + 2 ^ j ≤ o + 2 ^ k ∧ 2 ^ j ∣ (o' - o) := by
  induction k, t, h using WF.induction generalizing o with
  | free k h => simp at hm
  | alloc k h =>
    cases List.mem_singleton.1 hm
    exact ⟨h, Nat.le_refl _, Nat.le_refl _, Nat.le_refl _, by rw [Nat.sub_self]; exact Nat.dvd_zero _⟩
  | split k l r hl hr hn ihl ihr =>
    rw [blocks_split] at hm
    rcases List.mem_append.1 hm with hm | hm
    · obtain ⟨h1, h2, h3, h4, h5⟩ := ihl hm
      exact ⟨h1, Nat.le_succ_of_le h2, h3,
        Nat.le_trans h4 (Nat.add_le_add_left (Nat.pow_le_pow_right (by decide) (Nat.le_succ k)) o), h5⟩
    · obtain ⟨h1, h2, h3, h4, h5⟩ := ihr hm
      refine ⟨h1, Nat.le_succ_of_le h2, Nat.le_trans (Nat.le_add_right _ _) h3,
        by rw [Nat.two_pow_succ, ← Nat.add_assoc]; exact h4, ?_⟩
      rw [← Nat.sub_add_cancel (Nat.le_sub_of_add_le' h3), ← Nat.sub_add_eq]
      exact Nat.dvd_add h5 (Nat.pow_dvd_pow 2 h2)

theorem blocks_sorted {B k t} (h : WF B k t) (o : Nat) :
    (blocks k o t).Pairwise (fun a b => a.1 + 2 ^ a.2 ≤ b.1) := by
  induction k, t, h using WF.induction generalizing o with
  | free k h => simp
  | alloc k h => simp
  | split k l r hl hr hn ihl ihr =>
    rw [blocks_split, List.pairwise_append]
    refine ⟨ihl o, ihr _, fun a ha b hb => ?_⟩
    exact Nat.le_trans (blocks_bounds hl ha).2.2.2.1 (blocks_bounds hr hb).2.2.1

theorem blocks_shift (k o : Nat) (t : BT) :
    blocks k o t = (blocks k 0 t).map fun b => (o + b.1, b.2) := by
  induction t generalizing k o with
  | free => rfl
  | alloc => rfl
  | split l r ihl ihr =>
    simp only [blocks]
    rw [ihl, ihr (o := o + _), ihr (o := 0 + _)]
    simp [Nat.add_assoc]

theorem eq_free_of_blocks_nil {B k t} (h : WF B k t) (o : Nat) (hb : blocks k o t = []) : t = free := by
  induction k, t, h using WF.induction generalizing o with
  | free k h => rfl
  | alloc k h => simp at hb
  | split k l r hl hr hn ihl ihr =>
    obtain ⟨h1, h2⟩ := List.append_eq_nil_iff.1 hb
    exact absurd ⟨ihl o h1, ihr _ h2⟩ hn

theorem ne_free_of_perm {k o t} {x : Nat × Nat} {l : List (Nat × Nat)} (h : (blocks k o t).Perm (x :: l)) :
    t ≠ free := by
  rintro rfl; simp at h

/-! ### `buddy_malloc` -/

theorem descendN_free (e n : Nat) : descendN e n free = some (carve n, 0) := by
  induction n with
  | zero => rfl
  | succ n ih => simp [descendN, ih, carve]

/-- C12 (8) and the effect of `buddy_malloc`'s descent: on a well-formed node of level `e + n` whose
`longest` is at least the requested order `e`, the descent ends on a completely free node of level
exactly `e`; the result is well-formed and the live blocks are the old ones plus the new one. -/
theorem descendN_spec {B e n t} (hB : 0 < B) (hBe : B ≤ e) (h : WF B (e + n) t)
    (hl : e ≤ longest (e + n) t) :
    ∃ t' off, descendN e n t = some (t', off) ∧ WF B (e + n) t' ∧
      ∀ o, (blocks (e + n) o t').Perm ((o + off, e) :: blocks (e + n) o t) := by
  have he : 0 < e := Nat.lt_of_lt_of_le hB hBe
  induction n generalizing t with
  | zero =>
    rw [Nat.add_zero] at h hl
    cases t with
    | free => exact ⟨alloc, 0, rfl, (WF_alloc _ _).2 h.le, fun o => .refl _⟩
    | alloc => exact absurd (Nat.lt_of_lt_of_le he hl) (Nat.lt_irrefl 0)
    | split l r =>
      obtain ⟨e, rfl⟩ := Nat.exists_eq_succ_of_ne_zero (Nat.ne_of_gt he)
      exact absurd (Nat.lt_of_le_of_lt hl (longest_split_lt h)) (Nat.lt_irrefl _)
  | succ n ih =>
    rw [← Nat.add_assoc] at h hl ⊢
    cases t with
    | free =>
      obtain ⟨l', off, h1, h2, h3⟩ := ih (t := free) ((WF_free _ _).2 (Nat.le_trans hBe (Nat.le_add_right e n))) (Nat.le_add_right e n)
      refine ⟨split l' free, off, by simp only [descendN, h1, Option.map_some],
        ⟨h2, (WF_free _ _).2 h2.le, fun hf => ne_free_of_perm (h3 0) hf.1⟩, fun o => ?_⟩
      simpa using h3 o
    | alloc => exact absurd (Nat.lt_of_lt_of_le he hl) (Nat.lt_irrefl 0)
    | split l r =>
      rw [longest_split] at hl
      by_cases hc : longest (e + n) l < e
      · obtain ⟨r', off, h1, h2, h3⟩ := ih (t := r) h.2.1
          (Nat.le_of_not_lt fun hr => Nat.not_lt.2 hl (Nat.max_lt.2 ⟨hc, hr⟩))
        refine ⟨split l r', 2 ^ (e + n) + off, by simp only [descendN, if_pos hc, h1, Option.map_some],
          ⟨h.1, h2, fun hf => ne_free_of_perm (h3 0) hf.2⟩, fun o => ?_⟩
        rw [← Nat.add_assoc o]
        exact ((h3 _).append_left _).trans List.perm_middle
      · obtain ⟨l', off, h1, h2, h3⟩ := ih (t := l) h.1 (Nat.le_of_not_lt hc)
        exact ⟨split l' r, off, by simp only [descendN, if_neg hc, h1, Option.map_some], ⟨h2, h.2.1, fun hf => ne_free_of_perm (h3 0) hf.1⟩,
          fun o => (h3 o).append_right _⟩

/-- `buddy_malloc` on a well-formed tree of level `T` with `longest[0] ≥ e`: the block is in range and
aligned (both because it is a live block of the new, well-formed tree). -/
theorem bmalloc_spec {B T e t} (hB : 0 < B) (hBe : B ≤ e) (heT : e ≤ T) (h : WF B T t)
    (hl : e ≤ longest T t) :
    ∃ t' off, bmalloc T e t = some (t', off) ∧ WF B T t' ∧ off + 2 ^ e ≤ 2 ^ T ∧ 2 ^ e ∣ off ∧
      ∀ o, (blocks T o t').Perm ((o + off, e) :: blocks T o t) := by
  obtain ⟨n, rfl⟩ := Nat.exists_eq_add_of_le heT
  obtain ⟨t', off, h1, h2, h3⟩ := descendN_spec hB hBe h hl
  have hb := blocks_bounds h2 ((h3 0).mem_iff.2 List.mem_cons_self)
  rw [Nat.zero_add, Nat.zero_add, Nat.sub_zero] at hb
  exact ⟨t', off, by simp only [bmalloc, if_neg (Nat.not_lt.2 hl), Nat.add_sub_cancel_left, h1], h2, hb.2.2.2.1,
    hb.2.2.2.2, h3⟩

theorem bmalloc_eq_none {B T e t} (hB : 0 < B) (hBe : B ≤ e) (heT : e ≤ T) (h : WF B T t) :
    bmalloc T e t = none ↔ longest T t < e := by
  constructor
  · intro hn
    apply Nat.lt_of_not_le
    intro hl
    obtain ⟨t', off, h1, _⟩ := bmalloc_spec hB hBe heT h hl
    simp [hn] at h1
  · intro hl; simp [bmalloc, hl]

/-! ### `buddy_free`, `buddy_best_effort_realloc` -/

/-- `buddy_free` of a pointer `o` inside the live block at offset `d` of order `j`: frees exactly that
block, coalesces, keeps the tree well-formed; afterwards `longest ≥ j` (the space is reusable). -/
theorem bfree_spec {B k t} (hB : 0 < B) (h : WF B k t) {base d o j : Nat}
    (hm : (base + d, j) ∈ blocks k base t) (h1 : d ≤ o) (h2 : o < d + 2 ^ j) :
    ∃ t', bfree k o t = some (t', j) ∧ WF B k t' ∧ j ≤ longest k t' ∧
      ∀ b, (blocks k b t).Perm ((b + d, j) :: blocks k b t') := by
  induction k, t, h using WF.induction generalizing base d o with
  | free k h => simp at hm
  | alloc k h =>
    obtain ⟨rfl, rfl⟩ : d = 0 ∧ j = k := by simpa using hm
    exact ⟨free, rfl, (WF_free _ _).2 h, Nat.le_refl _, fun b => .refl _⟩
  | split k l r hl hr hn ihl ihr =>
    -- the bounds of the block decide on which side of the midpoint `o` lies
    rw [blocks_split] at hm
    rcases List.mem_append.1 hm with hm | hm
    · obtain ⟨-, -, -, hhi, -⟩ := blocks_bounds hl hm
      have ho : o < 2 ^ k :=
        Nat.lt_of_lt_of_le h2 (Nat.le_of_add_le_add_left (by rw [← Nat.add_assoc]; exact hhi))
      obtain ⟨l', q1, q2, q3, q4⟩ := ihl hm h1 h2
      refine ⟨mk (k + 1) l' r, by simp only [bfree, Nat.add_sub_cancel, if_pos ho, q1, Option.map_some], WF_mk hB q2 hr,
        Nat.le_trans (Nat.le_trans q3 (Nat.le_max_left _ _)) (longest_mk hB q2 hr), fun b => ?_⟩
      rw [blocks_mk hB q2 hr, blocks_split]
      exact (q4 b).append_right _
    · obtain ⟨-, -, hlo, -, -⟩ := blocks_bounds hr hm
      obtain ⟨d, rfl⟩ := Nat.exists_eq_add_of_le (Nat.le_of_add_le_add_left hlo)
      obtain ⟨o, rfl⟩ := Nat.exists_eq_add_of_le (Nat.le_trans (Nat.le_add_right _ d) h1)
      rw [← Nat.add_assoc] at hm
      obtain ⟨r', q1, q2, q3, q4⟩ := ihr (o := o) hm (Nat.le_of_add_le_add_left h1)
        (Nat.lt_of_add_lt_add_left (by rwa [Nat.add_assoc] at h2))
      refine ⟨mk (k + 1) l r', by simp only [bfree, Nat.add_sub_cancel, if_neg (Nat.not_lt.2 (Nat.le_add_right _ o)),
        Nat.add_sub_cancel_left, q1, Option.map_some], WF_mk hB hl q2,
        Nat.le_trans (Nat.le_trans q3 (Nat.le_max_right _ _)) (longest_mk hB hl q2), fun b => ?_⟩
      rw [blocks_mk hB hl q2, blocks_split, ← Nat.add_assoc]
      exact ((q4 _).append_left _).trans List.perm_middle

/-- the first loop of `buddy_best_effort_realloc` is the search of `buddy_free` -/
theorem orderAt_eq (k o : Nat) (t : BT) : orderAt k o t = (bfree k o t).map (·.2) := by
  induction t generalizing k o with
  | free => rfl
  | alloc => rfl
  | split l r ihl ihr =>
    simp only [orderAt, bfree]
    split
    · rw [ihl, Option.map_map]; rfl
    · rw [ihr, Option.map_map]; rfl

theorem orderAt_spec {B k t} (hB : 0 < B) (h : WF B k t) {base d o j : Nat}
    (hm : (base + d, j) ∈ blocks k base t) (h1 : d ≤ o) (h2 : o < d + 2 ^ j) :
    orderAt k o t = some j := by
  obtain ⟨t', q, _⟩ := bfree_spec hB h hm h1 h2
  rw [orderAt_eq, q]; rfl

/-! ### `buddy_tree_visit` -/

@[simp] theorem visit_alloc (k o) : visit k o alloc = [(o, 2 ^ k)] := by simp [visit]
theorem visit_free {k} (o) (hk : 0 < k) : visit k o free = [] := by
  simp [visit, Nat.ne_of_gt hk]

/-- under `WF` a split node never has `longest` = its level, so `buddy_tree_visit` has two cases there -/
theorem visit_split {B k l r} (h : WF B (k + 1) (split l r)) (o : Nat) :
    visit (k + 1) o (split l r) =
      if longest k l = 0 ∧ longest k r = 0 then [(o, 2 ^ (k + 1))] else visit k o l ++ visit k (o + 2 ^ k) r := by
  have hne : ¬ max (longest k l) (longest k r) = k + 1 := Nat.ne_of_lt (longest_split_lt h)
  simp only [visit, longest_split, Nat.add_sub_cancel, hne, if_false, Nat.max_eq_zero_iff]

theorem visit_bounds {B k t} (hB : 0 < B) (h : WF B k t) {o : Nat} {r : Nat × Nat} (hr : r ∈ visit k o t) :
    o ≤ r.1 ∧ r.1 + r.2 ≤ o + 2 ^ k := by
  induction k, t, h using WF.induction generalizing o with
  | free k h => rw [visit_free o (Nat.lt_of_lt_of_le hB h)] at hr; simp at hr
  | alloc k h => cases List.mem_singleton.1 (visit_alloc k o ▸ hr); exact ⟨Nat.le_refl _, Nat.le_refl _⟩
  | split k l r hl hr' hn ihl ihr =>
    rw [visit_split ⟨hl, hr', hn⟩] at hr
    split at hr
    · cases List.mem_singleton.1 hr; exact ⟨Nat.le_refl _, Nat.le_refl _⟩
    · rw [Nat.two_pow_succ, ← Nat.add_assoc]
      rcases List.mem_append.1 hr with hr | hr
      · exact ⟨(ihl hr).1, Nat.le_trans (ihl hr).2 (Nat.le_add_right _ _)⟩
      · exact ⟨Nat.le_trans (Nat.le_add_right _ _) (ihr hr).1, (ihr hr).2⟩

theorem addrs_of_longest_zero {B k t} (hB : 0 < B) (h : WF B k t) (hz : longest k t = 0) (o : Nat) :
    (blocks k o t).flatMap (fun b => List.range' b.1 (2 ^ b.2)) = List.range' o (2 ^ k) := by
  induction k, t, h using WF.induction generalizing o with
  | free k h => exact absurd (hz ▸ h : B ≤ 0) (Nat.not_le.2 hB)
  | alloc k h => simp
  | split k l r hl hr hn ihl ihr =>
    obtain ⟨zl, zr⟩ := Nat.max_eq_zero_iff.1 hz
    rw [blocks_split, List.flatMap_append, ihl zl, ihr zr, Nat.two_pow_succ, List.range'_append_1]

/-- `buddy_tree_visit` and the live blocks enumerate the same addresses, in the same order (a visited
region is a maximal run of live blocks that fills a node) -/
theorem visit_addrs {B k t} (hB : 0 < B) (h : WF B k t) (o : Nat) :
    (visit k o t).flatMap (fun r => List.range' r.1 r.2) =
      (blocks k o t).flatMap fun b => List.range' b.1 (2 ^ b.2) := by
  induction k, t, h using WF.induction generalizing o with
  | free k h => rw [visit_free o (Nat.lt_of_lt_of_le hB h)]; rfl
  | alloc k h => simp
  | split k l r hl hr hn ihl ihr =>
    rw [visit_split ⟨hl, hr, hn⟩]
    split
    · rename_i hz
      rw [addrs_of_longest_zero hB ((WF_split B k l r).2 ⟨hl, hr, hn⟩) (Nat.max_eq_zero_iff.2 hz)]; simp
    · rw [List.flatMap_append, ihl, ihr, blocks_split, List.flatMap_append]

theorem visit_sum {B k t} (hB : 0 < B) (h : WF B k t) (o : Nat) :
    ((visit k o t).map (·.2)).sum = ((blocks k o t).map fun b => 2 ^ b.2).sum := by
  simpa [List.length_flatMap] using congrArg List.length (visit_addrs hB h o)

theorem visit_cover {B k t} (hB : 0 < B) (h : WF B k t) {o o' j : Nat} (hm : (o', j) ∈ blocks k o t)
    {i : Nat} (h1 : o' ≤ i) (h2 : i < o' + 2 ^ j) : ∃ r ∈ visit k o t, r.1 ≤ i ∧ i < r.1 + r.2 := by
  have : i ∈ (visit k o t).flatMap fun r => List.range' r.1 r.2 := by
    rw [visit_addrs hB h]; exact List.mem_flatMap.2 ⟨_, hm, List.mem_range'_1.2 ⟨h1, h2⟩⟩
  obtain ⟨r, hr, hi⟩ := List.mem_flatMap.1 this
  exact ⟨r, hr, List.mem_range'_1.1 hi⟩

/-- conversely every visited byte belongs to a live block -/
theorem visit_sub {B k t} (hB : 0 < B) (h : WF B k t) {o : Nat} {rg : Nat × Nat} (hr : rg ∈ visit k o t)
    {i : Nat} (h1 : rg.1 ≤ i) (h2 : i < rg.1 + rg.2) : ∃ b ∈ blocks k o t, b.1 ≤ i ∧ i < b.1 + 2 ^ b.2 := by
  have : i ∈ (blocks k o t).flatMap fun b => List.range' b.1 (2 ^ b.2) := by
    rw [← visit_addrs hB h]; exact List.mem_flatMap.2 ⟨_, hr, List.mem_range'_1.2 ⟨h1, h2⟩⟩
  obtain ⟨b, hb, hi⟩ := List.mem_flatMap.1 this
  exact ⟨b, hb, List.mem_range'_1.1 hi⟩

end BT
end RootSim.Alloc
