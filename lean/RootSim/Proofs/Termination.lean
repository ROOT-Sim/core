import RootSim.Model.Termination
import RootSim.Proofs.ListSet
/-!
# Specification ledger and invariants for `termination.c` (C07)

The *ledger* is the specification-side shadow of what the LPs of a thread have done: for each LP
whether the predicate held on the initial state (after `LP_INIT`, never undone) and the list of
history entries `(timestamp, predicate value on the state reached)` that have been processed and
not undone. It is independent of the code model: `proc` appends, a rollback keeps a prefix.
-/
namespace RootSim.Term

/-- specification shadow of one LP -/
structure LpL where
  initHeld : Bool
  hist     : List (Nat × Bool)
deriving Repr, DecidableEq

/-- the predicate held on a not-undone state with time stamp below `g` (the initial state counts) -/
def HeldBelow (l : LpL) (g : Nat) : Prop := l.initHeld = true ∨ ∃ e ∈ l.hist, e.2 = true ∧ e.1 < g

instance (l : LpL) (g : Nat) : Decidable (HeldBelow l g) := by
  unfold HeldBelow
  exact inferInstanceAs (Decidable (_ ∨ _))

/-- ledger of one thread -/
abbrev TL := List LpL

/-- effect of one thread-local operation on the thread's ledger -/
def tlInit (tl : TL) (term : Bool) : TL := tl ++ [⟨term, []⟩]
def tlProc (tl : TL) (i t : Nat) (term : Bool) : Option TL :=
  match tl[i]? with
  | none => none
  | some l => some (tl.set i { l with hist := l.hist ++ [(t, term)] })
def tlRb (tl : TL) (i k : Nat) : Option TL :=
  match tl[i]? with
  | none => none
  | some l => some (tl.set i { l with hist := l.hist.take k })

/-- what makes the sentinel collision harmless: patched code, or a strictly positive time stamp -/
def TsOk (fix : Bool) (t : Nat) : Prop := fix = true ∨ 0 < t

section Thread
variable {fix : Bool} {th th' : Thread} {tl tl' : TL} {i t s k g ttime : Nat} {term : Bool}

theorem isSet_unset (fix : Bool) : isSet fix (unsetV fix) = false := by
  cases fix <;> simp [isSet, unsetV]

theorem isSet_max (fix : Bool) : isSet fix (SIMTIME_MAX : Int) = true := by
  cases fix <;> simp [isSet, SIMTIME_MAX]

theorem isSet_time (h : TsOk fix t) : isSet fix (t : Int) = true := by
  cases fix
  · rcases h with h | h
    · cases h
    · exact decide_eq_true (Int.ne_of_lt (Int.natCast_pos.mpr h)).symm
  · exact decide_eq_true (Int.natCast_nonneg t)

/-- a value that is not "set" is below every positive time stamp (below every time stamp if patched) -/
theorem lt_of_not_isSet {x : Int} (h : isSet fix x = false) (hs : TsOk fix s) : x < (s : Int) := by
  cases fix
  · -- sentinel `0.0`: `x` is `0`, and `s` is positive
    have hx : x = 0 := Decidable.not_not.mp (of_decide_eq_false (p := x ≠ 0) h)
    rcases hs with hs | hs
    · cases hs
    · rw [hx]; exact Int.natCast_pos.mpr hs
  · exact Int.lt_of_lt_of_le (Int.not_le.mp (of_decide_eq_false (p := 0 ≤ x) h)) (Int.natCast_nonneg s)

/-- a counter kept modulo `W` follows a quantity that stays below `W` -/
theorem mod_counter {W c c' a b : Nat} (h : c' + b = c + a) (hlt : c' < W) : (c + W + a - b) % W = c' := by
  rw [Nat.add_right_comm c W a, ← h, Nat.add_right_comm c' b W, Nat.add_sub_cancel, Nat.add_mod_right,
    Nat.mod_eq_of_lt hlt]

/-- what a set `termination_t` value `x` of an LP with ledger `l` rests on, in a thread with `max_t = mx`: the predicate
held after `LP_INIT`, or on the state reached by a not-undone event with time stamp `x ≤ mx` -/
def Backed (fix : Bool) (mx : Nat) (x : Int) (l : LpL) : Prop :=
  isSet fix x = true →
    (x = (SIMTIME_MAX : Int) ∧ l.initHeld = true) ∨
    (∃ t : Nat, x = (t : Int) ∧ t ≤ mx ∧ (t < SIMTIME_MAX → (t, true) ∈ l.hist))

theorem Backed.unset (fix : Bool) (mx : Nat) (l : LpL) : Backed fix mx (unsetV fix) l :=
  fun h => by rw [isSet_unset] at h; cases h

theorem Backed.imp {mx mx' : Nat} {x : Int} {l l' : LpL} (h : Backed fix mx x l) (hm : mx ≤ mx')
    (hi : l.initHeld = true → l'.initHeld = true)
    (hh : ∀ t : Nat, x = (t : Int) → t < SIMTIME_MAX → (t, true) ∈ l.hist → (t, true) ∈ l'.hist) :
    Backed fix mx' x l' := by
  intro hs
  rcases h hs with ⟨h1, h2⟩ | ⟨t, h1, h2, h3⟩
  · exact .inl ⟨h1, hi h2⟩
  · exact .inr ⟨t, h1, Nat.le_trans h2 hm, fun hlt => hh t h1 hlt (h3 hlt)⟩

/-- the invariant tying the code state of a thread to its ledger -/
structure TInv (fix : Bool) (th : Thread) (tl : TL) : Prop where
  len   : th.termT.length = tl.length
  small : th.termT.length < W64
  cnt   : th.lpsToEnd = th.termT.countP (fun x => !isSet fix x)
  maxle : th.maxT ≤ SIMTIME_MAX
  good  : ∀ (i : Nat) (x : Int) (l : LpL), th.termT[i]? = some x → tl[i]? = some l → Backed fix th.maxT x l

theorem TInv.init (fix : Bool) : TInv fix Thread.init [] :=
  ⟨rfl, by decide, rfl, Nat.zero_le _, fun _ _ _ h => by cases h⟩

theorem tinv_lpInit (h : TInv fix th tl) (hs : th.termT.length + 1 < W64) :
    TInv fix (lpInit fix th term) (tlInit tl term) := by
  have hle : th.termT.countP (fun x => !isSet fix x) ≤ th.termT.length := List.countP_le_length
  refine ⟨?_, (List.length_append ..) ▸ hs, ?_, h.maxle, ?_⟩
  · dsimp only [lpInit, tlInit]
    rw [List.length_append, List.length_append, h.len]; rfl
  · dsimp only [lpInit]
    rw [List.countP_append, List.countP_singleton, h.cnt]
    cases term
    · simp only [Bool.false_eq_true, if_false, isSet_unset, Bool.not_false, if_true]
      exact Nat.mod_eq_of_lt (Nat.lt_of_le_of_lt (Nat.succ_le_succ hle) hs)
    · simp only [if_true, isSet_max, Bool.not_true, Bool.false_eq_true, if_false]
      exact Nat.mod_eq_of_lt (Nat.lt_of_le_of_lt hle (Nat.lt_of_succ_lt hs))
  · intro i x l hx hl
    simp only [lpInit, tlInit] at hx hl
    rcases Nat.lt_trichotomy i th.termT.length with hi | rfl | hi
    · rw [List.getElem?_append_left hi] at hx
      rw [List.getElem?_append_left (h.len ▸ hi)] at hl
      exact h.good i x l hx hl
    · rw [List.getElem?_concat_length] at hx
      rw [h.len, List.getElem?_concat_length] at hl
      cases hx; cases hl
      cases term
      · exact Backed.unset fix _ _
      · exact fun _ => .inl ⟨rfl, rfl⟩
    · rw [List.getElem?_eq_none ((List.length_append ..) ▸ hi)] at hx; cases hx

/-- A thread operation that overwrites `termination_t` of LP `i` (`old ↦ new`), moves `lps_to_end` by the difference of what
the two values contribute (mod 2^64) and does not lower `max_t` keeps the invariant, if the new value rests on the LP's new
ledger entry. The only place where the wrap-around of `lps_to_end` is argued. -/
theorem TInv.set {old new : Int} {l l' : LpL} (h : TInv fix th tl) (hx : th.termT[i]? = some old) (hl : tl[i]? = some l)
    (hT : th'.termT = th.termT.set i new)
    (hn : th'.lpsToEnd =
      (th.lpsToEnd + W64 + (if !isSet fix new then 1 else 0) - (if !isSet fix old then 1 else 0)) % W64)
    (hm : th.maxT ≤ th'.maxT) (hm' : th'.maxT ≤ SIMTIME_MAX)
    (hb : Backed fix th.maxT old l → Backed fix th'.maxT new l') :
    TInv fix th' (tl.set i l') := by
  have hi : i < th.termT.length := (List.getElem?_eq_some_iff.mp hx).1
  refine ⟨by rw [hT, List.length_set, List.length_set]; exact h.len, by rw [hT, List.length_set]; exact h.small,
    ?_, hm', ?_⟩
  · rw [hn, hT, h.cnt]
    refine mod_counter (countP_set_add hx new (fun x => !isSet fix x)) (Nat.lt_of_le_of_lt List.countP_le_length ?_)
    rw [List.length_set]; exact h.small
  · intro j x y hjx hjy
    rw [hT] at hjx
    by_cases hij : i = j
    · subst hij
      rw [List.getElem?_set_self hi] at hjx
      rw [List.getElem?_set_self (h.len ▸ hi)] at hjy
      cases hjx; cases hjy
      exact hb (h.good i old l hx hl)
    · rw [List.getElem?_set_ne hij] at hjx hjy
      exact (h.good j x y hjx hjy).imp hm id (fun _ _ _ => id)

theorem onMsgProcess_some (h : onMsgProcess fix th i t term = some th') :
    ∃ old, th.termT[i]? = some old ∧
      ((isSet fix old = true ∧ th' = th) ∨
       (isSet fix old = false ∧ th' =
         { maxT := if term then max t th.maxT else th.maxT
           termT := th.termT.set i (if term then (t : Int) else unsetV fix)
           lpsToEnd := (th.lpsToEnd + W64 - (if term then 1 else 0)) % W64 })) := by
  unfold onMsgProcess at h
  split at h
  · cases h
  · rename_i old hold
    refine ⟨old, hold, ?_⟩
    cases hs : isSet fix old <;> simp only [hs, if_true, if_false, Bool.false_eq_true, Option.some.injEq] at h
    · exact .inr ⟨rfl, h.symm⟩
    · exact .inl ⟨rfl, h.symm⟩

theorem onRollback_some (h : onRollback fix th i s = some th') :
    ∃ old, th.termT[i]? = some old ∧ th' =
      { th with
        termT := th.termT.set i (if decide (old < (s : Int)) || decide (old = (SIMTIME_MAX : Int)) then old else unsetV fix)
        lpsToEnd := (th.lpsToEnd +
          (if decide (old < (s : Int)) || decide (old = (SIMTIME_MAX : Int)) then 0 else 1)) % W64 } := by
  unfold onRollback at h
  split at h
  · cases h
  · exact ⟨_, ‹_›, (Option.some.inj h).symm⟩

theorem tlProc_some (h : tlProc tl i t term = some tl') :
    ∃ l, tl[i]? = some l ∧ tl' = tl.set i { l with hist := l.hist ++ [(t, term)] } := by
  unfold tlProc at h
  split at h
  · cases h
  · exact ⟨_, ‹_›, (Option.some.inj h).symm⟩

theorem tlRb_some (h : tlRb tl i k = some tl') :
    ∃ l, tl[i]? = some l ∧ tl' = tl.set i { l with hist := l.hist.take k } := by
  unfold tlRb at h
  split at h
  · cases h
  · exact ⟨_, ‹_›, (Option.some.inj h).symm⟩

theorem tinv_proc (h : TInv fix th tl) (ht : TsOk fix t) (htm : t ≤ SIMTIME_MAX)
    (hc : onMsgProcess fix th i t term = some th') (hl : tlProc tl i t term = some tl') : TInv fix th' tl' := by
  obtain ⟨old, hold, hc⟩ := onMsgProcess_some hc
  obtain ⟨l, hl0, rfl⟩ := tlProc_some hl
  have hmax := h.maxle
  rcases hc with ⟨hset, rfl⟩ | ⟨hset, rfl⟩
  · -- early return: code state unchanged, ledger grows
    obtain ⟨hi, rfl⟩ := List.getElem?_eq_some_iff.mp hold
    refine h.set hold hl0 (List.set_getElem_self hi).symm ?_ (Nat.le_refl _) hmax
      (fun hb => hb.imp (Nat.le_refl _) id (fun _ _ _ hm => List.mem_append_left _ hm))
    have hlt := Nat.lt_of_le_of_lt (List.countP_le_length (p := fun x => !isSet fix x)) h.small
    rw [← h.cnt] at hlt
    rw [Nat.add_sub_cancel, Nat.add_mod_right, Nat.mod_eq_of_lt hlt]
  · cases term
    · refine h.set hold hl0 rfl ?_ (Nat.le_refl _) hmax (fun _ => Backed.unset fix _ _)
      simp only [hset, Bool.false_eq_true, if_false, isSet_unset, Bool.not_false, if_true, Nat.sub_zero, Nat.add_sub_cancel]
    · refine h.set hold hl0 rfl ?_ (Nat.le_max_right _ _) (Nat.max_le.mpr ⟨htm, hmax⟩) (fun _ _ =>
        .inr ⟨t, rfl, Nat.le_max_left _ _, fun _ => List.mem_append_right _ (List.mem_singleton_self _)⟩)
      simp only [hset, if_true, isSet_time ht, Bool.not_true, Bool.not_false, Bool.false_eq_true, if_false, Nat.add_zero]

theorem tinv_rb (h : TInv fix th tl) (hs : TsOk fix s) (hrb : ∀ l ∈ tl[i]?, ∀ e ∈ l.hist.drop k, s ≤ e.1)
    (hc : onRollback fix th i s = some th') (hl : tlRb tl i k = some tl') : TInv fix th' tl' := by
  obtain ⟨old, hold, rfl⟩ := onRollback_some hc
  obtain ⟨l, hl0, rfl⟩ := tlRb_some hl
  by_cases hkeep : (decide (old < (s : Int)) || decide (old = (SIMTIME_MAX : Int))) = true
  · -- the value is kept: an entry it rests on has a time stamp below `s`, so it is not undone
    simp only [hkeep, if_true]
    refine h.set hold hl0 rfl ?_ (Nat.le_refl _) h.maxle (fun hb => hb.imp (Nat.le_refl _) id ?_)
    · show (th.lpsToEnd + 0) % W64 = _
      rw [Nat.add_sub_cancel, Nat.add_mod_right, Nat.add_zero]
    · intro t ht hlt hmem
      rw [← List.take_append_drop k l.hist] at hmem
      rcases List.mem_append.mp hmem with hm | hm
      · exact hm
      · have hst : s ≤ t := hrb l (Option.mem_def.mpr hl0) _ hm
        simp only [Bool.or_eq_true, decide_eq_true_eq] at hkeep
        rcases hkeep with h1 | h1
        · exact absurd (Int.ofNat_lt.mp (ht ▸ h1)) (Nat.not_lt.mpr hst)
        · exact absurd (Int.ofNat_inj.mp (ht ▸ h1)) (Nat.ne_of_lt hlt)
  · -- the value is reset: it was set, since an unset value is below `s`
    have holdset : isSet fix old = true := by
      cases hh : isSet fix old
      · exact absurd (by rw [decide_eq_true (lt_of_not_isSet hh hs)]; rfl) hkeep
      · rfl
    simp only [hkeep, Bool.false_eq_true, if_false]
    refine h.set hold hl0 rfl ?_ (Nat.le_refl _) h.maxle (fun _ => Backed.unset fix _ _)
    simp only [isSet_unset, holdset, Bool.not_false, Bool.not_true, if_true, Bool.false_eq_true, if_false]
    rw [Nat.sub_zero, Nat.add_right_comm, Nat.add_mod_right]

theorem tinv_vote (h : TInv fix th tl) : TInv fix { th with maxT := SIMTIME_MAX } tl :=
  ⟨h.len, h.small, h.cnt, Nat.le_refl _, fun i x l hx hl => (h.good i x l hx hl).imp h.maxle id (fun _ _ _ => id)⟩

theorem noVote_false (h : noVote th g ttime = false) : (th.lpsToEnd = 0 ∧ th.maxT < g) ∨ ttime ≤ g := by
  simp only [noVote, Bool.and_eq_false_iff, Bool.or_eq_false_iff, decide_eq_false_iff_not,
    Decidable.not_not] at h
  omega

theorem noVote_of_done (h0 : th.lpsToEnd = 0) (hlt : th.maxT < g) : noVote th g ttime = false := by
  unfold noVote
  rw [h0, decide_eq_false (Nat.not_le.mpr hlt)]
  rfl

/-- **Thread-level soundness of a vote.** If the thread does not take the early return of
`termination_on_gvt(g)`, then every LP of the thread has its predicate true on a not-undone state
with time stamp below `g`, or `g` has reached the termination time. -/
theorem vote_sound (h : TInv fix th tl) (hg : g ≤ SIMTIME_MAX) (hv : noVote th g ttime = false) :
    (∀ l ∈ tl, HeldBelow l g) ∨ ttime ≤ g := by
  rcases noVote_false hv with ⟨h0, hm⟩ | htt
  · left
    intro l hl
    obtain ⟨i, hi, rfl⟩ := List.getElem_of_mem hl
    have hi' : i < th.termT.length := h.len ▸ hi
    -- `lps_to_end = 0`: no value is unset
    have hs : isSet fix th.termT[i] = true := by
      have := List.countP_eq_zero.mp (h.cnt ▸ h0) th.termT[i] (List.getElem_mem hi')
      simpa using this
    rcases h.good i _ _ (List.getElem?_eq_getElem hi') (List.getElem?_eq_getElem hi) hs with ⟨_, hh⟩ | ⟨t', _, h2, h3⟩
    · exact .inl hh
    · exact .inr ⟨(t', true), h3 (Nat.lt_of_le_of_lt h2 (Nat.lt_of_lt_of_le hm hg)), rfl, Nat.lt_of_le_of_lt h2 hm⟩
  · exact .inr htt

end Thread

/-- committed entries are stable: a rollback whose time stamp is `≥ g` keeps `HeldBelow · g` -/
theorem heldBelow_take (l : LpL) (g s k : Nat) (h : HeldBelow l g) (hs : g ≤ s)
    (hd : ∀ e ∈ l.hist.drop k, s ≤ e.1) : HeldBelow { l with hist := l.hist.take k } g := by
  rcases h with h | ⟨e, hm, ht, hlt⟩
  · left; exact h
  · right
    refine ⟨e, ?_, ht, hlt⟩
    rw [← List.take_append_drop k l.hist] at hm
    rcases List.mem_append.mp hm with hm | hm
    · exact hm
    · exact absurd hlt (Nat.not_lt.mpr (Nat.le_trans hs (hd _ hm)))

theorem heldBelow_append (l : LpL) (g : Nat) (e : Nat × Bool) (h : HeldBelow l g) :
    HeldBelow { l with hist := l.hist ++ [e] } g := by
  rcases h with h | ⟨e', hm, ht, hlt⟩
  · left; exact h
  · right; exact ⟨e', List.mem_append_left _ hm, ht, hlt⟩

theorem heldBelow_mono (l : LpL) (g g' : Nat) (h : HeldBelow l g) (hg : g ≤ g') : HeldBelow l g' := by
  rcases h with h | ⟨e, hm, ht, hlt⟩
  · left; exact h
  · right; exact ⟨e, hm, ht, Nat.lt_of_lt_of_le hlt hg⟩

/-- code state + specification state (ledger and ghost bookkeeping of the votes) -/
structure Sys where
  node  : Node
  /-- ledger, per thread -/
  led   : List TL
  /-- per thread: the last GVT value handed to `termination_on_gvt` (0 before the first) -/
  lastG : List Nat
  /-- per thread: the GVT value at which it cast its first vote -/
  voteG : List (Option Nat)
  /-- some vote was cast at a GVT that had reached `termination_time` -/
  ttHit : Bool
  /-- `RootsimStop` was called or a termination message of another node arrived -/
  ext   : Bool

def Sys.init (nThreads nNodes ttime : Nat) : Sys :=
  { node := Node.init nThreads nNodes ttime, led := List.replicate nThreads [],
    lastG := List.replicate nThreads 0, voteG := List.replicate nThreads none,
    ttHit := false, ext := false }

/-- effect of an operation on the ledger -/
def ledStep (L : List TL) : Op → Option (List TL)
  | .lpInit ti term => match L[ti]? with
    | none => none
    | some tl => some (L.set ti (tlInit tl term))
  | .proc ti i t term => match L[ti]? with
    | none => none
    | some tl => match tlProc tl i t term with
      | none => none
      | some tl' => some (L.set ti tl')
  | .rb ti i _ k => match L[ti]? with
    | none => none
    | some tl => match tlRb tl i k with
      | none => none
      | some tl' => some (L.set ti tl')
  | _ => some L

/-- one operation on code state and specification state together -/
def sstep (fix : Bool) (nNodes : Nat) (s : Sys) (o : Op) : Option (Sys × Bool) :=
  match step fix nNodes s.node o, ledStep s.led o with
  | some (n', v), some L' =>
    some ({ node := n', led := L'
            lastG := match o with
              | .gvt ti g => s.lastG.set ti g
              | _ => s.lastG
            voteG := match o with
              | .gvt ti g => if v && s.voteG[ti]? == some none then s.voteG.set ti (some g) else s.voteG
              | _ => s.voteG
            ttHit := match o with
              | .gvt _ g => s.ttHit || (v && decide (s.node.ttime ≤ g))
              | _ => s.ttHit
            ext := match o with
              | .stop => true
              | .ctrl => true
              | _ => s.ext }, v)
  | _, _ => none

theorem sstep_node {fix : Bool} {nNodes : Nat} {s s' : Sys} {o : Op} {v : Bool} (h : sstep fix nNodes s o = some (s', v)) :
    step fix nNodes s.node o = some (s'.node, v) := by
  unfold sstep at h
  split at h
  · cases h; assumption
  · cases h

/-- `pos = true` additionally demands strictly positive time stamps (the hypothesis that excludes
finding F2 on the pinned code) -/
def TsReq (pos : Bool) (t : Nat) : Prop := pos = true → 0 < t

instance (pos : Bool) (t : Nat) : Decidable (TsReq pos t) := by unfold TsReq; infer_instance

/-- environment assumption on a rollback caused by a straggler / anti-message with time stamp `s`
that keeps the first `k` entries: every undone entry has a time stamp `≥ s`. (Entries with time
stamp exactly `s` may or may not be undone: both directions are allowed.) -/
def RbOk' (tl : TL) (i s k : Nat) : Prop := ∀ l ∈ tl[i]?, ∀ e ∈ l.hist.drop k, s ≤ e.1

instance (tl : TL) (i s k : Nat) : Decidable (RbOk' tl i s k) := by unfold RbOk'; infer_instance

/-- Environment assumptions under which an operation is issued. -/
def EnvOk (pos : Bool) (s : Sys) : Op → Prop
  | .lpInit ti _ => (∀ th ∈ s.node.thrs[ti]?, th.termT.length + 1 < W64) ∧
                     s.voteG[ti]? = some none      -- LPs are created before the thread sees a GVT
  | .proc _ _ t _ => TsReq pos t ∧ t ≤ SIMTIME_MAX  -- V3: finite time stamps
  | .rb ti i s' k => TsReq pos s' ∧ (∀ tl ∈ s.led[ti]?, RbOk' tl i s' k) ∧
                     (∀ g ∈ s.lastG[ti]?, g ≤ s')          -- C04: no rollback below the GVT
  | .gvt ti g => g ≤ SIMTIME_MAX ∧ (∀ g0 ∈ s.lastG[ti]?, g0 ≤ g)  -- C04: GVT monotone
  | .stop => True
  | .ctrl => True

instance (pos : Bool) (s : Sys) (o : Op) : Decidable (EnvOk pos s o) := by
  cases o <;> unfold EnvOk <;> infer_instance

/-- states reachable from initialisation by operations that respect the environment assumptions -/
inductive Reach (fix pos : Bool) (nNodes nThreads ttime : Nat) : Sys → Prop where
  | init : Reach fix pos nNodes nThreads ttime (Sys.init nThreads nNodes ttime)
  | step {s s' : Sys} {o : Op} {v : Bool} : Reach fix pos nNodes nThreads ttime s → EnvOk pos s o →
      sstep fix nNodes s o = some (s', v) → Reach fix pos nNodes nThreads ttime s'

/-- executable: run a list of operations, checking the environment assumptions on the way -/
def runChk (fix pos : Bool) (nNodes : Nat) (s : Sys) : List Op → Option Sys
  | [] => some s
  | o :: os =>
    if EnvOk pos s o then
      match sstep fix nNodes s o with
      | some (s', _) => runChk fix pos nNodes s' os
      | none => none
    else none

theorem reach_runChk (fix pos : Bool) (nNodes N ttime : Nat) (ops : List Op) :
    ∀ (s s' : Sys), Reach fix pos nNodes N ttime s → runChk fix pos nNodes s ops = some s' →
      Reach fix pos nNodes N ttime s' := by
  induction ops with
  | nil => intro s s' h hr; cases hr; exact h
  | cons o os ih =>
    intro s s' h hr
    rw [runChk] at hr
    split at hr
    · split at hr
      · exact ih _ s' (Reach.step h ‹_› ‹_›) hr
      · cases hr
    · cases hr

def nVoted (s : Sys) : Nat := s.voteG.countP Option.isSome

/-- The invariant of one thread: its code state `th` against its ledger `tl`, the last GVT `lg` handed to it and the GVT
`vg` of its first vote. What a vote stands for is claimed only as long as no vote was cast at the termination time
(`tt = false`). -/
structure ThrInv (fix tt : Bool) (th : Thread) (tl : TL) (lg : Nat) (vg : Option Nat) : Prop where
  tinv  : TInv fix th tl
  voted : tt = false → ∀ gv, vg = some gv → th.maxT = SIMTIME_MAX ∧ gv ≤ lg ∧ ∀ l ∈ tl, HeldBelow l gv

section Node
variable {fix pos tt : Bool} {th th' : Thread} {tl tl' : TL} {lg g ttime i t k ti nNodes N : Nat}
  {vg : Option Nat} {term : Bool} {s s' : Sys}

/-- LPs are created before the thread votes -/
theorem ThrInv.lpInit (h : ThrInv fix tt th tl lg none) (term : Bool) (hs : th.termT.length + 1 < W64) :
    ThrInv fix tt (lpInit fix th term) (tlInit tl term) lg none :=
  ⟨tinv_lpInit h.tinv hs, fun _ _ hgv => nomatch hgv⟩

theorem onMsgProcess_maxT (h : onMsgProcess fix th i t term = some th') :
    th'.maxT = th.maxT ∨ th'.maxT = max t th.maxT := by
  obtain ⟨_, _, ⟨_, rfl⟩ | ⟨_, rfl⟩⟩ := onMsgProcess_some h
  · exact .inl rfl
  · cases term
    · exact .inl rfl
    · exact .inr rfl

theorem onRollback_maxT {s : Nat} (h : onRollback fix th i s = some th') : th'.maxT = th.maxT := by
  obtain ⟨_, _, rfl⟩ := onRollback_some h
  rfl

theorem ThrInv.proc (h : ThrInv fix tt th tl lg vg) (ht : TsOk fix t) (htm : t ≤ SIMTIME_MAX)
    (hc : onMsgProcess fix th i t term = some th') (hl : tlProc tl i t term = some tl') :
    ThrInv fix tt th' tl' lg vg := by
  refine ⟨tinv_proc h.tinv ht htm hc hl, fun htt gv hgv => ?_⟩
  obtain ⟨hm, hle, hall⟩ := h.voted htt gv hgv
  obtain ⟨l, hl0, rfl⟩ := tlProc_some hl
  refine ⟨?_, hle, forall_mem_set hall (heldBelow_append l gv _ (hall l (List.mem_of_getElem? hl0)))⟩
  rcases onMsgProcess_maxT hc with h | h
  · exact h.trans hm
  · rw [h, hm]; exact Nat.max_eq_right htm

/-- a rollback does not reach below the last GVT, so what a vote rests on is not undone -/
theorem ThrInv.rb {s : Nat} (h : ThrInv fix tt th tl lg vg) (hs : TsOk fix s) (hrb : RbOk' tl i s k) (hlg : lg ≤ s)
    (hc : onRollback fix th i s = some th') (hl : tlRb tl i k = some tl') : ThrInv fix tt th' tl' lg vg := by
  refine ⟨tinv_rb h.tinv hs hrb hc hl, fun htt gv hgv => ?_⟩
  obtain ⟨hm, hle, hall⟩ := h.voted htt gv hgv
  obtain ⟨l, hl0, rfl⟩ := tlRb_some hl
  exact ⟨(onRollback_maxT hc).trans hm, hle, forall_mem_set hall
    (heldBelow_take l gv s k (hall l (List.mem_of_getElem? hl0)) (Nat.le_trans hle hlg)
      (hrb l (Option.mem_def.mpr hl0)))⟩

theorem ThrInv.gvt (h : ThrInv fix tt th tl lg vg) (hlg : lg ≤ g) : ThrInv fix tt th tl g vg :=
  ⟨h.tinv, fun htt gv hgv => let ⟨h1, h2, h3⟩ := h.voted htt gv hgv; ⟨h1, Nat.le_trans h2 hlg, h3⟩⟩

/-- a vote at `g` below the termination time: the first one is sound by `vote_sound`, a later one changes nothing -/
theorem ThrInv.vote (h : ThrInv fix tt th tl lg vg) (hg : g ≤ SIMTIME_MAX) (hlg : lg ≤ g)
    (hv : noVote th g ttime = false) :
    ThrInv fix (tt || decide (ttime ≤ g)) { th with maxT := SIMTIME_MAX } tl g (some (vg.getD g)) := by
  refine ⟨tinv_vote h.tinv, fun htt gv hgv => ⟨rfl, ?_⟩⟩
  simp only [Bool.or_eq_false_iff, decide_eq_false_iff_not, Nat.not_le] at htt
  cases vg with
  | some gv0 =>
    cases hgv
    obtain ⟨_, h2, h3⟩ := h.voted htt.1 gv0 rfl
    exact ⟨Nat.le_trans h2 hlg, h3⟩
  | none =>
    cases hgv
    exact ⟨Nat.le_refl _, (vote_sound h.tinv hg hv).resolve_right (Nat.not_le.mpr htt.2)⟩

structure SInv (fix : Bool) (nNodes N : Nat) (s : Sys) : Prop where
  /-- `l1 … l4`: code state, ledger, last GVT and first-vote GVT are kept per thread, in four parallel lists of length `N` -/
  l1 : s.node.thrs.length = N
  l2 : s.led.length = N
  l3 : s.lastG.length = N
  l4 : s.voteG.length = N
  /-- `thr_to_end` is an `unsigned`: the thread count fits, so the counter below does not wrap -/
  nsmall : N < W32
  /-- every thread, with its entries of the four lists, satisfies the per-thread invariant -/
  thr : ∀ (ti : Nat) (th : Thread) (tl : TL) (lg : Nat) (vg : Option Nat), s.node.thrs[ti]? = some th →
          s.led[ti]? = some tl → s.lastG[ti]? = some lg → s.voteG[ti]? = some vg → ThrInv fix s.ttHit th tl lg vg
  /-- `thr_to_end` counts the threads that have not voted yet (as long as no vote was cast at the termination time) -/
  cnt : s.ttHit = false → s.node.thrToEnd = N - nVoted s
  /-- `nodes_to_end` is still the number of nodes, or one less once ALL threads have voted (the last voter handles its own
  termination message) — unless `RootsimStop` or another node intervened -/
  nte : s.ttHit = false → s.ext = false →
          s.node.nodesToEnd = (nNodes : Int) ∨ (s.node.nodesToEnd = (nNodes : Int) - 1 ∧ nVoted s = N)

/-- the four lists have the same length: a thread has its entry in each -/
theorem SInv.lookup (h : SInv fix nNodes N s) (hth : s.node.thrs[ti]? = some th) :
    ∃ tl lg vg, s.led[ti]? = some tl ∧ s.lastG[ti]? = some lg ∧ s.voteG[ti]? = some vg ∧
      ThrInv fix s.ttHit th tl lg vg :=
  have hti : ti < N := h.l1 ▸ (List.getElem?_eq_some_iff.mp hth).1
  have h2 := List.getElem?_eq_getElem (h.l2 ▸ hti)
  have h3 := List.getElem?_eq_getElem (h.l3 ▸ hti)
  have h4 := List.getElem?_eq_getElem (h.l4 ▸ hti)
  ⟨_, _, _, h2, h3, h4, h.thr ti _ _ _ _ hth h2 h3 h4⟩

theorem SInv.tinv (h : SInv fix nNodes N s) (hth : s.node.thrs[ti]? = some th) (htl : s.led[ti]? = some tl) :
    TInv fix th tl := by
  obtain ⟨_, _, _, h2, _, _, hT⟩ := h.lookup hth
  cases htl.symm.trans h2
  exact hT.tinv

theorem sinv_init (fix : Bool) (nNodes N ttime : Nat) (hN : N < W32) :
    SInv fix nNodes N (Sys.init N nNodes ttime) := by
  have hv : nVoted (Sys.init N nNodes ttime) = 0 := by simp [nVoted, Sys.init, List.countP_replicate]
  refine ⟨List.length_replicate, List.length_replicate, List.length_replicate, List.length_replicate, hN,
    ?_, fun _ => ?_, fun _ _ => .inl rfl⟩
  · intro ti th tl lg vg h1 h2 _ h4
    cases List.eq_of_mem_replicate (List.mem_of_getElem? h1)
    cases List.eq_of_mem_replicate (List.mem_of_getElem? h2)
    cases List.eq_of_mem_replicate (List.mem_of_getElem? h4)
    exact ⟨TInv.init fix, fun _ _ hgv => nomatch hgv⟩
  · rw [hv]
    exact Nat.mod_eq_of_lt hN

/-- `l'` is `l` with `a` at index `i`, nothing else changed -/
structure SetAt {α : Type} (i : Nat) (l l' : List α) (a : α) : Prop where
  len : l'.length = l.length
  at_ : l'[i]? = some a
  off : ∀ j, i ≠ j → l'[j]? = l[j]?

theorem SetAt.set {α : Type} {l : List α} (hi : i < l.length) (a : α) : SetAt i l (l.set i a) a :=
  ⟨List.length_set, List.getElem?_set_self hi, fun _ hij => List.getElem?_set_ne hij⟩

theorem SetAt.same {α : Type} {l : List α} {a : α} (h : l[i]? = some a) : SetAt i l l a :=
  ⟨rfl, h, fun _ _ => rfl⟩

/-- An operation of thread `ti` (its entries of the four lists change, the other threads' do not) keeps the invariant if
the thread's own invariant and the clauses about the two node-wide counters hold afterwards. -/
theorem SInv.step_at {lg' : Nat} {vg' : Option Nat} (hinv : SInv fix nNodes N s)
    (e1 : SetAt ti s.node.thrs s'.node.thrs th') (e2 : SetAt ti s.led s'.led tl')
    (e3 : SetAt ti s.lastG s'.lastG lg') (e4 : SetAt ti s.voteG s'.voteG vg')
    (htt : s'.ttHit = false → s.ttHit = false) (hT : ThrInv fix s'.ttHit th' tl' lg' vg')
    (hcnt : s'.ttHit = false → s'.node.thrToEnd = N - nVoted s' ∧ (s'.ext = false →
      s'.node.nodesToEnd = (nNodes : Int) ∨ (s'.node.nodesToEnd = (nNodes : Int) - 1 ∧ nVoted s' = N))) :
    SInv fix nNodes N s' := by
  refine ⟨e1.len.trans hinv.l1, e2.len.trans hinv.l2, e3.len.trans hinv.l3, e4.len.trans hinv.l4, hinv.nsmall,
    ?_, fun h => (hcnt h).1, fun h => (hcnt h).2⟩
  intro j th tl lg vg h1 h2 h3 h4
  by_cases hij : ti = j
  · subst hij
    rw [e1.at_] at h1; rw [e2.at_] at h2; rw [e3.at_] at h3; rw [e4.at_] at h4
    cases h1; cases h2; cases h3; cases h4
    exact hT
  · rw [e1.off j hij] at h1; rw [e2.off j hij] at h2; rw [e3.off j hij] at h3; rw [e4.off j hij] at h4
    have hj := hinv.thr j th tl lg vg h1 h2 h3 h4
    exact ⟨hj.tinv, fun h' => hj.voted (htt h')⟩

/-- what `step` does on a thread-local operation -/
theorem updThread_some {n n' : Node} {f : Thread → Option Thread} {v : Bool}
    (h : (updThread n ti f).map (·, false) = some (n', v)) :
    ∃ th th', n.thrs[ti]? = some th ∧ f th = some th' ∧ n' = { n with thrs := n.thrs.set ti th' } := by
  obtain ⟨_, hu, he⟩ := Option.map_eq_some_iff.mp h
  cases he
  unfold updThread at hu
  split at hu
  · cases hu
  · split at hu
    · cases hu
    · exact ⟨_, _, ‹_›, ‹_›, (Option.some.inj hu).symm⟩

/-- The three thread-local operations, by what `step` and `ledStep` do on them: thread `ti`'s code state changes by `f`,
its ledger by `g`, its GVT bookkeeping not at all. -/
theorem sinv_local {f : Thread → Option Thread} {g : TL → Option TL} {n' : Node} {v : Bool} {L' : List TL}
    (hinv : SInv fix nNodes N s) (hn : (updThread s.node ti f).map (·, false) = some (n', v))
    (hL : (match s.led[ti]? with
      | none => none
      | some tl => match g tl with
        | none => none
        | some tl' => some (s.led.set ti tl')) = some L')
    (hT : ∀ {th th' tl tl' lg vg}, s.node.thrs[ti]? = some th → f th = some th' → s.led[ti]? = some tl → g tl = some tl' →
      s.lastG[ti]? = some lg → s.voteG[ti]? = some vg → ThrInv fix s.ttHit th tl lg vg → ThrInv fix s.ttHit th' tl' lg vg) :
    SInv fix nNodes N { s with node := n', led := L' } := by
  obtain ⟨th, th', hth, hf, rfl⟩ := updThread_some hn
  split at hL
  · cases hL
  · rename_i tl htl
    split at hL
    · cases hL
    · rename_i tl' htl'
      cases hL
      have hti := (List.getElem?_eq_some_iff.mp hth).1
      obtain ⟨_, lg, vg, h2, h3, h4, hT0⟩ := hinv.lookup hth
      cases htl.symm.trans h2
      exact hinv.step_at (SetAt.set hti th') (SetAt.set (hinv.l2 ▸ hinv.l1 ▸ hti) tl') (SetAt.same h3) (SetAt.same h4)
        id (hT hth hf htl htl' h3 h4 hT0) (fun h => ⟨hinv.cnt h, hinv.nte h⟩)

theorem onGvt_some {n n' : Node} {v : Bool} (h : onGvt n ti g = some (n', v)) :
    ∃ th, n.thrs[ti]? = some th ∧
      ((noVote th g n.ttime = true ∧ v = false ∧ n' = n) ∨
       (noVote th g n.ttime = false ∧ v = true ∧ n'.thrs = n.thrs.set ti { th with maxT := SIMTIME_MAX } ∧
         n'.thrToEnd = (n.thrToEnd + W32 - 1) % W32 ∧
         n'.nodesToEnd = n.nodesToEnd - (if n.thrToEnd = 1 then 1 else 0) ∧ n'.ttime = n.ttime)) := by
  unfold onGvt at h
  split at h
  · cases h
  · rename_i th hth
    refine ⟨th, hth, ?_⟩
    cases hnv : noVote th g n.ttime <;> simp only [hnv, if_true, Bool.false_eq_true, if_false] at h <;> cases h
    · refine .inr ⟨rfl, rfl, ?_⟩
      split
      · exact ⟨rfl, rfl, rfl, rfl⟩
      · exact ⟨rfl, rfl, (Int.sub_zero _).symm, rfl⟩
    · exact .inl ⟨rfl, rfl, rfl⟩

/-- the node-wide counters `c = thr_to_end`, `e = nodes_to_end` after the first vote of one more thread (`v` had voted):
the last voter handles its own termination message -/
theorem vote_counters {v c : Nat} (e nN : Int) (hN : N < W32) (hv : v + 1 ≤ N) (hc : c = N - v) :
    (c + W32 - 1) % W32 = N - (v + 1) ∧ (e = nN ∨ (e = nN - 1 ∧ v = N) →
      e - (if c = 1 then 1 else 0) = nN ∨ (e - (if c = 1 then 1 else 0) = nN - 1 ∧ v + 1 = N)) := by
  have hm := mod_counter (W := W32) (c := c) (c' := N - (v + 1)) (a := 0) (b := 1)
    (by rw [hc, Nat.sub_add_eq, Nat.sub_add_cancel (Nat.sub_pos_of_lt hv), Nat.add_zero])
    (Nat.lt_of_le_of_lt (Nat.sub_le _ _) hN)
  rw [Nat.add_zero] at hm
  refine ⟨hm, fun he => ?_⟩
  rcases he with rfl | ⟨_, rfl⟩
  · by_cases h1 : c = 1
    · rw [if_pos h1]
      exact .inr ⟨rfl, by rw [← Nat.sub_add_cancel (Nat.le_of_succ_le hv), ← hc, h1, Nat.add_comm]⟩
    · rw [if_neg h1]; exact .inl (Int.sub_zero _)
  · exact absurd hv (Nat.not_succ_le_self _)

/-- `termination_on_gvt(g)` on thread `ti`, with the bookkeeping `sstep` does for it -/
theorem sinv_gvt {v : Bool} {n' : Node} (hinv : SInv fix nNodes N s) (henv : EnvOk pos s (.gvt ti g))
    (hon : onGvt s.node ti g = some (n', v)) :
    SInv fix nNodes N { s with
      node := n', lastG := s.lastG.set ti g
      voteG := if v && s.voteG[ti]? == some none then s.voteG.set ti (some g) else s.voteG
      ttHit := s.ttHit || (v && decide (s.node.ttime ≤ g)) } := by
  obtain ⟨hg, hmono⟩ := henv
  obtain ⟨th, hth, hcase⟩ := onGvt_some hon
  have hti : ti < N := hinv.l1 ▸ (List.getElem?_eq_some_iff.mp hth).1
  obtain ⟨tl, lg, vg, h2, h3, h4, hT⟩ := hinv.lookup hth
  have hlg : lg ≤ g := hmono lg (Option.mem_def.mpr h3)
  have e3 := SetAt.set (hinv.l3.symm ▸ hti) g
  rcases hcase with ⟨_, rfl, rfl⟩ | ⟨hnv, rfl, hthrs, hte, hne, _⟩
  · simp only [Bool.false_and, Bool.or_false, Bool.false_eq_true, if_false]
    exact hinv.step_at (SetAt.same hth) (SetAt.same h2) e3 (SetAt.same h4) id (hT.gvt hlg)
      (fun h => ⟨hinv.cnt h, hinv.nte h⟩)
  · have e1 : SetAt ti s.node.thrs n'.thrs { th with maxT := SIMTIME_MAX } :=
      hthrs ▸ SetAt.set (hinv.l1.symm ▸ hti) _
    simp only [Bool.true_and, h4]
    have e4 : SetAt ti s.voteG (if (some vg == some none) = true then s.voteG.set ti (some g) else s.voteG)
        (some (vg.getD g)) := by
      cases vg
      · exact SetAt.set (hinv.l4.symm ▸ hti) _
      · exact SetAt.same h4
    refine hinv.step_at e1 (SetAt.same h2) e3 e4 (fun h => (Bool.or_eq_false_iff.mp h).1) (hT.vote hg hlg hnv)
      (fun htt => ?_)
    simp only [Bool.or_eq_false_iff, decide_eq_false_iff_not] at htt
    cases vg with
    | some gv =>
      -- the thread has voted before, so its `max_t` is `SIMTIME_MAX`: it can only vote again at the termination time
      rcases noVote_false hnv with ⟨_, hlt⟩ | hge
      · exact absurd hg (Nat.not_le.mpr ((hT.voted htt.1 gv rfl).1 ▸ hlt))
      · exact absurd hge htt.2
    | none =>
      have hv : nVoted { s with voteG := s.voteG.set ti (some g) } = nVoted s + 1 :=
        countP_set_add h4 (some g) Option.isSome
      have hvN : nVoted s + 1 ≤ N := hv ▸ hinv.l4 ▸ List.length_set (as := s.voteG) ▸ List.countP_le_length
      have hc := vote_counters s.node.nodesToEnd nNodes hinv.nsmall hvN (hinv.cnt htt.1)
      show n'.thrToEnd = N - nVoted { s with voteG := s.voteG.set ti (some g) } ∧ (_ →
        n'.nodesToEnd = _ ∨ (n'.nodesToEnd = _ ∧ nVoted { s with voteG := s.voteG.set ti (some g) } = N))
      rw [hte, hne, hv]
      exact ⟨hc.1, fun hext => hc.2 (hinv.nte htt.1 hext)⟩

/-- **The invariant is preserved by every operation that respects the environment assumptions.** -/
theorem sinv_step (fix pos : Bool) (nNodes N : Nat) (s s' : Sys) (o : Op) (v : Bool)
    (hfp : fix = true ∨ pos = true)
    (hinv : SInv fix nNodes N s) (henv : EnvOk pos s o) (hs : sstep fix nNodes s o = some (s', v)) :
    SInv fix nNodes N s' := by
  have hts : ∀ t, TsReq pos t → TsOk fix t := fun t ht => hfp.imp id ht
  unfold sstep at hs
  split at hs
  · rename_i hstep hled
    cases hs
    cases o with
    | gvt ti g =>
      -- `ledStep` leaves the ledger alone on `gvt`: `hled` is `some s.led = some L'`
      cases (hled : some s.led = some _)
      exact sinv_gvt hinv henv hstep
    | lpInit ti term =>
      refine sinv_local (g := fun tl => some (tlInit tl term)) hinv hstep hled
        (fun hth hf _ htl' _ hvg hT => ?_)
      cases hf; cases htl'; cases henv.2.symm.trans hvg
      exact hT.lpInit term (henv.1 _ (Option.mem_def.mpr hth))
    | proc ti i t term =>
      exact sinv_local hinv hstep hled
        (fun _ hf _ htl' _ _ hT => hT.proc (hts t henv.1) henv.2 hf htl')
    | rb ti i s0 k =>
      exact sinv_local hinv hstep hled (fun _ hf htl htl' hlg _ hT =>
        hT.rb (hts s0 henv.1) (henv.2.1 _ (Option.mem_def.mpr htl)) (henv.2.2 _ (Option.mem_def.mpr hlg)) hf htl')
    | stop | ctrl =>
      -- only `nodes_to_end` and the `ext` flag change
      cases hstep; cases hled
      exact ⟨hinv.l1, hinv.l2, hinv.l3, hinv.l4, hinv.nsmall, hinv.thr, hinv.cnt, fun _ h => nomatch h⟩
  · cases hs

end Node

theorem reach_sinv (fix pos : Bool) (nNodes N ttime : Nat) (hfp : fix = true ∨ pos = true) (hN : N < W32)
    (s : Sys) (h : Reach fix pos nNodes N ttime s) : SInv fix nNodes N s := by
  induction h with
  | init => exact sinv_init fix nNodes N ttime hN
  | step _ henv hs ih => exact sinv_step fix pos nNodes N _ _ _ _ hfp ih henv hs

end RootSim.Term
