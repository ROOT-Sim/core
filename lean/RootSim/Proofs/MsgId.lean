import RootSim.Model.MsgAutoRemote
/-!
Uniqueness of the identifiers `(raw_flags & ~3, m_seq)` by which a remote anti-message is matched with
its message (`gvt_remote_msg_send`, `gvt_remote_anti_msg_send`, `gvt_remote_msg_receive` in `gvt/gvt.h`).
-/
namespace RootSim.MsgAuto

theorem shiftLeft_or (a i : Nat) {b : Nat} (h : b < 2 ^ i) : a <<< i ||| b = a * 2 ^ i + b := by
  rw [← Nat.shiftLeft_add_eq_or_of_lt h, Nat.shiftLeft_eq]

theorem mul_add_lt {a n k p : Nat} (ha : a < n) (hp : p < k) : a * k + p < n * k :=
  Nat.lt_of_lt_of_le (Nat.add_lt_add_left hp _)
    (Nat.le_trans (Nat.le_of_eq (Nat.succ_mul a k).symm) (Nat.mul_le_mul_right k ha))

theorem mul_add_inj {k a b p q : Nat} (hp : p < k) (hq : q < k) (h : a * k + p = b * k + q) :
    a = b ∧ p = q := by
  have hpq : p = q :=
    (Nat.mul_add_mod_of_lt hp).symm.trans ((congrArg (· % k) h).trans (Nat.mul_add_mod_of_lt hq))
  subst hpq
  exact ⟨Nat.eq_of_mul_eq_mul_right (Nat.zero_lt_of_lt hp) (Nat.add_right_cancel h), rfl⟩

/-- the three bit fields do not overlap, so the `|` is an addition -/
theorem stampFlags_eq (nid rid phase : Nat) (hn : nid < 65536) (hr : rid + 1 < 4096) (hp : phase < 2) :
    stampFlags nid rid phase = (nid * 4096 + (rid + 1)) * 4 + phase := by
  have h1 : phase < 2 ^ 2 := Nat.lt_trans hp (by decide)
  have h2 : (rid + 1) * 2 ^ 2 + phase < 2 ^ (MAX_THREADS_EXP + 2) := mul_add_lt hr h1
  rw [stampFlags, Nat.or_assoc, shiftLeft_or _ 2 h1, shiftLeft_or _ _ h2,
    Nat.mod_eq_of_lt (Nat.lt_trans (mul_add_lt hn h2) (by decide))]
  show nid * (4096 * 4) + ((rid + 1) * 4 + phase) = _
  rw [Nat.add_mul (nid * 4096), Nat.mul_assoc, Nat.add_assoc]

theorem recvId_mul_four_add (q : Nat) {p : Nat} (hp : p < 4) : recvId (q * 4 + p) = q * 4 := by
  rw [recvId, Nat.mul_add_mod_of_lt hp, Nat.add_sub_cancel]

theorem recvId_stamp (nid rid phase : Nat) (hn : nid < 65536) (hr : rid + 1 < 4096) (hp : phase < 2) :
    recvId (stampFlags nid rid phase) = (nid * 4096 + (rid + 1)) * 4 := by
  rw [stampFlags_eq nid rid phase hn hr hp, recvId_mul_four_add _ (Nat.lt_trans hp (by decide))]

/-- the id received is a multiple of four and at least 4: `last_flags > 3` identifies the remote path -/
theorem recvId_ge_four (nid rid phase : Nat) (hn : nid < 65536) (hr : rid + 1 < 4096) (hp : phase < 2) :
    4 ≤ recvId (stampFlags nid rid phase) ∧ recvId (stampFlags nid rid phase) % 4 = 0 ∧
    recvId (stampFlags nid rid phase) + 8 < W32 := by
  rw [recvId_stamp nid rid phase hn hr hp]
  have hq : (nid * 4096 + (rid + 1)) * 4 < 65536 * 4096 * 4 :=
    Nat.mul_lt_mul_of_pos_right (mul_add_lt hn hr) (by decide)
  exact ⟨Nat.le_mul_of_pos_left 4 (Nat.add_pos_right _ rid.succ_pos), Nat.mul_mod_left _ _,
    Nat.lt_trans (Nat.add_lt_add_right hq 8) (by decide)⟩

/-- different sending threads (anywhere in the system) stamp different ids -/
theorem stamp_inj (n1 r1 p1 n2 r2 p2 : Nat) (hn1 : n1 < 65536) (hr1 : r1 + 1 < 4096) (hp1 : p1 < 2)
    (hn2 : n2 < 65536) (hr2 : r2 + 1 < 4096) (hp2 : p2 < 2)
    (h : recvId (stampFlags n1 r1 p1) = recvId (stampFlags n2 r2 p2)) : n1 = n2 ∧ r1 = r2 := by
  rw [recvId_stamp n1 r1 p1 hn1 hr1 hp1, recvId_stamp n2 r2 p2 hn2 hr2 hp2] at h
  have := mul_add_inj hr1 hr2 (Nat.eq_of_mul_eq_mul_right (by decide) h)
  exact ⟨this.1, Nat.succ.inj this.2⟩

/-- the shift drops bit 31 of the counter -/
theorem stampSeq_eq (c phase : Nat) (hp : phase < 2) : stampSeq c phase = c % 2147483648 * 2 + phase := by
  have h0 : (c % W32) <<< 1 % W32 = (c % 2147483648) <<< 1 := by
    rw [Nat.shiftLeft_eq, Nat.shiftLeft_eq]
    exact (Nat.mul_mod_mul_right 2 (c % W32) 2147483648).trans
      (congrArg (· * 2) (Nat.mod_mul_right_mod c 2147483648 2))
  rw [stampSeq, h0, shiftLeft_or _ 1 hp, Nat.pow_one]

theorem stampSeq_inj (c1 p1 c2 p2 : Nat) (hp1 : p1 < 2) (hp2 : p2 < 2)
    (h : stampSeq c1 p1 = stampSeq c2 p2) : p1 = p2 ∧ c1 % 2147483648 = c2 % 2147483648 := by
  rw [stampSeq_eq c1 p1 hp1, stampSeq_eq c2 p2 hp2] at h
  exact (mul_add_inj hp1 hp2 h).symm

theorem SendCtr.le_bump (c : SendCtr) (ph d p x : Nat) : c.seq p x ≤ (c.bump ph d).seq p x := by
  show _ ≤ if _ then _ else _
  split
  · exact Nat.le_succ _
  · exact Nat.le_refl _

theorem sendLog_ge (c : SendCtr) (ops : List SendOp) (d ph v : Nat) (h : (d, ph, v) ∈ sendLog c ops) :
    c.seq ph d ≤ v := by
  induction ops generalizing c with
  | nil => cases h
  | cons op ops ih =>
    cases op with
    | msg ph' d' =>
      rcases List.mem_cons.mp h with h | h
      · cases h; exact Nat.le_refl _
      · exact Nat.le_trans (c.le_bump ph' d' ph d) (ih _ h)
    | anti ph' d' => exact Nat.le_trans (c.le_bump ph' d' ph d) (ih _ h)

/-- the counter values a thread uses for the same `(dest, phase)` strictly increase: every send
(message or anti-message) increments the counter -/
theorem sendLog_increasing (c : SendCtr) (ops : List SendOp) :
    (sendLog c ops).Pairwise (fun a b => a.1 = b.1 → a.2.1 = b.2.1 → a.2.2 < b.2.2) := by
  induction ops generalizing c with
  | nil => exact List.Pairwise.nil
  | cons op ops ih =>
    cases op with
    | msg ph d =>
      refine List.pairwise_cons.mpr ⟨?_, ih _⟩
      rintro ⟨d', ph', v⟩ hb (rfl : d = d') (rfl : ph = ph')
      have := sendLog_ge (c.bump ph d) ops d ph v hb
      rwa [show (c.bump ph d).seq ph d = c.seq ph d + 1 from if_pos ⟨rfl, rfl⟩] at this
    | anti ph d => exact ih _

end RootSim.MsgAuto
