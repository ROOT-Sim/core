import RootSim.Model.Shutdown
import RootSim.Proofs.Fair
/-!
# The shutdown model as a transition system: reachability, schedules, stuck states; a bounded explorer

The first half is what `Proofs/ShutdownMeasure.lean`, `Proofs/ShutdownQuiet.lean` and `Props/C08.lean` build on:
`Reach`, `owns` (which actions are a thread's), list and sequence schedules, and `stuck` states being absorbing.
The second half is a breadth-first explorer of the model that the kernel can evaluate (`exploreFrom`, `closed`,
`mem_sound`); no theorem uses it, the check explores with the compiled `acts` / `stepNS` instead
(`Driver/C08mc.lean`).
-/
namespace RootSim.Shutdown
open RootSim.Fair

/-- reachable from the initial state of `n` threads by arbitrary actions -/
inductive Reach (v : Variant) (n : Nat) (zq : Bool) : St → Prop where
  | init : Reach v n zq (St.init n zq)
  | step {s : St} (a : Act) : Reach v n zq s → Reach v n zq (step v s a)

/-- `a` is a step of thread `i` -/
def owns : Act → Nat → Prop
  | .run i _ _, j => i = j
  | _, _ => False

/-- the actions of thread `i` are its `run` actions, whatever the schedule's two choices -/
theorem forall_owns {P : Act → Prop} {i : Nat} : (∀ a, owns a i → P a) ↔ ∀ tm vo, P (.run i tm vo) := by
  refine ⟨fun h tm vo => h _ rfl, fun h a ha => ?_⟩
  cases a with
  | run j tm vo => cases (ha : j = i); exact h tm vo
  | stop j => exact ha.elim
  | zero => exact ha.elim

theorem reach_run (v : Variant) (n : Nat) (zq : Bool) (as : List Act) :
    ∀ s, Reach v n zq s → Reach v n zq (run v s as) := by
  induction as with
  | nil => intro s h; exact h
  | cons a as ih => intro s h; exact ih _ (Reach.step a h)

/-! ### Schedules given as lists (`run`) and as sequences (`exec`) -/

theorem run_append (v : Variant) (s : St) (l₁ l₂ : List Act) : run v s (l₁ ++ l₂) = run v (run v s l₁) l₂ := by
  induction l₁ generalizing s with
  | nil => rfl
  | cons a l ih => exact ih _

theorem exec_const_eq_run (v : Variant) (a : Act) (s : St) (k : Nat) :
    exec (step v) (fun _ => a) s k = run v s (List.replicate k a) := by
  induction k with
  | zero => rfl
  | succ k ih => rw [List.replicate_succ', run_append, ← ih]; rfl

theorem run_replicate_add (v : Variant) (a : Act) (s : St) (m k : Nat) :
    run v s (List.replicate (m + k) a) = run v (run v s (List.replicate m a)) (List.replicate k a) := by
  rw [← List.replicate_append_replicate, run_append]

/-- a constant schedule that returns to its start after `p` steps goes round for ever -/
theorem run_replicate_mod (v : Variant) (a : Act) (s : St) (p : Nat) (hp : run v s (List.replicate p a) = s)
    (q r : Nat) : run v s (List.replicate (p * q + r) a) = run v s (List.replicate r a) := by
  induction q with
  | zero => rw [Nat.mul_zero, Nat.zero_add]
  | succ q ih =>
    rw [show p * (q + 1) + r = p + (p * q + r) by rw [Nat.mul_succ]; omega, run_replicate_add, hp, ih]

/-! ### Spins and stuck states -/

theorem step_run_oob (v : Variant) (s : St) (i : Nat) (tm vo : Bool) (h : s.n ≤ i) : step v s (.run i tm vo) = s := by
  simp only [step, List.getElem?_eq_none h]

theorem step_stop_oob (v : Variant) (s : St) (i : Nat) (h : s.n ≤ i) : step v s (.stop i) = s := by
  simp only [step, List.getElem?_eq_none h]

theorem stuck_step (v : Variant) (s : St) (h : stuck v s = true) (a : Act) : step v s a = s := by
  simp only [stuck, Bool.and_eq_true, List.all_eq_true, List.mem_range, beq_iff_eq] at h
  obtain ⟨hthr, hzero⟩ := h
  cases a with
  | zero => exact hzero
  | stop i =>
    by_cases hi : i < s.n
    · exact (hthr i hi).1
    · exact step_stop_oob v s i (Nat.le_of_not_lt hi)
  | run i tm vo =>
    by_cases hi : i < s.n
    · exact (hthr i hi).2 tm (by cases tm <;> simp) vo (by cases vo <;> simp)
    · exact step_run_oob v s i tm vo (Nat.le_of_not_lt hi)

theorem stuck_exec (v : Variant) (s : St) (h : stuck v s = true) (f : Nat → Act) : ∀ k, exec (step v) f s k = s := by
  intro k
  induction k with
  | zero => rfl
  | succ k ih => rw [exec, ih, stuck_step v s h]

/-! ### Bounded exhaustive exploration -/

/-- the actions of an `n`-thread system -/
def acts (n : Nat) : List Act :=
  (List.range n).flatMap (fun i =>
    [.run i false false, .run i true false, .run i false true, .run i true true, .stop i]) ++ [.zero]

/-- `RootsimStop` is not called again once termination has been decided -/
def stepNS (v : Variant) (s : St) (a : Act) : St :=
  match a with
  | .stop i => if triggered s then s else step v s (.stop i)
  | a => step v s a

/-- a cheap numeric fingerprint of a state (need not be injective): lets the kernel compare states by
one accelerated `Nat` comparison before falling back to structural equality -/
def fpTh (t : Th) : Nat :=
  let pc := match t.pc with
    | .head => 0 | .body => 1 | .flush => 2 | .barArrive k => 3 + k | .barWait k => 8 + k
    | .forced i => 13 + i | .lpfini => 16 | .done => 17
  let tp := match t.tph with | .idle => 0 | .A => 1 | .B => 2 | .C => 3 | .D => 4
  let np := match t.nph with
    | .reduxFirst => 0 | .sentReduce => 1 | .sentReduceWait => 2 | .sentWait => 3 | .reduxSecond => 4
    | .minReduce => 5 | .minReduceWait => 6 | .minWait => 7 | .done => 8
  ((((pc * 8 + tp) * 16 + np) * 8 + t.nb) * 4 + t.fini) * 2 + (if t.voted then 1 else 0)

def fp (s : St) : Nat :=
  let a := s.ths.foldl (fun acc t => acc * 1048576 + fpTh t) 0
  ((((((((a * 8 + s.ca) * 8 + s.cb) * 8 + s.cc) * 8 + s.cd) * 16 + (s.tmr + 8).toNat) * 4 + (s.gvtNodes + 1).toNat) * 16 +
    (s.nodesToEnd + 8).toNat) * 8 + s.thrToEnd) * 4 + (if s.zq then 2 else 0) + (if s.closed then 1 else 0)

def memFp (S : List (Nat × St)) (c : Nat) (x : St) : Bool :=
  S.any (fun p => p.1 == c && p.2 == x)

def insertNew (seen : List (Nat × St)) : List St → List (Nat × St) × List St
  | [] => (seen, [])
  | x :: xs =>
    let c := fp x
    if memFp seen c x then insertNew seen xs
    else
      let (seen', new) := insertNew ((c, x) :: seen) xs
      (seen', x :: new)

/-- breadth-first exploration with fuel -/
def explore (v : Variant) (n : Nat) : Nat → List St → List (Nat × St) → List (Nat × St)
  | 0, _, seen => seen
  | _ + 1, [], seen => seen
  | fuel + 1, s :: todo, seen =>
    let (seen', new) := insertNew seen ((acts n).map (stepNS v s))
    explore v n fuel (todo ++ new) seen'

def exploreFrom (v : Variant) (n : Nat) (zq : Bool) (fuel : Nat) : List (Nat × St) :=
  explore v n fuel [St.init n zq] [(fp (St.init n zq), St.init n zq)]

def mem (S : List (Nat × St)) (x : St) : Bool := memFp S (fp x) x

/-- `S` contains the initial state and is closed under every action (a property of a set of states; not the
state field `St.closed`, which is `gvt_closed`) -/
def closed (v : Variant) (n : Nat) (zq : Bool) (S : List (Nat × St)) : Bool :=
  mem S (St.init n zq) && S.all (fun p => (acts n).all (fun a => mem S (stepNS v p.2 a)))

theorem mem_sound {S : List (Nat × St)} {x : St} (h : mem S x = true) : ∃ c, (c, x) ∈ S := by
  simp only [mem, memFp, List.any_eq_true, Bool.and_eq_true, beq_iff_eq] at h
  obtain ⟨p, hp, h1, h2⟩ := h
  exact ⟨p.1, by rw [← h2]; exact hp⟩

end RootSim.Shutdown
