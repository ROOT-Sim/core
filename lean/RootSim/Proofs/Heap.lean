import RootSim.Model.Heap
/-!
Helper lemmas for the heap of `heap.h` (C10 / heap half of C15).

Everything is proved once, for a call-site indexed comparator `cmp` that is *consistent* with some
total preorder `le` on the elements satisfying a predicate `P`:
`cmp n a b → le a b` and `¬ cmp n a b → le b a` for every call site `n`.
Two instances are used:
* `le a b := lt b a = false` for a strict weak order `lt` (the event order, C16), `cmp := fun _ => lt`;
* `le a b := key a ≤ key b` for an arbitrary family of comparators that merely respect the time stamps.

Both sift loops move a *hole* through the array.  `HoleHeap le a j` says that `a` is a heap if the content of
position `j` is disregarded; `HoleHeap.fill` says which values may be stored into the hole, and storing the
value of the neighbour the hole moves to is one such store, so that every intermediate array is a heap.
-/
namespace RootSim.Heap
variable {α : Type}

/-- `cmp` refines the total preorder `le` on the elements satisfying `P` -/
structure Consistent (cmp : Cmp α) (le : α → α → Prop) (P : α → Prop) : Prop where
  refl : ∀ a, P a → le a a
  trans : ∀ a b c, P a → P b → P c → le a b → le b c → le a c
  of_lt : ∀ n a b, P a → P b → cmp n a b = true → le a b
  of_not_lt : ∀ n a b, P a → P b → cmp n a b = false → le b a

def AllP (P : α → Prop) (a : Array α) : Prop := ∀ k (h : k < a.size), P a[k]

/-- the heap invariant: no child is strictly below its parent (`parent ≤ child`) -/
def HeapLe (le : α → α → Prop) (a : Array α) : Prop :=
  ∀ c (hc : c < a.size), 0 < c → le (a[(c - 1) / 2]'(by omega)) a[c]

/-! ### multiset preservation (no assumption on the comparator) -/

theorem parent_lt {c : Nat} (h : 0 < c) : (c - 1) / 2 < c :=
  Nat.lt_of_le_of_lt (Nat.div_le_self _ _) (Nat.sub_one_lt (Nat.ne_of_gt h))

theorem parent_lt_size {a : Array α} {c : Nat} (h : c < a.size) : (c - 1) / 2 < a.size :=
  Nat.lt_of_le_of_lt (Nat.le_trans (Nat.div_le_self _ _) (Nat.sub_le _ _)) h

/-- moving the hole from `i` to `p`: the element of `p` is copied to `i`, and `x` would go to `p` instead of `i` -/
theorem set_set_perm (a : Array α) (i p : Nat) (x : α) (hi : i < a.size) (hp : p < a.size) (hne : i ≠ p) :
    ((a.set i a[p]).set p x (by simpa using hp)).Perm (a.set i x) := by
  have e : (a.set i x).swap i p (by simpa using hi) (by simpa using hp) = (a.set i a[p]).set p x (by simpa using hp) := by
    simp only [Array.swap_def, Array.set_set, Array.getElem_set_self, Array.getElem_set_ne hi hp hne]
  exact e ▸ Array.swap_perm _ _

theorem siftUp_perm (cmp : Cmp α) (x : α) (a : Array α) (i : Nat) (hi : i < a.size) :
    (siftUp cmp x a i hi).1.Perm (a.set i x) := by
  fun_induction siftUp cmp x a i hi with
  | case1 a hi => exact .rfl
  | case2 a i hi h0 hc ih =>
    exact ih.trans (set_set_perm a i _ x hi (parent_lt_size hi) (Nat.ne_of_gt (parent_lt (Nat.pos_of_ne_zero h0))))
  | case3 a i hi h0 hc => exact .rfl

theorem siftUp_size (cmp : Cmp α) (x : α) (a : Array α) (i : Nat) (hi : i < a.size) :
    (siftUp cmp x a i hi).1.size = a.size := by
  have := (siftUp_perm cmp x a i hi).size_eq
  simpa using this

theorem heapInsertI_perm (cmp : Cmp α) (a : Array α) (x : α) :
    (heapInsertI cmp a x).1.Perm (a.push x) := by
  have e := Array.set_getElem_self (xs := a.push x) (i := a.size) (by simp)
  rw [Array.getElem_push_eq] at e
  exact (siftUp_perm ..).trans (.of_eq e)

theorem siftDown_perm (cmp : Cmp α) (last : α) (a : Array α) (j i : Nat) (hji : j < i) :
    (siftDown cmp last a j i hji).Perm (a.setIfInBounds j last) := by
  fun_induction siftDown cmp last a j i hji with
  | case1 a j i hji h hc hg hlt ih =>
    have hj := Nat.lt_trans hji h
    rw [Array.setIfInBounds_def, dif_pos (by simpa using hc)] at ih
    rw [Array.setIfInBounds_def, dif_pos hj]
    exact ih.trans (set_set_perm a j _ last hj hc (Nat.ne_of_lt (Nat.lt_of_lt_of_le hji hg.1)))
  | case2 a j i hji h hc hg hlt =>
    rw [Array.setIfInBounds_def, dif_pos (Nat.lt_trans hji h)]
  | case3 a j i hji h => exact .rfl

theorem siftDown_size (cmp : Cmp α) (last : α) (a : Array α) (j i : Nat) (hji : j < i) :
    (siftDown cmp last a j i hji).size = a.size := by
  have := (siftDown_perm cmp last a j i hji).size_eq
  simpa using this

theorem heapExtractI_eq_some {cmp : Cmp α} {a : Array α} {m : α} {a' : Array α} :
    heapExtractI cmp a = some (m, a') ↔
      ∃ h : 0 < a.size, m = a[0] ∧
        a' = siftDown cmp (a[a.size - 1]'(Nat.sub_lt h Nat.one_pos)) a.pop 0 1 Nat.one_pos := by
  unfold heapExtractI
  split
  · rename_i h
    rw [Option.some.injEq, Prod.mk.injEq, exists_prop_of_true h, eq_comm, @eq_comm _ a']
  · rename_i h
    exact ⟨fun e => (nomatch e), fun ⟨h', _⟩ => absurd h' h⟩

/-- the first element exchanged for the last, and the last position dropped: the first element is removed -/
theorem list_dropLast_set_perm : ∀ (l : List α) (h : l ≠ []),
    l.Perm (l.head h :: l.dropLast.set 0 (l.getLast h))
  | [x], _ => .refl _
  | x :: y :: r, _ => by
    have h2 : (y :: r) ≠ [] := List.cons_ne_nil _ _
    rw [List.dropLast_cons_cons, List.set_cons_zero, List.getLast_cons h2, List.head_cons]
    conv => lhs; rw [← List.dropLast_concat_getLast h2]
    exact .cons _ (List.perm_append_singleton _ _)

/-- `heap_extract` removes exactly the returned element from the multiset, for ANY comparator. -/
theorem heapExtractI_perm (cmp : Cmp α) (a : Array α) (m : α) (a' : Array α)
    (h : heapExtractI cmp a = some (m, a')) : a.toList.Perm (m :: a'.toList) := by
  obtain ⟨hs, rfl, rfl⟩ := heapExtractI_eq_some.1 h
  have hl := list_dropLast_set_perm a.toList (List.ne_nil_of_length_pos (Array.length_toList ▸ hs))
  rw [Array.getLast_toList, List.head_eq_getElem, Array.getElem_toList, ← Array.toList_pop,
    ← Array.toList_setIfInBounds] at hl
  exact hl.trans (.cons _ (siftDown_perm ..).toList.symm)

theorem heapExtractI_size (cmp : Cmp α) (a : Array α) (m : α) (a' : Array α)
    (h : heapExtractI cmp a = some (m, a')) : a'.size + 1 = a.size := by
  have := (heapExtractI_perm cmp a m a' h).length_eq
  rw [List.length_cons, Array.length_toList, Array.length_toList] at this
  exact this.symm

theorem heapExtractI_isSome (cmp : Cmp α) (a : Array α) (h : 0 < a.size) :
    ∃ a', heapExtractI cmp a = some (a[0], a') :=
  ⟨_, heapExtractI_eq_some.2 ⟨h, rfl, rfl⟩⟩

/-! ### preservation of the heap invariant, for a comparator consistent with a total preorder -/

theorem allP_set {P : α → Prop} {a : Array α} (ha : AllP P a) (j : Nat) (hj : j < a.size) {v : α} (hv : P v) :
    AllP P (a.set j v) := by
  intro k hk
  rw [Array.getElem_set]
  split
  · exact hv
  · exact ha _ _

theorem allP_iff {P : α → Prop} {a : Array α} : AllP P a ↔ ∀ y ∈ a.toList, P y := by
  refine ⟨fun h y hy => ?_, fun h k hk => h _ (Array.mem_toList_iff.2 (Array.getElem_mem hk))⟩
  obtain ⟨j, hj, rfl⟩ := Array.mem_iff_getElem.1 (Array.mem_toList_iff.1 hy)
  exact h j hj

theorem allP_of_perm {P : α → Prop} {a b : Array α} (h : a.Perm b) (hb : AllP P b) : AllP P a :=
  allP_iff.2 fun y hy => allP_iff.1 hb y (h.toList.mem_iff.1 hy)

theorem allP_push {P : α → Prop} {a : Array α} {x : α} (ha : AllP P a) (hx : P x) : AllP P (a.push x) := by
  intro k hk
  simp only [Array.getElem_push]; split
  · exact ha _ _
  · exact hx

/-- `a` is a heap apart from position `j`, whose content is disregarded: parent and child are in order where
neither is `j`, and so are the parent of `j` and the children of `j` -/
structure HoleHeap (le : α → α → Prop) (a : Array α) (j : Nat) : Prop where
  away : ∀ c (hc : c < a.size), 0 < c → c ≠ j → (c - 1) / 2 ≠ j → le (a[(c - 1) / 2]'(parent_lt_size hc)) a[c]
  across : ∀ c (hc : c < a.size) (hj : j < a.size), 0 < c → (c - 1) / 2 = j → 0 < j →
    le (a[(j - 1) / 2]'(parent_lt_size hj)) a[c]

/-- a value between the parent and the children of the hole may be stored there -/
theorem HoleHeap.fill {le : α → α → Prop} {a : Array α} {j : Nat} (h : HoleHeap le a j) (hj : j < a.size) (v : α)
    (hup : 0 < j → le (a[(j - 1) / 2]'(parent_lt_size hj)) v)
    (hdown : ∀ c (hc : c < a.size), 0 < c → (c - 1) / 2 = j → le v a[c]) : HeapLe le (a.set j v) := by
  intro c hc hc0
  rw [Array.size_set] at hc
  simp only [Array.getElem_set]
  by_cases e1 : j = c
  · subst e1; rw [if_pos rfl, if_neg (Nat.ne_of_gt (parent_lt hc0))]; exact hup hc0
  · rw [if_neg e1]
    by_cases e2 : j = (c - 1) / 2
    · rw [if_pos e2]; exact hdown c hc hc0 e2.symm
    · rw [if_neg e2]; exact h.away c hc hc0 (Ne.symm e1) (Ne.symm e2)

theorem HoleHeap.heapLe_of_le {le : α → α → Prop} {a : Array α} {j : Nat} (h : HoleHeap le a j) (hj : a.size ≤ j) :
    HeapLe le a :=
  fun c hc hc0 => h.away c hc hc0 (Nat.ne_of_lt (Nat.lt_of_lt_of_le hc hj))
    (Nat.ne_of_lt (Nat.lt_of_lt_of_le (parent_lt_size hc) hj))

section Order
variable {cmp : Cmp α} {le : α → α → Prop} {P : α → Prop}

/-- in a heap any position may be taken for the hole -/
theorem HeapLe.holeHeap (C : Consistent cmp le P) {a : Array α} (hP : AllP P a) (h : HeapLe le a) (j : Nat) :
    HoleHeap le a j where
  away c hc hc0 _ _ := h c hc hc0
  across c hc hj hc0 hcp hj0 := by
    have h1 := h c hc hc0
    simp only [hcp] at h1
    exact C.trans _ _ _ (hP _ _) (hP _ _) (hP _ _) (h j hj hj0) h1

theorem siftUp_heap (C : Consistent cmp le P) (x : α) (hx : P x) (a : Array α) (i : Nat) (hi : i < a.size) :
    AllP P a → HoleHeap le a i → (∀ c (hc : c < a.size), 0 < c → (c - 1) / 2 = i → le x a[c]) →
    HeapLe le (siftUp cmp x a i hi).1 := by
  fun_induction siftUp cmp x a i hi with
  | case1 a hi => exact fun _ h hx' => h.fill hi x (fun h0 => absurd h0 (Nat.lt_irrefl 0)) hx'
  | case2 a i hi h0 hlt ih =>
    intro hP h hx'
    have hi0 := Nat.pos_of_ne_zero h0
    have hp := parent_lt_size hi
    have hP' := allP_set hP i hi (hP _ hp)
    -- the parent's value may be stored into the hole; afterwards the parent's position is the hole
    have hb : HeapLe le (a.set i (a[(i - 1) / 2]'hp)) :=
      h.fill hi _ (fun _ => C.refl _ (hP _ hp)) (fun c hc hc0 hcp => h.across c hc hi hc0 hcp hi0)
    refine ih hP' (hb.holeHeap C hP' _) (fun c hc hc0 hcp => ?_)
    have h1 := hb c hc hc0
    simp only [hcp, Array.getElem_set_ne hi hp (Nat.ne_of_gt (parent_lt hi0))] at h1
    exact C.trans _ _ _ hx (hP _ hp) (hP' _ _) (C.of_lt _ _ _ hx (hP _ hp) hlt) h1
  | case3 a i hi h0 hlt =>
    exact fun hP h hx' => h.fill hi x (fun _ => C.of_not_lt _ _ _ hx (hP _ _) (Bool.not_eq_true _ ▸ hlt)) hx'

theorem no_child_of_last {n c : Nat} (hc : c < n + 1) (hc0 : 0 < c) : (c - 1) / 2 ≠ n :=
  Nat.ne_of_lt (Nat.lt_of_lt_of_le (parent_lt hc0) (Nat.le_of_lt_succ hc))

theorem heapInsertI_heap (C : Consistent cmp le P)
    (a : Array α) (x : α) (hP : AllP P a) (hx : P x) (hh : HeapLe le a) :
    HeapLe le (heapInsertI cmp a x).1 := by
  refine siftUp_heap C x hx _ _ _ (allP_push hP hx) ⟨fun c hc hc0 hci _ => ?_, fun c hc _ hc0 hcp => ?_⟩
    (fun c hc hc0 hcp => ?_)
  · rw [Array.size_push] at hc
    have hc' : c < a.size := Nat.lt_of_le_of_ne (Nat.le_of_lt_succ hc) hci
    rw [Array.getElem_push_lt hc', Array.getElem_push_lt (parent_lt_size hc')]
    exact hh c hc' hc0
  all_goals exact absurd hcp (no_child_of_last (Array.size_push x ▸ hc) hc0)

theorem heapInsertI_allP (a : Array α) (x : α) (hP : AllP P a) (hx : P x) :
    AllP P (heapInsertI cmp a x).1 :=
  allP_of_perm (heapInsertI_perm cmp a x) (allP_push hP hx)

theorem child_iff {j k : Nat} : 0 < k ∧ (k - 1) / 2 = j ↔ k = 2 * j + 1 ∨ k = 2 * j + 1 + 1 := by
  omega

theorem pickChild_parent (cmp : Cmp α) (a : Array α) (j : Nat) (h : 2 * j + 1 < a.size) :
    0 < pickChild cmp a (2 * j + 1) h ∧ (pickChild cmp a (2 * j + 1) h - 1) / 2 = j := by
  have hg := pickChild_ge cmp a (2 * j + 1) h
  exact child_iff.2 ((Nat.eq_or_lt_of_le hg.1).imp Eq.symm (Nat.le_antisymm hg.2))

theorem pickChild_le (C : Consistent cmp le P) (a : Array α) (i : Nat) (h : i < a.size) (hP : AllP P a)
    (k : Nat) (hk : k < a.size) (hk' : k = i ∨ k = i + 1) :
    le (a[pickChild cmp a i h]'(pickChild_lt cmp a i h)) a[k] := by
  unfold pickChild
  split
  · rcases hk' with rfl | rfl
    · split
      · rename_i hc; exact C.of_lt _ _ _ (hP _ _) (hP _ _) hc
      · exact C.refl _ (hP _ _)
    · split
      · exact C.refl _ (hP _ _)
      · rename_i hc; exact C.of_not_lt _ _ _ (hP _ _) (hP _ _) (Bool.not_eq_true _ ▸ hc)
  · rename_i hs
    rcases hk' with rfl | rfl
    · exact C.refl _ (hP _ _)
    · exact absurd hk hs

theorem siftDown_heap (C : Consistent cmp le P)
    (last : α) (hl : P last) (a : Array α) (j i : Nat) (hji : j < i) :
    i = 2 * j + 1 → AllP P a → HoleHeap le a j →
    ((h0 : 0 < j) → (hj : j < a.size) → le (a[(j - 1) / 2]'(parent_lt_size hj)) last) →
    HeapLe le (siftDown cmp last a j i hji) := by
  fun_induction siftDown cmp last a j i hji with
  | case1 a j i hji hi hc hg hlt ih =>
    intro hij hP h hup
    subst hij
    have hj := Nat.lt_trans hji hi
    obtain ⟨hc0, hpar⟩ := pickChild_parent cmp a j hi
    have hP' := allP_set hP j hj (hP _ hc)
    -- the chosen child's value may be stored into the hole; afterwards the child's position is the hole
    have hb : HeapLe le (a.set j (a[pickChild cmp a (2 * j + 1) hi]'hc)) :=
      h.fill hj _ (h.across _ hc hj hc0 hpar)
        (fun k hk hk0 hkp => pickChild_le C a _ hi hP k hk (child_iff.1 ⟨hk0, hkp⟩))
    refine ih rfl hP' (hb.holeHeap C hP' _) (fun _ _ => ?_)
    simp only [hpar, Array.getElem_set_self]
    exact C.of_lt _ _ _ (hP _ hc) hl hlt
  | case2 a j i hji hi hc hg hlt =>
    intro hij hP h hup
    subst hij
    have hj := Nat.lt_trans hji hi
    refine h.fill hj last (fun h0 => hup h0 hj) (fun k hk hk0 hkp => ?_)
    exact C.trans _ _ _ hl (hP _ hc) (hP _ hk) (C.of_not_lt _ _ _ (hP _ hc) hl (Bool.not_eq_true _ ▸ hlt))
      (pickChild_le C a _ hi hP k hk (child_iff.1 ⟨hk0, hkp⟩))
  | case3 a j i hji hi =>
    intro hij hP h hup
    rw [Array.setIfInBounds_def]
    split
    · rename_i hj
      refine h.fill hj last (fun h0 => hup h0 hj) (fun k hk hk0 hkp => absurd hk ?_)
      rcases child_iff.1 ⟨hk0, hkp⟩ with rfl | rfl
      · exact hij ▸ hi
      · exact fun h => hi (hij ▸ Nat.lt_of_succ_lt h)
    · rename_i hj
      exact h.heapLe_of_le (Nat.le_of_not_lt hj)

theorem heapExtractI_heap (C : Consistent cmp le P)
    (a : Array α) (m : α) (a' : Array α) (h : heapExtractI cmp a = some (m, a'))
    (hP : AllP P a) (hh : HeapLe le a) : HeapLe le a' := by
  obtain ⟨hs, rfl, rfl⟩ := heapExtractI_eq_some.1 h
  have hP' : AllP P a.pop := fun k hk => by rw [Array.getElem_pop]; exact hP _ _
  have hh' : HeapLe le a.pop := fun c hc hc0 => by
    simp only [Array.getElem_pop]; exact hh c (Nat.lt_of_lt_of_le hc (Array.size_pop ▸ Nat.sub_le _ _)) hc0
  exact siftDown_heap C _ (hP _ _) _ 0 1 (by omega) rfl hP' (hh'.holeHeap C hP' 0)
    (fun h0 => absurd h0 (Nat.lt_irrefl 0))

end Order

theorem heapExtractI_allP {cmp : Cmp α} {P : α → Prop} (a : Array α) (m : α) (a' : Array α)
    (h : heapExtractI cmp a = some (m, a')) (hP : AllP P a) : P m ∧ AllP P a' := by
  have hp := heapExtractI_perm cmp a m a' h
  exact ⟨allP_iff.1 hP m (hp.mem_iff.2 List.mem_cons_self),
    allP_iff.2 fun y hy => allP_iff.1 hP y (hp.mem_iff.2 (List.mem_cons_of_mem _ hy))⟩

theorem heapMin_eq_some {a : Array α} {m : α} : heapMin a = some m ↔ ∃ h : 0 < a.size, a[0] = m :=
  Array.getElem?_eq_some_iff

theorem heapLe_root {le : α → α → Prop} {P : α → Prop}
    (hrefl : ∀ a, P a → le a a) (htrans : ∀ a b c, P a → P b → P c → le a b → le b c → le a c)
    (a : Array α) (hP : AllP P a) (hh : HeapLe le a) :
    ∀ k (hk : k < a.size), le (a[0]'(by omega)) a[k] := by
  intro k
  induction k using Nat.strongRecOn with
  | _ k ih =>
    intro hk
    rcases Nat.eq_zero_or_pos k with rfl | h0
    · exact hrefl _ (hP _ _)
    · exact htrans _ _ _ (hP _ _) (hP _ _) (hP _ hk) (ih _ (parent_lt h0) (parent_lt_size hk)) (hh k hk h0)

theorem heapLe_root_mem {le : α → α → Prop} {P : α → Prop}
    (hrefl : ∀ a, P a → le a a) (htrans : ∀ a b c, P a → P b → P c → le a b → le b c → le a c)
    (a : Array α) (hP : AllP P a) (hh : HeapLe le a) (h0 : 0 < a.size) :
    ∀ y ∈ a.toList, le a[0] y :=
  allP_iff.1 (heapLe_root hrefl htrans a hP hh)

/-! ### the root is not displaced by an insertion that is not before it -/

theorem siftUp_root (cmp : Cmp α) (x : α) (a : Array α) (i : Nat) (hi : i < a.size) :
    0 < i → (∀ n r, a[0]? = some r → cmp n x r = false) → (siftUp cmp x a i hi).1[0]? = a[0]? := by
  fun_induction siftUp cmp x a i hi with
  | case1 a hi => intro h; omega
  | case2 a i hi h0 hlt ih =>
    intro _ hx
    -- the hole does not reach the root: `x` is before the parent, hence the parent is not the root
    have hp0 : 0 < (i - 1) / 2 := by
      refine Nat.pos_of_ne_zero (fun h => ?_)
      exact Bool.false_ne_true ((hx i _ (by rw [← Array.getElem?_eq_getElem, h])).symm.trans hlt)
    have e0 {v : α} : (a.set i v)[0]? = a[0]? := Array.getElem?_set_ne hi h0
    exact (ih hp0 (fun n r hr => hx n r (e0.symm.trans hr))).trans e0
  | case3 a i hi h0 hlt => exact fun _ _ => Array.getElem?_set_ne hi h0

theorem heapInsertI_root (cmp : Cmp α) (a : Array α) (x : α) (h0 : 0 < a.size)
    (hx : ∀ n, cmp n x a[0] = false) : (heapInsertI cmp a x).1[0]? = a[0]? := by
  have e : (a.push x)[0]? = a[0]? := by
    rw [Array.getElem?_push_lt h0, Array.getElem?_eq_getElem h0]
  refine (siftUp_root cmp x (a.push x) a.size (by simp) h0 (fun n r hr => ?_)).trans e
  rw [e, Array.getElem?_eq_getElem h0, Option.some.injEq] at hr
  exact hr ▸ hx n

end RootSim.Heap
