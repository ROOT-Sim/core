import RootSim.Proofs.TimeWarpG
/-! From the invariant of the instrumented Time Warp machine to the two hypotheses of prefix uniqueness
under V2 (`Proofs/SpecV2.lean`): `Spec.Hist` (through the content-level invariant `TW.Inv` of the
projection) and `Spec.Progress` (through the ghost creation order; `CInv.progress`, stated for any cut of the
histories whose second parts lie above the bound, so that it also serves `Proofs/TimeWarpDProgress.lean`). -/
namespace RootSim.TWG
open RootSim RootSim.Spec RootSim.TW List

variable {σ : Type}

theorem forall_mem_nil {α : Type} {l : List α} (h : l = []) (P : α → Prop) : ∀ x ∈ l, P x := by
  subst h; nofun

/-- the per-LP histories (contents) of a state -/
def histOf (s : TWGState) : Nat → List Event := fun ℓ => evs (s.past ℓ)

theorem proj_past (s : TWGState) : (proj s).past = histOf s := rfl

section inv
variable {M : SimModel σ} {s : TWGState}

/-- I2 for tagged messages, as a permutation -/
theorem CInv.cntPerm (I : CInv M s) :
    (s.pending ++ restAllT M.nLps s.past).Perm (toutsAll M s.past ++ s.antis) := by
  rw [List.perm_iff_count]
  intro a
  rw [List.count_append, List.count_append]
  exact I.cnt a

/-- I2 for contents -/
theorem CInv.cntEv (I : CInv M s) (x : Event) :
    (s.pending.map TMsg.ev).count x + (restAll M.nLps (histOf s)).count x =
      (outsAll M (histOf s)).count x + (s.antis.map TMsg.ev).count x := by
  have hperm := (I.cntPerm.map TMsg.ev).count_eq x
  rw [List.map_append, List.map_append, restAllT_ev, toutsAll_ev, List.count_append,
    List.count_append] at hperm
  exact hperm

theorem CInv.hist_head (I : CInv M s) {ℓ : Nat} (hℓ : ℓ < M.nLps) :
    (histOf s ℓ).head? = some (initEv ℓ) := by
  show (evs (s.past ℓ)).head? = _
  unfold evs
  rw [List.head?_map, I.head ℓ hℓ]; rfl

theorem CInv.hist_dest (I : CInv M s) {ℓ : Nat} (hℓ : ℓ < M.nLps) :
    ∀ e ∈ (histOf s ℓ).tail, e.dest = ℓ ∧ e.type < LP_INIT := by
  intro e he
  change e ∈ (evs (s.past ℓ)).tail at he
  rw [← evs_tail] at he
  obtain ⟨u, hu, rfl⟩ := mem_evs.mp he
  exact I.dest ℓ hℓ u hu

theorem GInv.toInv (I : GInv M s) : TW.Inv M (proj s) := by
  refine ⟨?_, fun ℓ hℓ => I.core.hist_head hℓ, fun ℓ hℓ => I.core.hist_dest hℓ, ?_,
    List.forall_mem_map.mpr I.pendOk, List.forall_mem_map.mpr I.antiOk, I.core.cntEv⟩
  · intro ℓ hℓ
    show evs (s.past ℓ) = []
    rw [I.out ℓ hℓ]; rfl
  · intro ℓ hℓ
    show (evs (s.past ℓ)).tail.Pairwise _
    rw [← evs_tail]
    exact I.sorted ℓ hℓ

theorem GInv.hist (I : GInv M s) {g : Nat}
    (hp : ∀ x ∈ s.pending, g ≤ x.ev.t) (ha : ∀ x ∈ s.antis, g ≤ x.ev.t) : Hist M (histOf s) g :=
  I.toInv.hist (s := proj s) (List.forall_mem_map.mpr hp) (List.forall_mem_map.mpr ha)

end inv

theorem exists_min_nat {P : Nat → Prop} (h : ∃ n, P n) : ∃ n, P n ∧ ∀ m, P m → n ≤ m := by
  obtain ⟨n, hn⟩ := h
  induction n using Nat.strongRecOn with
  | _ n ih =>
    by_cases hmin : ∀ m, P m → n ≤ m
    · exact ⟨n, hn, hmin⟩
    · obtain ⟨m, hm⟩ := Classical.not_forall.mp hmin
      obtain ⟨hPm, hlt⟩ := Classical.not_imp.mp hm
      exact ih m (Nat.lt_of_not_le hlt) hPm

theorem count_evs_le_countP {L : List TEntry} {y : Event} {φ : TMsg → Bool}
    (h : ∀ w ∈ L, w.ev = y → φ w.msg = true) : (evs L).count y ≤ (L.map TEntry.msg).countP φ := by
  unfold evs
  rw [List.count_eq_countP, List.countP_map, List.countP_map]
  exact List.countP_mono_left (fun w hw hwy => h w hw (by simpa using hwy))

/-- **The machine's contribution under V2**, for any cut `s.past ℓ = C ℓ ++ R ℓ` of the histories whose second
parts `R ℓ` have no entry below the lower bound `g` of everything pending: whenever a sequential run has
followed the first parts so far and some event of them below `g` is not dispatched yet, a minimal such event is
pending in the sequential run.

Proof idea: among the not-yet-dispatched entries below `g` whose content is minimal for the event order,
take the one `u` that was processed FIRST in real time (step `τ`). Count the tagged messages with the
content `y` of `u` that were created before `τ`: those that are processed are at least the copies the
sequential run has dispatched plus `u` itself (entries stand in processing order, and are created before
they are processed); those that were sent come from invocations performed before `τ`, which by V2 are on
events not after `y`, hence below `g` and — by the choice of `u` — on entries the sequential run has already
dispatched; the two numbers agree by the tagged counting invariant (nothing with content `y` is pending or
cancelled: `y` is below `g`). So the sequential run has sent more copies of `y` than it has dispatched. -/
theorem CInv.progress {M : SimModel σ} (V : V2 M) {s : TWGState} (I : CInv M s) {g : Nat}
    (hp : ∀ x ∈ s.pending, g ≤ x.ev.t) (ha : ∀ x ∈ s.antis, g ≤ x.ev.t)
    {C R : Nat → List TEntry} (hCR : ∀ ℓ, s.past ℓ = C ℓ ++ R ℓ) (hR : ∀ ℓ, ∀ u ∈ R ℓ, g ≤ u.ev.t) :
    Progress M (fun ℓ => evs (C ℓ)) g := by
  intro q P hne
  -- `C ℓ = D ℓ ++ N ℓ`: the entries the sequential run has dispatched, and the others
  obtain ⟨D, N, hpast, hD, hrem⟩ : ∃ D N : Nat → List TEntry, (∀ ℓ, s.past ℓ = D ℓ ++ (N ℓ ++ R ℓ)) ∧
      (∀ ℓ, ℓ < M.nLps → evs (D ℓ) = q.disp ℓ) ∧
      (∀ ℓ, remOf (fun ℓ => evs (C ℓ)) q ℓ = evs (N ℓ)) :=
    ⟨fun ℓ => (C ℓ).take (q.disp ℓ).length, fun ℓ => (C ℓ).drop (q.disp ℓ).length,
      fun ℓ => by rw [← List.append_assoc, List.take_append_drop, hCR],
      fun ℓ hℓ => List.map_take.trans (List.prefix_iff_eq_take.mp (P.pre ℓ hℓ)).symm,
      fun ℓ => List.map_drop.symm⟩
  have hDne : ∀ ℓ, ℓ < M.nLps → D ℓ ≠ [] := fun ℓ hℓ h0 => P.ne ℓ hℓ (by rw [← hD ℓ hℓ, h0]; rfl)
  have htail : ∀ ℓ, ℓ < M.nLps → (s.past ℓ).tail = (D ℓ).tail ++ (N ℓ ++ R ℓ) := fun ℓ hℓ => by
    rw [hpast, List.tail_append_of_ne_nil (hDne ℓ hℓ)]
  have hdisp : ∀ ℓ, ℓ < M.nLps → ∀ x ∈ (q.disp ℓ).tail, x.dest = ℓ := fun ℓ hℓ x hx => by
    rw [← hD ℓ hℓ, ← evs_tail] at hx
    obtain ⟨w, hw, rfl⟩ := mem_evs.mp hx
    exact (I.dest ℓ hℓ w (by rw [htail ℓ hℓ]; exact List.mem_append_left _ hw)).1
  -- the candidates: steps at which a minimal not-yet-dispatched entry below `g` was processed
  have hcand : ∃ τ, ∃ ℓ, ℓ < M.nLps ∧ ∃ u ∈ N ℓ, u.ev.t < g ∧
      (∀ z ∈ remAll M (fun ℓ => evs (C ℓ)) g q, Event.before z u.ev = false) ∧ u.pr = τ := by
    obtain ⟨y, hyR, hymin⟩ := Event.exists_minimal _ hne
    obtain ⟨ℓ, hℓ, hyr, hyt⟩ := mem_remAll.mp hyR
    rw [hrem] at hyr
    obtain ⟨u, hu, rfl⟩ := mem_evs.mp hyr
    exact ⟨u.pr, ℓ, hℓ, u, hu, hyt, hymin, rfl⟩
  obtain ⟨τ, ⟨ℓ, hℓ, u, hu, hut, humin, hupr⟩, hτmin⟩ := exists_min_nat hcand
  have hutail : u ∈ (s.past ℓ).tail := by
    rw [htail ℓ hℓ]; exact List.mem_append_right _ (List.mem_append_left _ hu)
  have hdest : u.ev.dest = ℓ := (I.dest ℓ hℓ u hutail).1
  refine ⟨u.ev, mem_remAll.mpr ⟨ℓ, hℓ, by rw [hrem]; exact mem_evs.mpr ⟨u, hu, rfl⟩, hut⟩, humin, ?_⟩
  -- the tagged messages with the content of `u` created before step `τ`
  let φ : TMsg → Bool := fun m => decide (m.ev = u.ev) && decide (m.cr < τ)
  have hφ : ∀ m, φ m = true ↔ m.ev = u.ev ∧ m.cr < τ := by
    intro m; simp [φ]
  have hcp := I.cntPerm.countP_eq φ
  rw [List.countP_append, List.countP_append] at hcp
  have hzero : ∀ l : List TMsg, (∀ x ∈ l, g ≤ x.ev.t) → l.countP φ = 0 := fun l hl => by
    rw [List.countP_eq_zero]
    intro m hm hm'
    have := hl m hm
    rw [((hφ m).mp hm').1] at this
    exact Nat.not_lt.mpr this hut
  have hpend0 := hzero _ hp
  have hanti0 := hzero _ ha
  -- (1) processed: at least the dispatched copies and `u` itself
  have hlow : (q.disp ℓ).tail.count u.ev + 1 ≤ (restAllT M.nLps s.past).countP φ := by
    have h1 : ((s.past ℓ).tail.map TEntry.msg).countP φ ≤ (restAllT M.nLps s.past).countP φ :=
      add_single_le (additive_countP φ) (f := fun ℓ' => (s.past ℓ').tail.map TEntry.msg)
        (List.range M.nLps) (List.mem_range.mpr hℓ)
    have hinc := I.prInc ℓ
    rw [hpast, List.pairwise_append] at hinc
    have hR1 : 1 ≤ ((N ℓ ++ R ℓ).map TEntry.msg).countP φ :=
      List.countP_pos_iff.mpr ⟨u.msg, List.mem_map.mpr ⟨u, List.mem_append_left _ hu, rfl⟩,
        (hφ _).mpr ⟨rfl, hupr ▸ I.crLt ℓ u hutail⟩⟩
    have hDc : (q.disp ℓ).tail.count u.ev ≤ ((D ℓ).tail.map TEntry.msg).countP φ := by
      rw [← hD ℓ hℓ, ← evs_tail]
      refine count_evs_le_countP (fun w hw hwy => (hφ _).mpr ⟨hwy, ?_⟩)
      have h2 := I.crLt ℓ w (by rw [htail ℓ hℓ]; exact List.mem_append_left _ hw)
      have h3 := hinc.2.2 w (List.mem_of_mem_tail hw) u (List.mem_append_left _ hu)
      exact hupr ▸ Nat.lt_trans h2 h3
    rw [htail ℓ hℓ, List.map_append, List.countP_append] at h1
    exact Nat.le_trans (Nat.add_le_add hDc hR1) h1
  -- (2) sent: only by invocations the sequential run has performed too
  have hup : (toutsAll M s.past).countP φ ≤ (outsAll M q.disp).count u.ev := by
    refine add_flatMap_le (additive_countP φ) (additive_count u.ev)
      (f := fun ℓ' => touts M ℓ' (s.past ℓ')) (h := fun ℓ' => outs M ℓ' (q.disp ℓ')) _ (fun ℓ' hℓ' => ?_)
    have hℓ' := List.mem_range.mp hℓ'
    show (touts M ℓ' (s.past ℓ')).countP φ ≤ _
    rw [hpast, touts_append, List.countP_append, hD ℓ' hℓ']
    have h1 : (touts M ℓ' (D ℓ')).countP φ ≤ (outs M ℓ' (q.disp ℓ')).count u.ev := by
      rw [← hD ℓ' hℓ', ← touts_ev, List.count_eq_countP, List.countP_map]
      exact List.countP_mono_left (fun m _ hm => by simpa using ((hφ m).mp hm).1)
    have h2 : (toutsFrom M ℓ' (lpState M ℓ' (q.disp ℓ')) (N ℓ' ++ R ℓ')).countP φ = 0 := by
      rw [List.countP_eq_zero]
      intro m hm hm'
      obtain ⟨hmy, hmτ⟩ := (hφ m).mp hm'
      obtain ⟨P0, w, S0, hl, hcr, hout⟩ := mem_toutsFrom M ℓ' _ _ hm
      rw [hmy] at hout
      -- the invocation on `w` is not after `u`: below `g`, hence not in `R ℓ'`, and minimal
      have hV := (V ℓ' _ w.ev u.ev hout).1
      have hwt : w.ev.t < g := Nat.lt_of_le_of_lt (Event.t_le_of_not_before hV) hut
      have hwN : w ∈ N ℓ' := by
        rcases List.mem_append.mp (show w ∈ N ℓ' ++ R ℓ' by rw [hl]; simp) with h | h
        · exact h
        · exact absurd hwt (Nat.not_lt.mpr (hR ℓ' w h))
      have hwmin : ∀ z ∈ remAll M (fun ℓ => evs (C ℓ)) g q, Event.before z w.ev = false :=
        fun z hz => Event.not_before_trans (humin z hz) hV
      exact Nat.lt_irrefl _ (Nat.lt_of_lt_of_le (hcr ▸ hmτ) (hτmin w.pr ⟨ℓ', hℓ', w, hwN, hwt, hwmin, rfl⟩))
    rw [h2]; exact h1
  -- (3) the sequential run's own counting
  have hcq := P.cnt u.ev
  have hrq := count_restAll hdisp (x := u.ev) (hdest ▸ hℓ)
  rw [hdest] at hrq
  exact List.count_pos_iff.mp (by omega)

/-- The instance for the whole histories: in a state that satisfies the invariant, with a lower bound `g`
of everything pending: whenever a sequential run has followed the histories so far and some event of the
histories below `g` is not dispatched yet, a minimal such event is pending in the sequential run. -/
theorem GInv.progress {M : SimModel σ} (V : V2 M) {s : TWGState} (I : GInv M s) {g : Nat}
    (hp : ∀ x ∈ s.pending, g ≤ x.ev.t) (ha : ∀ x ∈ s.antis, g ≤ x.ev.t) :
    Progress M (histOf s) g :=
  I.core.progress V hp ha (C := s.past) (R := fun _ => []) (fun _ => (List.append_nil _).symm)
    (fun _ _ h => nomatch h)

/-- a state with nothing pending and no anti-message whose histories satisfy H1–H3 IS a final state of a
sequential run -/
theorem CInv.quiescent_sequential {M : SimModel σ} (V : V2 M) {s : TWGState} (I : CInv M s)
    (hp : s.pending = []) (ha : s.antis = []) (H : ∀ g, Hist M (histOf s) g) :
    ∃ q, Spec.Reachable M q ∧ q.pending = [] ∧ ∀ ℓ, ℓ < M.nLps → q.disp ℓ = histOf s ℓ := by
  refine Spec.quiescent_sequential (fun g => .of_V2 (H g) V ?_) fun x => ?_
  · exact I.progress V (forall_mem_nil hp _) (forall_mem_nil ha _) (C := s.past) (R := fun _ => [])
      (fun _ => (List.append_nil _).symm) (fun _ _ h => nomatch h)
  · have hi := I.cntEv x
    rwa [hp, ha, List.map_nil, List.count_nil, Nat.zero_add, Nat.add_zero] at hi

theorem GInv.quiescent_sequential {M : SimModel σ} (V : V2 M) {s : TWGState} (I : GInv M s)
    (hp : s.pending = []) (ha : s.antis = []) :
    ∃ q, Spec.Reachable M q ∧ q.pending = [] ∧ ∀ ℓ, ℓ < M.nLps → q.disp ℓ = histOf s ℓ :=
  I.core.quiescent_sequential V hp ha (fun _ => I.hist (forall_mem_nil hp _) (forall_mem_nil ha _))

end RootSim.TWG
