import RootSim.Model.Rand
/-!
The output function of xoshiro256** (`s1 ↦ rotl(s1 * 5, 7) * 9` on 64 bits) is onto:
`craftS1 u` is a preimage of `u`.  Hence every raw output `u < 2^64` is produced by some
generator state, which is what the harness uses to drive `Random()` with chosen raw outputs.
-/
namespace RootSim.Rand

/-- a rotation of an `(a + b)`-bit word by `a` to the left, as arithmetic: the low `b` bits move
up, the high `a` bits come down -/
theorem rot_eq (x a b : Nat) (hx : x < 2 ^ (a + b)) :
    (x <<< a) % 2 ^ (a + b) ||| x >>> b = 2 ^ a * (x % 2 ^ b) + x / 2 ^ b := by
  have hhi : x / 2 ^ b < 2 ^ a := Nat.div_lt_of_lt_mul (by rwa [Nat.mul_comm, ← Nat.pow_add])
  rw [Nat.shiftLeft_eq, Nat.shiftRight_eq_div_pow, Nat.pow_add, Nat.mul_comm x,
    Nat.mul_mod_mul_left]
  exact (Nat.two_pow_add_eq_or_of_lt hhi _).symm

theorem rotl7_eq (y : Nat) (hy : y < 2 ^ 64) : rotl y 7 = 2 ^ 7 * (y % 2 ^ 57) + y / 2 ^ 57 :=
  rot_eq y 7 57 hy

theorem rotr7_eq (x : Nat) (hx : x < 2 ^ 64) : rotr x 7 = 2 ^ 57 * (x % 2 ^ 7) + x / 2 ^ 7 := by
  unfold rotr
  rw [Nat.or_comm]
  exact rot_eq x 57 7 hx

theorem mul_add_div_mod {b lo hi : Nat} (h : hi < 2 ^ b) :
    (2 ^ b * lo + hi) / 2 ^ b = lo ∧ (2 ^ b * lo + hi) % 2 ^ b = hi := by
  constructor
  · rw [Nat.mul_add_div (Nat.two_pow_pos b), Nat.div_eq_of_lt h, Nat.add_zero]
  · rw [Nat.mul_add_mod, Nat.mod_eq_of_lt h]

theorem rotr7_lt (x : Nat) (hx : x < 2 ^ 64) : rotr x 7 < 2 ^ 64 := by
  rw [rotr7_eq x hx]
  omega

theorem rotl_rotr7 (x : Nat) (hx : x < 2 ^ 64) : rotl (rotr x 7) 7 = x := by
  have hhi : x / 2 ^ 7 < 2 ^ 57 := Nat.div_lt_of_lt_mul hx
  rw [rotl7_eq _ (rotr7_lt x hx), rotr7_eq x hx, (mul_add_div_mod hhi).1, (mul_add_div_mod hhi).2]
  exact Nat.div_add_mod x (2 ^ 7)

/-- multiplying by `d` on `M`-bit words undoes multiplying by its inverse `c` -/
theorem mul_inv_mod {c d M R : Nat} (h : c * d % M = 1) (hR : R < M) : c * R % M * d % M = R := by
  rw [Nat.mod_mul_mod, Nat.mul_right_comm, Nat.mul_mod, h, Nat.one_mul, Nat.mod_mod,
    Nat.mod_eq_of_lt hR]

/-- **every raw output is reachable**: with `state[1] = craftS1 u` the next raw output is `u` -/
theorem craft_output (u s0 s2 s3 : Nat) (hu : u < 2 ^ 64) :
    (xoshiroNext ⟨s0, craftS1 u, s2, s3⟩).1 = u := by
  unfold xoshiroNext craftS1
  simp only
  rw [mul_inv_mod (by decide) (rotr7_lt _ (Nat.mod_lt _ (Nat.two_pow_pos 64))),
    rotl_rotr7 _ (Nat.mod_lt _ (Nat.two_pow_pos 64)), mul_inv_mod (by decide) hu]

end RootSim.Rand
