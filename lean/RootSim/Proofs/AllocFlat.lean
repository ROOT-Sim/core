import RootSim.Proofs.AllocTree
/-! `BT.flatten` (the C array `longest[]`) determines the tree: copying `longest[]` into a checkpoint and
back (what `checkpoint_full_take` / `checkpoint_full_restore` do) is the same as copying the tree (what the
model's `BCkpt.tree` does). -/
namespace RootSim.Alloc
namespace BT

theorem row_length (k : Nat) (t : BT) (d : Nat) : (row k t d).length = 2 ^ d := by
  induction d generalizing k t with
  | zero => simp [row]
  | succ d ih =>
    cases t with
    | free => simp [row]
    | alloc => simp [row]
    | split l r => simp only [row, List.length_append, ih, Nat.two_pow_succ]

theorem flatten_length (T B : Nat) (t : BT) : (flatten T B t).length = 2 ^ (T - B + 1) := by
  unfold flatten
  have : ∀ n, ((List.range n).flatMap (t.row T)).length + 1 = 2 ^ n := by
    intro n
    induction n with
    | zero => simp
    | succ n ih =>
      rw [List.range_succ, List.flatMap_append, List.length_append, List.flatMap_singleton, row_length,
        Nat.two_pow_succ, ← ih, Nat.add_right_comm]
  rw [List.length_append, List.length_singleton]; exact this _

theorem rows_eq_of_flatMap_eq {k : Nat} {t1 t2 : BT} {n : Nat}
    (h : (List.range n).flatMap (t1.row k) = (List.range n).flatMap (t2.row k)) :
    ∀ d, d < n → t1.row k d = t2.row k d := by
  induction n with
  | zero => exact fun d hd => absurd hd (Nat.not_lt_zero d)
  | succ n ih =>
    rw [List.range_succ, List.flatMap_append, List.flatMap_append] at h
    simp only [List.flatMap_cons, List.flatMap_nil, List.append_nil] at h
    have hlen : (t1.row k n).length = (t2.row k n).length := by rw [row_length, row_length]
    obtain ⟨h1, h2⟩ := List.append_inj' h hlen
    intro d hd
    by_cases hdn : d = n
    · subst hdn; exact h2
    · exact ih h1 d (Nat.lt_of_le_of_ne (Nat.le_of_lt_succ hd) hdn)

/-- below an allocated node the array keeps the full values; below a split node it cannot, because the
children are not both free -/
theorem row_one_split {B k l r} (hB : 0 < B) (hl : WF B k l) (hr : WF B k r) (hn : ¬(l = free ∧ r = free)) :
    row (k + 1) (split l r) 1 ≠ row (k + 1) alloc 1 := by
  intro h
  have h' : [longest k l, longest k r] = [k, k] := h
  rw [List.cons.injEq, List.cons.injEq] at h'
  exact hn ⟨(longest_eq_iff hB hl).1 h'.1, (longest_eq_iff hB hr).1 h'.2.1⟩

theorem succ_le_succ_sub {B k d : Nat} (hk : B ≤ k) (hd : d ≤ k - B) : d + 1 ≤ k + 1 - B :=
  Nat.le_sub_of_add_le' (Nat.succ_le_succ (Nat.add_le_of_le_sub' hk hd))

theorem eq_of_rows_eq {B : Nat} (hB : 0 < B) {k : Nat} {t1 t2 : BT} (h1 : WF B k t1) (h2 : WF B k t2)
    (h : ∀ d, d ≤ k - B → t1.row k d = t2.row k d) : t1 = t2 := by
  induction k, t1, h1 using WF.induction generalizing t2 with
  | free k hk =>
    have h0 : [k] = [longest k t2] := h 0 (Nat.zero_le _)
    exact ((longest_eq_iff hB h2).1 (List.singleton_inj.1 h0).symm).symm
  | alloc k hk =>
    have h0 : [0] = [longest k t2] := h 0 (Nat.zero_le _)
    cases t2 with
    | free => exact absurd (List.singleton_inj.1 h0) (Nat.ne_of_lt (Nat.lt_of_lt_of_le hB hk))
    | alloc => rfl
    | split l r =>
      cases k with
      | zero => exact h2.elim
      | succ k =>
        exact absurd (h 1 (succ_le_succ_sub h2.1.le (Nat.zero_le _))).symm (row_one_split hB h2.1 h2.2.1 h2.2.2)
  | split k l1 r1 hl hr hn ihl ihr =>
    have hk := hl.le
    cases t2 with
    | free =>
      have h0 : [longest (k + 1) (split l1 r1)] = [k + 1] := h 0 (Nat.zero_le _)
      exact absurd (List.singleton_inj.1 h0) (Nat.ne_of_lt (longest_split_lt ⟨hl, hr, hn⟩))
    | alloc => exact absurd (h 1 (succ_le_succ_sub hk (Nat.zero_le _))) (row_one_split hB hl hr hn)
    | split l2 r2 =>
      have hrows : ∀ d, d ≤ k - B → l1.row k d = l2.row k d ∧ r1.row k d = r2.row k d := fun d hd =>
        List.append_inj (h (d + 1) (succ_le_succ_sub hk hd))
          (by rw [row_length, row_length])
      rw [ihl h2.1 fun d hd => (hrows d hd).1, ihr h2.2.1 fun d hd => (hrows d hd).2]

/-- the array `longest[]` determines the tree -/
theorem flatten_injective {B T : Nat} (hB : 0 < B) {t1 t2 : BT} (h1 : WF B T t1) (h2 : WF B T t2)
    (h : flatten T B t1 = flatten T B t2) : t1 = t2 := by
  unfold flatten at h
  have h' := List.append_cancel_right h
  exact eq_of_rows_eq hB h1 h2 (fun d hd => rows_eq_of_flatMap_eq h' d (Nat.lt_succ_of_le hd))

end BT
end RootSim.Alloc
