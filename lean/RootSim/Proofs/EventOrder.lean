import RootSim.Model.Sim
import RootSim.Props.C16
/-! The event order `Event.before` is a strict weak order whose incomparability classes are
"equal up to the destination LP" (lifted from C16 through `Event.toMsg`); existence of minimal
elements in finite lists. -/
namespace RootSim
namespace Event

theorem toMsg_WF (e : Event) : e.toMsg.WF := by simp [Msg.WF, Event.toMsg]

theorem before_irrefl (a : Event) : Event.before a a = false := C16.irrefl _

theorem before_asymm {a b : Event} (h : Event.before a b = true) : Event.before b a = false :=
  C16.asymm _ _ h

theorem before_trans {a b c : Event} (h1 : Event.before a b = true) (h2 : Event.before b c = true) :
    Event.before a c = true :=
  C16.trans _ _ _ a.toMsg_WF b.toMsg_WF c.toMsg_WF h1 h2

theorem before_of_t_lt {a b : Event} (h : a.t < b.t) : Event.before a b = true := by
  simp [Event.before, isBefore, Event.toMsg, h]

theorem not_before_of_t_lt {a b : Event} (h : a.t < b.t) : Event.before b a = false :=
  before_asymm (before_of_t_lt h)

theorem t_le_of_before {a b : Event} (h : Event.before a b = true) : a.t ≤ b.t := by
  unfold Event.before at h
  rw [isBefore_iff] at h
  simp only [Event.toMsg] at h
  omega

theorem t_le_of_not_before {a b : Event} (h : Event.before b a = false) : a.t ≤ b.t := by
  apply Nat.le_of_not_lt
  intro hlt
  rw [before_of_t_lt hlt] at h
  exact Bool.noConfusion h

theorem incomp_trans {a b c : Event} (h1 : Event.before a b = false) (h1' : Event.before b a = false)
    (h2 : Event.before b c = false) (h2' : Event.before c b = false) :
    Event.before a c = false ∧ Event.before c a = false :=
  C16.incomp_trans _ _ _ a.toMsg_WF b.toMsg_WF c.toMsg_WF ⟨h1, h1'⟩ ⟨h2, h2'⟩

theorem not_before_trans {a b c : Event} (h1 : Event.before a b = false)
    (h2 : Event.before b c = false) : Event.before a c = false :=
  C16.ntrans _ _ _ a.toMsg_WF b.toMsg_WF c.toMsg_WF h1 h2

/-- what the event order can see of an event: everything but the destination -/
def content (e : Event) : Nat × Nat × List Nat := (e.t, e.type, e.payload)

theorem incomp_content (a b : Event) (h1 : Event.before a b = false) (h2 : Event.before b a = false) :
    a.content = b.content := by
  have := (C16.incomp_iff_content_eq a.toMsg b.toMsg a.toMsg_WF b.toMsg_WF).1 ⟨h1, h2⟩
  simp only [Msg.content, Event.toMsg, Msg.body, Prod.mk.injEq, List.take_length] at this
  simp only [Event.content, this.1, this.2.2.1, this.2.2.2.2]

theorem eq_of_incomp {a b : Event} (h1 : Event.before a b = false) (h2 : Event.before b a = false)
    (hd : a.dest = b.dest) : a = b := by
  have := incomp_content a b h1 h2
  cases a; cases b; simp_all [Event.content]

/-- the messages of events that differ at most in the destination have the same content -/
theorem toMsg_content_congr {a b : Event} (ht : a.t = b.t) (hty : a.type = b.type)
    (hpl : a.payload = b.payload) : a.toMsg.content = b.toMsg.content := by
  simp [Msg.content, Event.toMsg, Msg.anti, Msg.body, ht, hty, hpl]

theorem not_before_same {a b : Event} (ht : a.t = b.t) (hty : a.type = b.type)
    (hpl : a.payload = b.payload) : Event.before a b = false :=
  (C16.content_only a.toMsg b.toMsg b.toMsg b.toMsg (toMsg_content_congr ht hty hpl) rfl).trans
    (C16.irrefl _)

theorem exists_minimal : ∀ (l : List Event), l ≠ [] →
    ∃ y ∈ l, ∀ z ∈ l, Event.before z y = false := by
  intro l hne
  induction l with
  | nil => exact absurd rfl hne
  | cons a l ih =>
    by_cases hl : l = []
    · subst hl
      exact ⟨a, List.mem_cons_self, fun z hz => by
        rw [List.mem_singleton.mp hz]; exact before_irrefl a⟩
    · obtain ⟨y, hy, hmin⟩ := ih hl
      cases hay : Event.before a y with
      | true =>
        refine ⟨a, List.mem_cons_self, fun z hz => ?_⟩
        rcases List.mem_cons.mp hz with rfl | hz
        · exact before_irrefl _
        · cases hza : Event.before z a with
          | false => rfl
          | true => have := hmin z hz; rw [before_trans hza hay] at this; exact Bool.noConfusion this
      | false =>
        refine ⟨y, List.mem_cons_of_mem _ hy, fun z hz => ?_⟩
        rcases List.mem_cons.mp hz with rfl | hz
        · exact hay
        · exact hmin z hz

end Event
end RootSim
