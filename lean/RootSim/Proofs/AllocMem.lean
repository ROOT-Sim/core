import RootSim.Model.Alloc
/-! Byte-level lemmas: `writeAt` / `readAt` pointwise, the checkpoint copy loops. -/
namespace RootSim.Alloc

theorem writeAt_length {mem : List Nat} {o : Nat} {bs : List Nat} (h : o + bs.length ≤ mem.length) :
    (writeAt mem o bs).length = mem.length := by
  rw [writeAt, List.length_append, List.length_append, List.length_drop,
    List.length_take_of_le (Nat.le_trans (Nat.le_add_right _ _) h), Nat.add_sub_of_le h]

theorem writeAt_get {mem : List Nat} {o : Nat} {bs : List Nat} (h : o + bs.length ≤ mem.length) (i : Nat) :
    (writeAt mem o bs)[i]? = if o ≤ i ∧ i < o + bs.length then bs[i - o]? else mem[i]? := by
  have ht : (mem.take o).length = o := List.length_take_of_le (Nat.le_trans (Nat.le_add_right _ _) h)
  rw [writeAt, List.append_assoc]
  -- `i` lies before, inside or behind the written range; written as `o + d`, `o + (|bs| + d')` there
  by_cases h1 : i < o
  · rw [List.getElem?_append_left (ht.symm ▸ h1), List.getElem?_take_of_lt h1,
      if_neg fun q => Nat.not_le.2 h1 q.1]
  · obtain ⟨d, rfl⟩ := Nat.exists_eq_add_of_le (Nat.le_of_not_lt h1)
    rw [List.getElem?_append_right (ht.symm ▸ Nat.le_add_right o d), ht, Nat.add_sub_cancel_left]
    by_cases h2 : d < bs.length
    · rw [List.getElem?_append_left h2, if_pos ⟨Nat.le_add_right o d, Nat.add_lt_add_left h2 o⟩]
    · obtain ⟨d', rfl⟩ := Nat.exists_eq_add_of_le (Nat.le_of_not_lt h2)
      rw [List.getElem?_append_right (Nat.le_add_right _ _), Nat.add_sub_cancel_left, List.getElem?_drop,
        if_neg fun q => h2 (Nat.lt_of_add_lt_add_left q.2), Nat.add_assoc]

theorem readAt_get (mem : List Nat) (o len i : Nat) :
    (readAt mem o len)[i]? = if i < len then mem[o + i]? else none := by
  simp only [readAt, List.getElem?_take, List.getElem?_drop]

theorem readAt_length {mem : List Nat} {o len : Nat} (h : o + len ≤ mem.length) :
    (readAt mem o len).length = len := by
  rw [readAt, List.length_take, List.length_drop, Nat.min_eq_left (Nat.le_sub_of_add_le' h)]

theorem readAt_ext {m1 m2 : List Nat} {o len : Nat}
    (h : ∀ i, o ≤ i → i < o + len → m1[i]? = m2[i]?) : readAt m1 o len = readAt m2 o len := by
  apply List.ext_getElem?
  intro i
  rw [readAt_get, readAt_get]
  split
  · exact h _ (Nat.le_add_right o i) (Nat.add_lt_add_left ‹_› o)
  · rfl

theorem readAt_writeAt_same {mem : List Nat} {o : Nat} {bs : List Nat} (h : o + bs.length ≤ mem.length) :
    readAt (writeAt mem o bs) o bs.length = bs := by
  apply List.ext_getElem?
  intro i
  rw [readAt_get, writeAt_get h]
  by_cases hi : i < bs.length
  · rw [if_pos hi, if_pos ⟨Nat.le_add_right o i, Nat.add_lt_add_left hi o⟩, Nat.add_sub_cancel_left]
  · rw [if_neg hi, List.getElem?_eq_none (Nat.le_of_not_lt hi)]

/-- one step of the copy-back loop: the region `r` of `m` is overwritten with that of `src` -/
theorem writeAt_readAt_get {src m : List Nat} {r : Nat × Nat} (hl : m.length = src.length)
    (hr : r.1 + r.2 ≤ src.length) (i : Nat) :
    (writeAt m r.1 (readAt src r.1 r.2))[i]? = if r.1 ≤ i ∧ i < r.1 + r.2 then src[i]? else m[i]? := by
  have hlen := readAt_length hr
  rw [writeAt_get (by rw [hlen, hl]; exact hr), hlen]
  split
  · rename_i q
    rw [readAt_get, if_pos ((Nat.sub_lt_iff_lt_add' q.1).2 q.2), Nat.add_sub_of_le q.1]
  · rfl

def inRegions (R : List (Nat × Nat)) (i : Nat) : Prop := ∃ r ∈ R, r.1 ≤ i ∧ i < r.1 + r.2

theorem inRegions_cons {r : Nat × Nat} {R : List (Nat × Nat)} {i : Nat} :
    inRegions (r :: R) i ↔ (r.1 ≤ i ∧ i < r.1 + r.2) ∨ inRegions R i := by
  simp [inRegions]

/-- Copying the regions `R` of `src` into a checkpoint and back into `m` (the two `buddy_tree_visit`
loops of `checkpoint_full_take` / `checkpoint_full_restore`) makes `m` agree with `src` on the
regions and leaves every other byte alone. -/
theorem restoreMem_saved (R : List (Nat × Nat)) (src m : List Nat) (hl : m.length = src.length)
    (hR : ∀ r ∈ R, r.1 + r.2 ≤ src.length) :
    let m' := restoreMem m R (R.flatMap fun r => readAt src r.1 r.2)
    m'.length = m.length ∧
      ∀ i, (inRegions R i → m'[i]? = src[i]?) ∧ (¬ inRegions R i → m'[i]? = m[i]?) := by
  induction R generalizing m with
  | nil => simp [restoreMem, inRegions]
  | cons r R ih =>
    have hr := hR r List.mem_cons_self
    have hlen : (readAt src r.1 r.2).length = r.2 := readAt_length hr
    have hw : r.1 + (readAt src r.1 r.2).length ≤ m.length := by rw [hlen, hl]; exact hr
    simp only [List.flatMap_cons, restoreMem]
    rw [List.take_left' hlen, List.drop_left' hlen]
    -- a byte of a later region is written last, so the later regions are looked at first
    obtain ⟨l1, l2⟩ := ih (writeAt m r.1 (readAt src r.1 r.2)) (by rw [writeAt_length hw, hl])
      (fun x hx => hR x (List.mem_cons_of_mem _ hx))
    refine ⟨by rw [l1, writeAt_length hw], fun i => ?_⟩
    rw [inRegions_cons]
    by_cases hin : inRegions R i
    · exact ⟨fun _ => (l2 i).1 hin, fun hn => absurd (Or.inr hin) hn⟩
    · rw [(l2 i).2 hin, writeAt_readAt_get hl hr]
      by_cases hr' : r.1 ≤ i ∧ i < r.1 + r.2
      · exact ⟨fun _ => if_pos hr', fun hn => absurd (Or.inl hr') hn⟩
      · exact ⟨fun hp => absurd hp (not_or.2 ⟨hr', hin⟩), fun _ => if_neg hr'⟩

theorem saved_length {R : List (Nat × Nat)} {src : List Nat} (hR : ∀ r ∈ R, r.1 + r.2 ≤ src.length) :
    (R.flatMap fun r => readAt src r.1 r.2).length = (R.map (·.2)).sum := by
  induction R with
  | nil => rfl
  | cons r R ih =>
    simp only [List.flatMap_cons, List.length_append, List.map_cons, List.sum_cons]
    rw [readAt_length (hR r List.mem_cons_self), ih (fun x hx => hR x (List.mem_cons_of_mem _ hx))]

end RootSim.Alloc
