import RootSim.Model.Msg
/-!
The event order (C16) is lexicographic: `r x y ∨ x = y ∧ p`, an order `r` on the first component and a
proposition `p` about the rest. The three laws of a strict weak order are proved once for this shape and
used at every level: time stamp, anti flag, type, size, and byte after byte inside `memcmp`.
-/
namespace RootSim

theorem lex_trans {κ : Type} (r : κ → κ → Prop) (hr : ∀ {x y z}, r x y → r y z → r x z) {x y z : κ}
    {p q pq : Prop} (hs : p → q → pq) :
    (r x y ∨ x = y ∧ p) → (r y z ∨ y = z ∧ q) → (r x z ∨ x = z ∧ pq)
  | .inl h, .inl h' => .inl (hr h h')
  | .inl h, .inr ⟨e, _⟩ => .inl (e ▸ h)
  | .inr ⟨e, _⟩, .inl h' => .inl (e ▸ h')
  | .inr ⟨e, h⟩, .inr ⟨e', h'⟩ => .inr ⟨e.trans e', hs h h'⟩

theorem lex_asymm {κ : Type} (r : κ → κ → Prop) (hr : ∀ {x y}, r x y → ¬ r y x) {x y : κ}
    {p q : Prop} (hs : p → ¬ q) : (r x y ∨ x = y ∧ p) → ¬ (r y x ∨ y = x ∧ q) := by
  rintro (h | ⟨rfl, h⟩) (h' | ⟨_, h'⟩)
  · exact hr h h'
  · subst_vars; exact hr h h
  · exact hr h' h'
  · exact hs h h'

/-- incomparable in a lexicographic order over a total first component: first components equal, rests
incomparable -/
theorem lex_incomp {κ : Type} (r : κ → κ → Prop) (hr : ∀ {x y}, ¬ r x y → ¬ r y x → x = y) {x y : κ}
    {p q : Prop} (h : ¬ (r x y ∨ x = y ∧ p)) (h' : ¬ (r y x ∨ y = x ∧ q)) : x = y ∧ ¬ p ∧ ¬ q :=
  have e : x = y := hr (fun c => h (.inl c)) (fun c => h' (.inl c))
  ⟨e, fun c => h (.inr ⟨e, c⟩), fun c => h' (.inr ⟨e.symm, c⟩)⟩

/-- the same shape computed: `if x ≠ y then r x y else rest`, as the comparison functions are written -/
theorem lex_ite {κ : Type} [DecidableEq κ] {x y : κ} {r : Prop} [Decidable r] (hr : r → x ≠ y) (p : Bool) :
    (if x ≠ y then decide r else p) = true ↔ r ∨ x = y ∧ p = true := by
  by_cases h : x = y
  · rw [if_neg (not_not_intro h)]
    exact ⟨fun hp => .inr ⟨h, hp⟩, fun | .inl g => absurd h (hr g) | .inr ⟨_, hp⟩ => hp⟩
  · rw [if_pos h, decide_eq_true_iff]
    exact ⟨.inl, fun | .inl g => g | .inr ⟨e, _⟩ => absurd e h⟩

theorem lt_tri {x y : Nat} (h : ¬ x < y) (h' : ¬ y < x) : x = y :=
  Nat.le_antisymm (Nat.not_lt.1 h') (Nat.not_lt.1 h)

theorem memcmpGt_cons (a b : Nat) (as bs : List Nat) :
    memcmpGt (a :: as) (b :: bs) = true ↔ a > b ∨ a = b ∧ memcmpGt as bs = true := by
  rw [memcmpGt, ← ite_not]
  exact lex_ite Nat.ne_of_gt _

theorem memcmpGt_irrefl (x : List Nat) : memcmpGt x x = false := by
  induction x with
  | nil => rfl
  | cons a as ih => simp [memcmpGt, ih]

theorem memcmpGt_asymm : ∀ (x y : List Nat), memcmpGt x y = true → ¬ memcmpGt y x = true
  | [], _, h | _ :: _, [], h => by simp [memcmpGt] at h
  | a :: as, b :: bs, h => by
    rw [memcmpGt_cons] at h ⊢
    exact lex_asymm (· > ·) Nat.lt_asymm (memcmpGt_asymm as bs) h

/-- no hypothesis on the lengths: the first position where `x` and `z` differ is the smaller of the
positions where `x`, `y` and `y`, `z` do -/
theorem memcmpGt_trans : ∀ (x y z : List Nat), memcmpGt x y = true → memcmpGt y z = true →
    memcmpGt x z = true
  | [], _, _, h, _ | _ :: _, [], _, h, _ | _ :: _, _ :: _, [], _, h => by simp [memcmpGt] at h
  | a :: as, b :: bs, c :: cs, h1, h2 => by
    rw [memcmpGt_cons] at h1 h2 ⊢
    exact lex_trans (· > ·) (fun h h' => Nat.lt_trans h' h) (memcmpGt_trans as bs cs) h1 h2

/-- On byte strings of equal length `memcmp` is a *total* order: incomparable ⇒ equal. -/
theorem memcmpGt_total : ∀ (x y : List Nat), x.length = y.length →
    ¬ memcmpGt x y = true → ¬ memcmpGt y x = true → x = y
  | [], [], _, _, _ => rfl
  | [], _ :: _, l, _, _ | _ :: _, [], l, _, _ => by simp at l
  | a :: as, b :: bs, l, h1, h2 => by
    rw [memcmpGt_cons] at h1 h2
    obtain ⟨rfl, h1, h2⟩ := lex_incomp (· > ·) (fun h h' => lt_tri h' h) h1 h2
    rw [memcmpGt_total as bs (Nat.succ.inj l) h1 h2]

theorem Msg.body_length (m : Msg) (h : m.WF) : m.body.length = m.plSize := by
  unfold Msg.body Msg.WF at *; simp [List.length_take]; omega

/-- Prop-level reading of `msg_is_before_extended` as a lexicographic order. -/
theorem isBeforeExt_iff (a b : Msg) : isBeforeExt a b = true ↔
    (a.anti > b.anti ∨ (a.anti = b.anti ∧ (a.mType > b.mType ∨ (a.mType = b.mType ∧
      (a.plSize < b.plSize ∨ (a.plSize = b.plSize ∧ memcmpGt a.body b.body = true)))))) := by
  unfold isBeforeExt
  rw [lex_ite Nat.ne_of_gt, lex_ite Nat.ne_of_gt, lex_ite Nat.ne_of_lt]

theorem isBefore_iff (a b : Msg) : isBefore a b = true ↔
    (a.destT < b.destT ∨ (a.destT = b.destT ∧
    (a.anti > b.anti ∨ (a.anti = b.anti ∧ (a.mType > b.mType ∨ (a.mType = b.mType ∧
      (a.plSize < b.plSize ∨ (a.plSize = b.plSize ∧ memcmpGt a.body b.body = true)))))))) := by
  unfold isBefore
  rw [Bool.or_eq_true, Bool.and_eq_true, isBeforeExt_iff]; simp

/-- the order is transitive on all messages, well-formed or not -/
theorem isBefore_trans (a b c : Msg) (h1 : isBefore a b = true) (h2 : isBefore b c = true) :
    isBefore a c = true := by
  rw [isBefore_iff] at h1 h2 ⊢
  exact lex_trans (· < ·) Nat.lt_trans (lex_trans (· > ·) (fun h h' => Nat.lt_trans h' h)
    (lex_trans (· > ·) (fun h h' => Nat.lt_trans h' h)
      (lex_trans (· < ·) Nat.lt_trans (memcmpGt_trans _ _ _)))) h1 h2

end RootSim
