import RootSim.Model.GvtGlobal
/-!
# `Model/GvtGlobal.lean`: values (`Le`, `OLe`, `omin`), `upd`, and the step relation against the executable `step`
-/
namespace RootSim.GvtGlobal


@[simp] theorem le_none (g : Nat) : Le g none := by intro y h; cases h
@[simp] theorem le_some (g v : Nat) : Le g (some v) ↔ g ≤ v := by
  constructor
  · intro h; exact h v rfl
  · intro h y hy; cases hy; exact h

theorem le_omin (g : Nat) (a b : Option Nat) : Le g (omin a b) ↔ Le g a ∧ Le g b := by
  cases a with
  | none => exact ⟨fun h => ⟨le_none g, h⟩, fun h => h.2⟩
  | some x =>
    cases b with
    | none => exact ⟨fun h => ⟨h, le_none g⟩, fun h => h.1⟩
    | some y => show Le g (some (min x y)) ↔ _; rw [le_some, le_some, le_some, Nat.le_min]

theorem le_lmin (g : Nat) (l : List Nat) : Le g (lmin l) ↔ ∀ x ∈ l, g ≤ x := by
  induction l with
  | nil => simp [lmin]
  | cons a l ih => simp [lmin, le_omin, ih]

theorem le_ominL (g : Nat) (l : List (Option Nat)) : Le g (ominL l) ↔ ∀ v ∈ l, Le g v := by
  induction l with
  | nil => simp [ominL]
  | cons a l ih => simp [ominL, le_omin, ih]

@[simp] theorem ole_none (x : Nat) : ¬ OLe none x := by rintro ⟨y, h, _⟩; cases h
@[simp] theorem ole_some (v x : Nat) : OLe (some v) x ↔ v ≤ x := by
  constructor
  · rintro ⟨y, h, hy⟩; cases h; exact hy
  · intro h; exact ⟨v, rfl, h⟩

theorem ole_omin (a b : Option Nat) (x : Nat) : OLe (omin a b) x ↔ OLe a x ∨ OLe b x := by
  cases a with
  | none => exact ⟨Or.inr, fun h => h.elim (fun h => absurd h (ole_none x)) id⟩
  | some y =>
    cases b with
    | none => exact ⟨Or.inl, fun h => h.elim id (fun h => absurd h (ole_none x))⟩
    | some z => show OLe (some (min y z)) x ↔ _; rw [ole_some, ole_some, ole_some, Std.min_le]

theorem le_ole_trans {g : Nat} {v : Option Nat} {x : Nat} (h1 : Le g v) (h2 : OLe v x) : g ≤ x := by
  obtain ⟨y, hy, hyx⟩ := h2
  exact Nat.le_trans (h1 y hy) hyx

theorem ole_trans {v : Option Nat} {x y : Nat} (h1 : OLe v x) (h2 : x ≤ y) : OLe v y := by
  obtain ⟨z, hz, hzx⟩ := h1
  exact ⟨z, hz, Nat.le_trans hzx h2⟩

/-- `v ≤ x` iff every `g ≤ v` is `≤ x` -/
theorem ole_of_forall_le {v : Option Nat} {x : Nat} (h : ∀ g, Le g v → g ≤ x) : OLe v x := by
  cases v with
  | none => exact absurd (h (x + 1) (le_none _)) (Nat.not_succ_le_self x)
  | some y => exact (ole_some y x).2 (h y ((le_some y y).2 (Nat.le_refl y)))

theorem le_of_ole_of_le {g : Nat} {v : Option Nat} (h : ∀ x, OLe v x → g ≤ x) : Le g v := by
  intro y hy; subst hy; exact h y ((ole_some y y).2 (Nat.le_refl y))


@[simp] theorem upd_flight (s : St) (k : Nat) (nd : Node) (fl : List Msg) : (upd s k nd fl).flight = fl := rfl
@[simp] theorem upd_length (s : St) (k : Nat) (nd : Node) (fl : List Msg) :
    (upd s k nd fl).nodes.length = s.nodes.length := by simp [upd]

theorem upd_get {s : St} {k : Nat} {nd : Node} (nd' : Node) (fl : List Msg) (j : Nat)
    (hk : s.nodes[k]? = some nd) :
    (upd s k nd' fl).nodes[j]? = if j = k then some nd' else s.nodes[j]? := by
  have hlt : k < s.nodes.length := by
    rcases Nat.lt_or_ge k s.nodes.length with h | h
    · exact h
    · rw [List.getElem?_eq_none h] at hk; cases hk
  simp only [upd, List.getElem?_set]
  by_cases hjk : j = k
  · subst hjk; simp [hlt]
  · have : ¬ k = j := fun h => hjk h.symm
    simp [hjk, this]

/-- a node-wise property survives `upd` if the new node has it -/
theorem forall_upd {P : Node → Prop} {s : St} {k : Nat} {nd nd' : Node} {fl : List Msg}
    (hk : s.nodes[k]? = some nd) (hall : ∀ (j : Nat) ndj, s.nodes[j]? = some ndj → P ndj) (hnew : P nd') :
    ∀ (j : Nat) ndj, (upd s k nd' fl).nodes[j]? = some ndj → P ndj := by
  intro j ndj hj
  rw [upd_get nd' fl j hk] at hj
  split at hj
  · cases hj; exact hnew
  · exact hall j ndj hj

/-- a node that exists before `upd` exists after it (it is the new one at `k`, unchanged elsewhere) -/
theorem exists_upd {s : St} {k : Nat} {nd : Node} (nd' : Node) (fl : List Msg) (hk : s.nodes[k]? = some nd)
    (j : Nat) (ndj : Node) (hj : s.nodes[j]? = some ndj) :
    ∃ ndj', (upd s k nd' fl).nodes[j]? = some ndj' ∧ ((j = k ∧ ndj' = nd' ∧ ndj = nd) ∨ (j ≠ k ∧ ndj' = ndj)) := by
  rw [upd_get nd' fl j hk]
  by_cases hjk : j = k
  · subst hjk; rw [hk] at hj; cases hj; exact ⟨nd', by simp, Or.inl ⟨rfl, rfl, rfl⟩⟩
  · exact ⟨ndj, by simp [hjk, hj], Or.inr ⟨hjk, rfl⟩⟩

/-- the converse of `forall_upd`: a node-wise property of the state after `upd` held before it, if the old node `k`
gets it from the new one -/
theorem forall_of_upd {P : Node → Prop} {s : St} {k : Nat} {nd nd' : Node} {fl : List Msg}
    (hk : s.nodes[k]? = some nd) (hall : ∀ (j : Nat) ndj, (upd s k nd' fl).nodes[j]? = some ndj → P ndj)
    (hold : P nd' → P nd) : ∀ (j : Nat) ndj, s.nodes[j]? = some ndj → P ndj := by
  intro j ndj hj
  obtain ⟨ndj', hj', hcase⟩ := exists_upd nd' fl hk j ndj hj
  have := hall j ndj' hj'
  rcases hcase with ⟨_, rfl, rfl⟩ | ⟨_, rfl⟩
  · exact hold this
  · exact this


theorem beginProcess_eq_some {s s' : St} {k e : Nat} (h : beginProcess s k e = some s') :
    ∃ nd, s.nodes[k]? = some nd ∧ (e ∈ nd.pend ∧ nd.cur = none) ∧
      s' = upd s k { nd with pend := nd.pend.erase e, cur := some e, acc := omin nd.acc (some e) } s.flight := by
  dsimp only [beginProcess] at h
  split at h
  · cases h
  · rename_i nd hk
    split at h
    · rename_i hg; exact ⟨nd, hk, hg, (Option.some.inj h).symm⟩
    · cases h

theorem Step_of_step {s s' : St} {a : Action} (h : step s a = some s') : Step s s' := by
  cases a with
  | beginProcess k e =>
    obtain ⟨nd, hk, hg, rfl⟩ := beginProcess_eq_some h
    exact .beginProcess k e nd hk hg.1 hg.2
  | emitLocal k x =>
    dsimp only [step, emitLocal] at h
    split at h
    · cases h
    · rename_i nd hk
      split at h
      · cases h
      · rename_i c hc
        split at h
        · rename_i hx; cases h; exact .emitLocal k x c nd hk hc hx
        · cases h
  | emitRemote k d x =>
    dsimp only [step, emitRemote] at h
    split at h
    · cases h
    · rename_i nd hk
      split at h
      · cases h
      · rename_i c hc
        split at h
        · rename_i hx; cases h; exact .emitRemote k d x c nd hk hc hx.1 hx.2
        · cases h
  | endProcess k =>
    dsimp only [step, endProcess] at h
    split at h
    · cases h
    · rename_i nd hk
      split at h
      · cases h
      · rename_i c hc; cases h; exact .endProcess k c nd hk hc
  | deliver i =>
    dsimp only [step, deliver] at h
    split at h
    · cases h
    · rename_i m hi
      split at h
      · cases h
      · rename_i nd hk; cases h; exact .deliver i m nd hi hk
  | join k =>
    dsimp only [step, join] at h
    split at h
    · cases h
    · rename_i nd hk
      split at h
      · rename_i hg; cases h; exact .join k nd hk hg.1 hg.2
      · cases h
  | flip k =>
    dsimp only [step, flip] at h
    split at h
    · cases h
    · rename_i nd hk
      split at h
      · rename_i hg; cases h; exact .flip k nd hk hg
      · cases h
  | pass k =>
    dsimp only [step, pass] at h
    split at h
    · cases h
    · rename_i nd hk
      split at h
      · rename_i hg; cases h; exact .pass k nd hk hg.1 hg.2
      · cases h
  | report k =>
    dsimp only [step, report] at h
    split at h
    · cases h
    · rename_i nd hk
      split at h
      · rename_i hg; cases h; exact .report k nd hk hg
      · cases h

theorem step_of_Step {s s' : St} (h : Step s s') : ∃ a, step s a = some s' := by
  cases h with
  | beginProcess k e nd hk he hc =>
    exact ⟨.beginProcess k e, by simp only [step, beginProcess, hk, he, hc, and_self, if_true]⟩
  | emitLocal k x c nd hk hc hx => exact ⟨.emitLocal k x, by simp only [step, emitLocal, hk, hc, hx, if_true]⟩
  | emitRemote k d x c nd hk hc hx hd =>
    exact ⟨.emitRemote k d x, by simp only [step, emitRemote, hk, hc, hx, hd, and_self, if_true]⟩
  | endProcess k c nd hk hc => exact ⟨.endProcess k, by simp only [step, endProcess, hk, hc]⟩
  | deliver i m nd hi hk => exact ⟨.deliver i, by simp only [step, deliver, hk, hi]⟩
  | join k nd hk hs hc => exact ⟨.join k, by simp only [step, join, hk, hs, hc, and_self, if_true]⟩
  | flip k nd hk hs => exact ⟨.flip k, by simp only [step, flip, hk, hs, if_true]⟩
  | pass k nd hk hs hg => exact ⟨.pass k, by simp only [step, pass, hk, hs, hg, and_self, if_true]⟩
  | report k nd hk hs => exact ⟨.report k, by simp only [step, report, hk, hs, if_true]⟩

theorem step_iff (s s' : St) : Step s s' ↔ ∃ a, step s a = some s' :=
  ⟨step_of_Step, fun ⟨_, h⟩ => Step_of_step h⟩

theorem reach_run {s0 : St} (as : List Action) : ∀ s s', Reach s0 s → run s as = some s' → Reach s0 s' := by
  induction as with
  | nil => intro s s' hr h; simp only [run] at h; cases h; exact hr
  | cons a as ih =>
    intro s s' hr h
    simp only [run] at h
    split at h
    · cases h
    · rename_i s1 h1; exact ih s1 s' (.step hr (Step_of_step h1)) h

theorem run_append (s : St) (as bs : List Action) :
    run s (as ++ bs) = (run s as).bind fun s' => run s' bs := by
  induction as generalizing s with
  | nil => rfl
  | cons a as ih =>
    simp only [List.cons_append, run]
    cases step s a with
    | none => rfl
    | some s1 => exact ih s1

theorem run_of_reach {s0 s : St} (h : Reach s0 s) : ∃ as, run s0 as = some s := by
  induction h with
  | refl => exact ⟨[], rfl⟩
  | step _ hs ih =>
    obtain ⟨as, has⟩ := ih
    obtain ⟨a, ha⟩ := step_of_Step hs
    exact ⟨as ++ [a], by rw [run_append, has]; simp only [Option.bind_some, run, ha]⟩

end RootSim.GvtGlobal
