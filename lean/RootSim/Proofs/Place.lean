import RootSim.Model.Place
/-!
Helper lemmas for C14 (placement and routing).

The key fact is `partStart_spec'`: for a monotone `part_fnc` the macro returns the least index `≥ start`
whose partition id is `≥ part_id` — *whatever* the initial guess `part_id * tot / part_cnt + start` is.
From it the Galois connection `partStart k ≤ g ↔ k ≤ fnc g` (`partStart_le_iff`) follows, and every
range property is a consequence of that connection plus a few facts on `(g - first) * t / m`.
-/
namespace RootSim.Place

theorem loopDownB_spec (c : Nat → Bool) (start g0 : Nat) (h : start ≤ g0) :
    start ≤ loopDownB c start g0 ∧ (loopDownB c start g0 = start ∨ c (loopDownB c start g0) = false) := by
  fun_induction loopDownB c start g0 with
  | case1 => exact ⟨h, .inl (Nat.le_antisymm (Nat.zero_le _) h)⟩
  | case2 g hc ih =>
    simp only [Bool.and_eq_true, decide_eq_true_eq] at hc
    exact ih (Nat.le_of_lt_succ hc.1)
  | case3 g hc =>
    simp only [Bool.and_eq_true, decide_eq_true_eq, not_and, Bool.not_eq_true] at hc
    refine ⟨h, ?_⟩
    rcases Nat.lt_or_eq_of_le h with e | e
    · exact .inr (hc e)
    · exact .inl e.symm

theorem loopDownB_le (c : Nat → Bool) (start g0 : Nat) : loopDownB c start g0 ≤ g0 := by
  fun_induction loopDownB c start g0 with
  | case1 => exact Nat.le_refl _
  | case2 g _ ih => exact Nat.le_succ_of_le ih
  | case3 => exact Nat.le_refl _

theorem loopDownB_congr (c c' : Nat → Bool) (start g0 : Nat)
    (h : ∀ g, start < g → g ≤ g0 → c g = c' g) : loopDownB c start g0 = loopDownB c' start g0 := by
  induction g0 with
  | zero => rfl
  | succ g ih =>
    unfold loopDownB
    by_cases e : start < g + 1
    · rw [h (g + 1) e (Nat.le_refl _), ih fun x hx hx' => h x hx (Nat.le_succ_of_le hx')]
    · simp [e]

theorem loopUp_spec (fnc : Nat → Nat) (p g : Nat) (h : ∃ b, g ≤ b ∧ p ≤ fnc b) :
    g ≤ loopUp fnc p g h ∧ p ≤ fnc (loopUp fnc p g h) ∧ ∀ x, g ≤ x → x < loopUp fnc p g h → fnc x < p := by
  fun_induction loopUp fnc p g h with
  | case1 g h hlt ih =>
    obtain ⟨r1, r2, r3⟩ := ih
    refine ⟨Nat.le_of_succ_le r1, r2, fun x hx hx' => ?_⟩
    rcases Nat.lt_or_eq_of_le hx with e | e
    · exact r3 x e hx'
    · exact e ▸ hlt
  | case2 g h hlt => exact ⟨Nat.le_refl _, Nat.le_of_not_lt hlt, fun x h1 h2 => absurd h1 (Nat.not_le_of_lt h2)⟩

def MonoFrom (fnc : Nat → Nat) (start : Nat) : Prop := ∀ a b, start ≤ a → a ≤ b → fnc a ≤ fnc b

/-- what `partition_start` returns without any assumption on `part_fnc`: an index `≥ start` with
`part_fnc ≥ part_id` that is `start` or whose predecessor has `part_fnc < part_id` -/
theorem partStart_local (partId partCnt : Nat) (fnc : Nat → Nat) (start tot : Nat) (hc : 0 < partCnt)
    (hx : CanExit fnc partId) :
    let r := partStart partId partCnt fnc start tot hc hx
    start ≤ r ∧ partId ≤ fnc r ∧ (r = start ∨ fnc (r - 1) < partId) := by
  obtain ⟨d1, d3⟩ := loopDownB_spec (fun g => decide (partId ≤ fnc g)) start _
    (Nat.le_add_left start (partId * tot / partCnt))
  simp only [partStart]
  generalize loopDownB (fun g => decide (partId ≤ fnc g)) start (partId * tot / partCnt + start) = g1 at *
  obtain ⟨u1, u2, u3⟩ := loopUp_spec fnc partId g1 (hx g1)
  refine ⟨Nat.le_trans d1 u1, u2, ?_⟩
  rcases Nat.lt_or_eq_of_le u1 with e | e
  · exact .inr (u3 _ (Nat.le_sub_one_of_lt e) (Nat.sub_one_lt (Nat.ne_of_gt (Nat.zero_lt_of_lt e))))
  · -- the second loop did not move: the first one stopped at `start` or where its condition fails
    rw [← e] at u2 ⊢
    exact d3.imp_right fun d => absurd u2 (of_decide_eq_false d)

/-- **`partition_start` returns the least index `≥ start_i` whose partition id is `≥ part_id`**, for
every monotone `part_fnc` for which the second loop can exit. -/
theorem partStart_spec' (partId partCnt : Nat) (fnc : Nat → Nat) (start tot : Nat) (hc : 0 < partCnt)
    (hx : CanExit fnc partId) (hm : MonoFrom fnc start) :
    let r := partStart partId partCnt fnc start tot hc hx
    start ≤ r ∧ partId ≤ fnc r ∧ ∀ g, start ≤ g → partId ≤ fnc g → r ≤ g := by
  obtain ⟨h1, h2, h3⟩ := partStart_local partId partCnt fnc start tot hc hx
  refine ⟨h1, h2, fun g hg hp => ?_⟩
  rcases h3 with h3 | h3
  · exact Nat.le_trans (Nat.le_of_eq h3) hg
  · -- `g < r` would put `g` at or below the predecessor of `r`, where `fnc < partId`
    apply Nat.le_of_not_lt
    intro hlt
    exact Nat.lt_irrefl _ (Nat.lt_of_le_of_lt (Nat.le_trans hp (hm g _ hg (Nat.le_sub_one_of_lt hlt))) h3)

/-- Galois connection between `partition_start` and `part_fnc` -/
theorem partStart_le_iff (partId partCnt : Nat) (fnc : Nat → Nat) (start tot : Nat) (hc : 0 < partCnt)
    (hx : CanExit fnc partId) (hm : MonoFrom fnc start) (g : Nat) (hg : start ≤ g) :
    partStart partId partCnt fnc start tot hc hx ≤ g ↔ partId ≤ fnc g := by
  obtain ⟨h1, h2, h3⟩ := partStart_spec' partId partCnt fnc start tot hc hx hm
  exact ⟨fun h => Nat.le_trans h2 (hm _ _ h1 h), h3 g hg⟩

/-- for `part_id = part_cnt` the result is `start + tot`, if `part_fnc` reaches `part_cnt` there and not before -/
theorem partStart_last' (partCnt : Nat) (fnc : Nat → Nat) (start tot : Nat) (hc : 0 < partCnt)
    (hx : CanExit fnc partCnt) (hm : MonoFrom fnc start) (hend : partCnt ≤ fnc (start + tot))
    (hin : ∀ g, start ≤ g → g < start + tot → fnc g < partCnt) :
    partStart partCnt partCnt fnc start tot hc hx = start + tot := by
  obtain ⟨h1, h2, h3⟩ := partStart_spec' partCnt partCnt fnc start tot hc hx hm
  apply Nat.le_antisymm (h3 (start + tot) (Nat.le_add_right _ _) hend)
  apply Nat.le_of_not_lt
  intro hlt
  exact Nat.lt_irrefl _ (Nat.lt_of_le_of_lt h2 (hin _ h1 hlt))

theorem mul_div_le_of_le {x c : Nat} (b : Nat) (h : x ≤ c) : x * b / c ≤ b :=
  Nat.div_le_of_le_mul (Nat.mul_le_mul_right b h)

theorem lidToRid_mono (first m t : Nat) : MonoFrom (lidToRid first m t) first := fun _ _ _ hab =>
  Nat.div_le_div_right (Nat.mul_le_mul_right _ (Nat.sub_le_sub_right hab _))

theorem lidToNid_eq (lps n : Nat) : lidToNid lps n = lidToRid 0 lps n := rfl

theorem lidToRid_first (first m t : Nat) : lidToRid first m t first = 0 := by
  simp [lidToRid]

theorem lidToRid_end (first m t : Nat) (hm : 0 < m) : lidToRid first m t (first + m) = t := by
  unfold lidToRid
  rw [Nat.add_sub_cancel_left, Nat.mul_comm]
  exact Nat.mul_div_cancel _ hm

theorem lidToRid_lt (first m t lp : Nat) (hm : 0 < m) (ht : 0 < t) (h : lp < first + m) :
    lidToRid first m t lp < t := by
  unfold lidToRid
  rw [Nat.div_lt_iff_lt_mul hm, Nat.mul_comm t m]
  exact Nat.mul_lt_mul_of_lt_of_le (show lp - first < m by omega) (Nat.le_refl _) ht

/-- with at least as many indexes as parts the partition id grows by at most one per index -/
theorem lidToRid_succ_le (first m t g : Nat) (htm : t ≤ m) (hg : first ≤ g) :
    lidToRid first m t (g + 1) ≤ lidToRid first m t g + 1 := by
  unfold lidToRid
  rcases Nat.eq_zero_or_pos m with rfl | hm
  · simp
  · rw [Nat.succ_sub hg, Nat.succ_mul, ← Nat.add_div_right _ hm]
    exact Nat.div_le_div_right (Nat.add_le_add_left htm _)

/-! ### ranges of one level (threads inside a node; nodes are the instance `first = 0`) -/

section level
variable (first m t : Nat) (hm : 0 < m) (ht : 0 < t)

theorem threadFirst_le_iff (r g : Nat) (hg : first ≤ g) :
    threadFirst first m t hm ht r ≤ g ↔ r ≤ lidToRid first m t g :=
  partStart_le_iff r t _ first m ht _ (lidToRid_mono first m t) g hg

theorem threadFirst_ge (r : Nat) : first ≤ threadFirst first m t hm ht r :=
  (partStart_spec' r t _ first m ht (lidToRid_canExit first hm ht r) (lidToRid_mono first m t)).1

theorem threadFirst_fnc (r : Nat) : r ≤ lidToRid first m t (threadFirst first m t hm ht r) :=
  (partStart_spec' r t _ first m ht (lidToRid_canExit first hm ht r) (lidToRid_mono first m t)).2.1

theorem threadFirst_zero : threadFirst first m t hm ht 0 = first :=
  Nat.le_antisymm ((threadFirst_le_iff first m t hm ht 0 first (Nat.le_refl _)).2 (Nat.zero_le _))
    (threadFirst_ge first m t hm ht 0)

theorem threadFirst_mono (r r' : Nat) (h : r ≤ r') :
    threadFirst first m t hm ht r ≤ threadFirst first m t hm ht r' :=
  (threadFirst_le_iff first m t hm ht r _ (threadFirst_ge first m t hm ht r')).2
    (Nat.le_trans h (threadFirst_fnc first m t hm ht r'))

theorem threadFirst_last : threadFirst first m t hm ht t = first + m :=
  partStart_last' t _ first m ht _ (lidToRid_mono first m t) (Nat.le_of_eq (lidToRid_end first m t hm).symm)
    fun g _ h => lidToRid_lt first m t g hm ht h

theorem threadFirst_le_end (r : Nat) (hr : r ≤ t) : threadFirst first m t hm ht r ≤ first + m :=
  threadFirst_last first m t hm ht ▸ threadFirst_mono first m t hm ht r t hr

/-- routing = ownership at one level -/
theorem route_iff (r lp : Nat) (hlp : first ≤ lp) :
    lidToRid first m t lp = r ↔
      threadFirst first m t hm ht r ≤ lp ∧ lp < threadFirst first m t hm ht (r + 1) := by
  rw [← Nat.not_le, threadFirst_le_iff first m t hm ht r lp hlp, threadFirst_le_iff first m t hm ht (r + 1) lp hlp]
  omega

/-- every part is non-empty when there are at least as many indexes as parts -/
theorem threadFirst_strict (htm : t ≤ m) (r : Nat) :
    threadFirst first m t hm ht r < threadFirst first m t hm ht (r + 1) := by
  have hge := threadFirst_ge first m t hm ht r
  rw [← Nat.not_le, threadFirst_le_iff first m t hm ht (r + 1) _ hge, Nat.not_le, Nat.lt_succ_iff]
  -- the partition id at `a = threadFirst r` is at most `r`: it is 0 at `first`, and otherwise at most
  -- one more than at `a - 1`, which lies below `threadFirst r`
  generalize ha : threadFirst first m t hm ht r = a at hge
  rcases Nat.lt_or_eq_of_le hge with hlt | rfl
  · have hp : ¬ r ≤ lidToRid first m t (a - 1) := by
      rw [← threadFirst_le_iff first m t hm ht r (a - 1) (Nat.le_sub_one_of_lt hlt), ha]
      omega
    have := lidToRid_succ_le first m t (a - 1) htm (Nat.le_sub_one_of_lt hlt)
    rw [Nat.sub_add_cancel (Nat.zero_lt_of_lt hlt)] at this
    omega
  · rw [lidToRid_first]; exact Nat.zero_le _

end level

/-! ### nodes = the same level with `first = 0` -/

theorem nodeFirst_eq (lps n : Nat) (hl : 0 < lps) (hn : 0 < n) (k : Nat) :
    nodeFirst lps n hl hn k = threadFirst 0 lps n hl hn k := rfl

/-- with at least as many LPs as ranks every rank hosts an LP -/
theorem nLpsNode_pos (lps n : Nat) (hl : 0 < lps) (hn : 0 < n) (hnl : n ≤ lps) (k : Nat) :
    0 < nLpsNode lps n hl hn k :=
  Nat.sub_pos_of_lt (threadFirst_strict 0 lps n hl hn hnl k)

theorem nodeFirst_add_nLpsNode (lps n : Nat) (hl : 0 < lps) (hn : 0 < n) (k : Nat) :
    nodeFirst lps n hl hn k + nLpsNode lps n hl hn k = nodeFirst lps n hl hn (k + 1) :=
  Nat.add_sub_cancel' (threadFirst_mono 0 lps n hl hn k (k + 1) (Nat.le_succ k))

theorem nodeFirst_le_lps (lps n : Nat) (hl : 0 < lps) (hn : 0 < n) (k : Nat) (hk : k ≤ n) :
    nodeFirst lps n hl hn k ≤ lps := by
  have := threadFirst_le_end 0 lps n hl hn k hk
  rwa [Nat.zero_add] at this

/-- with fewer LPs than ranks some rank hosts none (pigeonhole on the monotone `nodeFirst`) -/
theorem exists_empty_rank (lps n : Nat) (hl : 0 < lps) (hn : 0 < n) (hlt : lps < n) :
    ∃ k, k < n ∧ nLpsNode lps n hl hn k = 0 := by
  apply Classical.byContradiction
  intro hno
  -- if every rank below `n` hosted an LP, `nodeFirst k` would be at least `k`, up to `nodeFirst n = lps`
  have hge : ∀ k, k ≤ n → k ≤ nodeFirst lps n hl hn k := by
    intro k
    induction k with
    | zero => exact fun _ => Nat.zero_le _
    | succ k ih =>
      intro hk
      have := ih (Nat.le_of_succ_le hk)
      have : nLpsNode lps n hl hn k ≠ 0 := fun e => hno ⟨k, hk, e⟩
      have := nodeFirst_add_nLpsNode lps n hl hn k
      omega
  exact Nat.lt_irrefl _ (Nat.lt_of_lt_of_le hlt (Nat.le_trans (hge n (Nat.le_refl _)) (nodeFirst_le_lps lps n hl hn n (Nat.le_refl _))))

theorem clampThreads_eq_min (t m : Nat) : clampThreads t m = min t m := by
  unfold clampThreads; split <;> omega

theorem lpGlobalInit?_eq (lps n t k : Nat) (hl : 0 < lps) (hn : 0 < n) :
    lpGlobalInit? lps n t k = .ok ⟨nodeFirst lps n hl hn k, nLpsNode lps n hl hn k,
      clampThreads t (nLpsNode lps n hl hn k)⟩ :=
  dif_pos ⟨hl, hn⟩

/-- what a rank with globals `c` that hosts LPs does: one worker per thread left by the clamp, each with
its range -/
theorem nodeWorkers?_eq {lps n t k : Nat} {c : NodeCfg} (h : lpGlobalInit? lps n t k = .ok c)
    (hm : 0 < c.m) (ht : 0 < c.t) :
    nodeWorkers? lps n t k = .ok ((List.range c.t).map fun r =>
      (threadFirst c.first c.m c.t hm ht r, threadEnd c.first c.m c.t hm ht r)) := by
  unfold nodeWorkers?
  rw [h]
  exact dif_pos ⟨hm, ht⟩

/-- `Owner` on such a rank, without the list of workers -/
theorem owner_iff {lps n t k : Nat} {c : NodeCfg} (r lp : Nat) (h : lpGlobalInit? lps n t k = .ok c)
    (hm : 0 < c.m) (ht : 0 < c.t) :
    Owner lps n t k r lp ↔
      r < c.t ∧ threadFirst c.first c.m c.t hm ht r ≤ lp ∧ lp < threadEnd c.first c.m c.t hm ht r := by
  unfold Owner
  rw [nodeWorkers?_eq h hm ht]
  constructor
  · rintro ⟨ws, hws, rg, hrg, h1, h2⟩
    cases hws
    rw [List.getElem?_map, Option.map_eq_some_iff] at hrg
    obtain ⟨a, ha, rfl⟩ := hrg
    obtain ⟨hr, rfl⟩ := List.getElem?_eq_some_iff.mp ha
    rw [List.getElem_range] at h1 h2
    exact ⟨by rwa [List.length_range] at hr, h1, h2⟩
  · rintro ⟨hr, h1, h2⟩
    refine ⟨_, rfl, (_, _), ?_, h1, h2⟩
    rw [List.getElem?_map, List.getElem?_range hr]
    rfl

/-! ### fixed-width model -/

theorem wrap64_of_lt {x : Nat} (h : x < 2 ^ 64) : wrap64 x = x := Nat.mod_eq_of_lt h

theorem wrap32_of_lt {x : Nat} (h : x < 2 ^ 32) : wrap32 x = x := Nat.mod_eq_of_lt h

/-- `a - b` computed on `uint64_t` -/
theorem wrap64_sub {a b : Nat} (hb : b ≤ a) (ha : a < 2 ^ 64) : wrap64 (a + 2 ^ 64 - b) = a - b := by
  unfold wrap64
  rw [Nat.add_comm, Nat.add_sub_assoc hb, Nat.add_mod_left]
  exact Nat.mod_eq_of_lt (Nat.lt_of_le_of_lt (Nat.sub_le a b) ha)

theorem toI32_small (x : Nat) (h : x < 2 ^ 31) : toI32 x = Int.ofNat x := by
  unfold toI32
  have : x % 2 ^ 32 = x := Nat.mod_eq_of_lt (by omega)
  simp only [this, if_pos h]

theorem sext32_small (x : Nat) (h : x < 2 ^ 31) : sext32 x = x := by
  unfold sext32
  have : x % 2 ^ 32 = x := Nat.mod_eq_of_lt (by omega)
  simp only [this, if_pos h]

theorem scanUp_eq_some (c : Nat → Bool) (lim g r : Nat) (hgr : g ≤ r) (hlim : r < lim)
    (hall : ∀ x, g ≤ x → x < r → c x = true) (hc : c r = false) : scanUp c lim g = some r := by
  fun_induction scanUp c lim g with
  | case1 g _ hcg ih =>
    have : g ≠ r := fun e => by rw [e, hc] at hcg; cases hcg
    exact ih (by omega) fun x h1 h2 => hall x (by omega) h2
  | case2 g _ hcg =>
    rcases Nat.lt_or_eq_of_le hgr with e | e
    · exact absurd (hall g (Nat.le_refl _) e) hcg
    · rw [e]
  | case3 g hg => omega

theorem scanUp_none (c : Nat → Bool) (lim g : Nat) (hall : ∀ x, g ≤ x → x < lim → c x = true) :
    scanUp c lim g = none := by
  fun_induction scanUp c lim g with
  | case1 g _ _ ih => exact ih fun x h1 h2 => hall x (by omega) h2
  | case2 g hg hcg => exact absurd (hall g (Nat.le_refl _) hg) hcg
  | case3 => rfl

/-- if the loop condition holds on every `uint64_t` value the loop never exits -/
theorem loopUpU64_nonterm (c : Nat → Bool) (g : Nat) (hg : g ≤ 2 ^ 64)
    (hall : ∀ x, x < 2 ^ 64 → c x = true) : loopUpU64 c g = .error .nonterm := by
  unfold loopUpU64
  rw [scanUp_none c (2 ^ 64) g fun x _ h => hall x h, scanUp_none c g 0 fun x _ h => hall x (by omega)]

/-- … and so does `partition_start` -/
theorem partStartU64_nonterm (p : Int) (pid64 cnt64 : Nat) (fnc : Nat → Int) (start tot : Nat) (hc : cnt64 ≠ 0)
    (hall : ∀ x, x < 2 ^ 64 → fnc x < p) : partStartU64 p pid64 cnt64 fnc start tot = .error .nonterm := by
  unfold partStartU64
  rw [if_neg hc]
  exact loopUpU64_nonterm _ _
    (Nat.le_trans (loopDownB_le _ _ _) (Nat.le_of_lt (Nat.mod_lt _ (Nat.two_pow_pos 64))))
    fun x hx => decide_eq_true (hall x hx)

/-- the loop exits at the first index from `g` on where the condition fails, if there is one before the wrap -/
theorem loopUpU64_eq (c : Nat → Bool) (g r : Nat) (hgr : g ≤ r) (hr : r < 2 ^ 64)
    (hall : ∀ x, g ≤ x → x < r → c x = true) (hc : c r = false) : loopUpU64 c g = .ok r := by
  unfold loopUpU64
  rw [scanUp_eq_some c (2 ^ 64) g r hgr hr hall hc]

/-- the typed `partition_start` returns `r` if its first loop stops at `g1` and `r` is the first index from
`g1` on, before the wrap, with `part_fnc ≥ part_id` -/
theorem partStartU64_ok (p : Int) (pid64 cnt64 : Nat) (fnc : Nat → Int) (start tot g1 r : Nat) (hc : cnt64 ≠ 0)
    (h1 : loopDownB (fun g => decide (p ≤ fnc g)) (wrap64 start)
      (wrap64 (wrap64 (pid64 * wrap64 tot) / cnt64 + wrap64 start)) = g1)
    (hgr : g1 ≤ r) (hr : r < 2 ^ 64) (hall : ∀ x, g1 ≤ x → x < r → fnc x < p) (hcr : ¬ fnc r < p) :
    partStartU64 p pid64 cnt64 fnc start tot = .ok r := by
  unfold partStartU64
  rw [if_neg hc]
  simp only [h1]
  exact loopUpU64_eq _ g1 r hgr hr (fun x a b => decide_eq_true (hall x a b)) (decide_eq_false hcr)

/-- The typed `partition_start` computes what the `Nat` one computes when nothing wraps on the indexes
it touches: `B` bounds the initial guess and the result, `fncU` agrees with `fnc` on `[start, B]`. -/
theorem partStartU64_eq (partId partCnt : Nat) (fnc : Nat → Nat) (fncU : Nat → Int) (start tot B : Nat)
    (hc : 0 < partCnt) (hx : CanExit fnc partId)
    (hs : start < 2 ^ 64) (ht : tot < 2 ^ 64) (hmul : partId * tot < 2 ^ 64)
    (hg0 : partId * tot / partCnt + start ≤ B)
    (hres : partStart partId partCnt fnc start tot hc hx ≤ B) (hB : B < 2 ^ 64)
    (hf : ∀ g, start ≤ g → g ≤ B → fncU g = Int.ofNat (fnc g)) :
    partStartU64 (Int.ofNat partId) partId partCnt fncU start tot
      = .ok (partStart partId partCnt fnc start tot hc hx) := by
  obtain ⟨d1, -⟩ := loopDownB_spec (fun g => decide (partId ≤ fnc g)) start _
    (Nat.le_add_left start (partId * tot / partCnt))
  have hd : loopDownB (fun g => decide (Int.ofNat partId ≤ fncU g)) start (partId * tot / partCnt + start)
      = loopDownB (fun g => decide (partId ≤ fnc g)) start (partId * tot / partCnt + start) :=
    loopDownB_congr _ _ _ _ fun g h1 h2 => by
      rw [hf g (Nat.le_of_lt h1) (Nat.le_trans h2 hg0)]; exact decide_eq_decide.2 Int.ofNat_le
  simp only [partStart] at hres ⊢
  generalize loopDownB (fun g => decide (partId ≤ fnc g)) start (partId * tot / partCnt + start) = g1 at *
  obtain ⟨u1, u2, u3⟩ := loopUp_spec fnc partId g1 (hx g1)
  apply partStartU64_ok _ _ _ _ _ _ g1 _ (Nat.ne_of_gt hc) _ u1 (Nat.lt_of_le_of_lt hres hB)
  · intro x h1 h2
    rw [hf x (Nat.le_trans d1 h1) (Nat.le_trans (Nat.le_of_lt h2) hres)]
    exact Int.ofNat_lt.2 (u3 x h1 h2)
  · rw [hf _ (Nat.le_trans d1 u1) hres]
    exact Int.not_lt.2 (Int.ofNat_le.2 u2)
  · rw [wrap64_of_lt ht, wrap64_of_lt hs, wrap64_of_lt hmul, wrap64_of_lt (Nat.lt_of_le_of_lt hg0 hB), hd]

theorem lidToNidU64_eq (lps n lp : Nat) (hn : 0 < n) (h31 : n < 2 ^ 31)
    (hov : lps * n < 2 ^ 64) (hlp : lp ≤ lps) :
    lidToNidU64 lps n lp = Int.ofNat (lidToNid lps n lp) := by
  have hlps : lps < 2 ^ 64 := Nat.lt_of_le_of_lt (Nat.le_mul_of_pos_right _ hn) hov
  have hmul : lp * n < 2 ^ 64 := Nat.lt_of_le_of_lt (Nat.mul_le_mul_right _ hlp) hov
  unfold lidToNidU64 lidToNid
  rw [sext32_small n h31, wrap64_of_lt (Nat.lt_of_le_of_lt hlp hlps), wrap64_of_lt hlps, wrap64_of_lt hmul]
  exact toI32_small _ (Nat.lt_of_le_of_lt (mul_div_le_of_le n hlp) h31)

theorem lidToRidU64_eq (first m t lp : Nat) (h32 : t < 2 ^ 32)
    (hfm : first + m < 2 ^ 64) (hov : m * t < 2 ^ 64) (h1 : first ≤ lp) (h2 : lp ≤ first + m) :
    lidToRidU64 first m t lp = lidToRid first m t lp := by
  have hlp : lp < 2 ^ 64 := Nat.lt_of_le_of_lt h2 hfm
  have hd : lp - first ≤ m := Nat.sub_le_iff_le_add'.2 h2
  have hmul : (lp - first) * t < 2 ^ 64 := Nat.lt_of_le_of_lt (Nat.mul_le_mul_right _ hd) hov
  unfold lidToRidU64 lidToRid
  rw [wrap64_of_lt hlp, wrap64_of_lt (Nat.lt_of_le_of_lt h1 hlp), wrap64_sub h1 hlp, wrap32_of_lt h32,
    wrap64_of_lt hmul, wrap64_of_lt (Nat.lt_of_le_of_lt (Nat.le_add_left m first) hfm)]
  exact wrap32_of_lt (Nat.lt_of_le_of_lt (mul_div_le_of_le t hd) h32)

theorem nodeFirstU64_eq (lps n k : Nat) (hl : 0 < lps) (hn : 0 < n) (h31 : n < 2 ^ 31)
    (hov : lps * n < 2 ^ 64) (hk : k ≤ n) :
    nodeFirstU64 lps n k = .ok (nodeFirst lps n hl hn k) := by
  have hlps : lps < 2 ^ 64 := Nat.lt_of_le_of_lt (Nat.le_mul_of_pos_right _ hn) hov
  have hk31 : k < 2 ^ 31 := Nat.lt_of_le_of_lt hk h31
  unfold nodeFirstU64
  rw [wrap64_of_lt hlps, if_neg (Nat.ne_of_gt hl), toI32_small k hk31, sext32_small k hk31, sext32_small n h31]
  exact partStartU64_eq k n (lidToNid lps n) (lidToNidU64 lps n) 0 lps lps hn _ (by omega) hlps
    (Nat.lt_of_le_of_lt (Nat.mul_comm k lps ▸ Nat.mul_le_mul_left lps hk) hov) (mul_div_le_of_le lps hk)
    (nodeFirst_le_lps lps n hl hn k hk) hlps fun g _ hg => lidToNidU64_eq lps n g hn h31 hov hg

theorem threadFirstU64_eq (first m t r : Nat) (hm : 0 < m) (ht : 0 < t) (h32 : t < 2 ^ 32)
    (hfm : first + m < 2 ^ 64) (hov : m * t < 2 ^ 64) (hr : r ≤ t) :
    threadFirstU64 first m t r = .ok (threadFirst first m t hm ht r) := by
  have hm64 : m < 2 ^ 64 := Nat.lt_of_le_of_lt (Nat.le_add_left m first) hfm
  unfold threadFirstU64
  rw [wrap32_of_lt h32, wrap64_of_lt hm64, wrap32_of_lt (Nat.lt_of_le_of_lt hr h32), if_neg (by omega)]
  exact partStartU64_eq r t (lidToRid first m t) _ first m (first + m) ht _
    (Nat.lt_of_le_of_lt (Nat.le_add_right first m) hfm) hm64
    (Nat.lt_of_le_of_lt (Nat.mul_comm r m ▸ Nat.mul_le_mul_left m hr) hov)
    (Nat.add_comm first m ▸ Nat.add_le_add_right (mul_div_le_of_le m hr) first)
    (threadFirst_le_end first m t hm ht r hr) hfm
    fun g h1 h2 => congrArg Int.ofNat (lidToRidU64_eq first m t g h32 hfm hov h1 h2)

theorem lpGlobalInitU64_eq (lps n t k : Nat) (hl : 0 < lps) (hn : 0 < n) (h31 : n < 2 ^ 31)
    (hov : lps * n < 2 ^ 64) (h32 : t < 2 ^ 32) (hk : k < n) :
    lpGlobalInitU64 lps n t k = lpGlobalInit? lps n t k := by
  have hlps : lps < 2 ^ 64 := Nat.lt_of_le_of_lt (Nat.le_mul_of_pos_right _ hn) hov
  have hle := nodeFirst_le_lps lps n hl hn (k + 1) hk
  have em : wrap64 (nodeFirst lps n hl hn (k + 1) + 2 ^ 64 - nodeFirst lps n hl hn k) = nLpsNode lps n hl hn k :=
    wrap64_sub (threadFirst_mono 0 lps n hl hn k (k + 1) (Nat.le_succ k)) (Nat.lt_of_le_of_lt hle hlps)
  unfold lpGlobalInitU64 lpGlobalInit?
  rw [nodeFirstU64_eq lps n k hl hn h31 hov (Nat.le_of_lt hk), nodeFirstU64_eq lps n (k + 1) hl hn h31 hov hk,
    dif_pos ⟨hl, hn⟩]
  simp only [em, wrap32_of_lt h32, clampThreads]
  -- the clamp assigns `n_lps_node` to the `unsigned` `n_threads` only when it is below `t < 2^32`
  split
  · rw [wrap32_of_lt (Nat.lt_trans ‹_› h32)]
  · rfl

end RootSim.Place
