import RootSim.Model.Barrier
import RootSim.Proofs.ListSet
/-!
Helper lemmas for C17: the inductive invariant of the two-counter barrier, for every number of
threads and every interleaving.
-/
namespace RootSim.Barrier

/-- value the counter of use `k` must hold when `a` of the `N` threads have entered use `k` -/
def expect (N k a : Nat) : Nat := if up k then a else N - a

/-- number of `true` leader flags that must have been handed out in use `k` when `a` threads entered it:
going up the FIRST thread (old value 0) is the leader, going down the LAST one (old value 1). -/
def leadExp (N k a : Nat) : Nat :=
  if up k then (if 0 < a then 1 else 0) else (if a = N then 1 else 0)

/-- The invariant, relative to the current *round* `m` (the oldest use some thread has not left). -/
structure BInv (s : St) (m : Nat) : Prop where
  nlen  : s.n = s.ths.length
  npos  : 0 < s.n
  nW    : s.n < W
  range : ∀ t ∈ s.ths, t.uses = m ∨ t.uses = m + 1
  cm    : ctr s m = expect s.n m (cnt s m)
  cm1   : ctr s (m+1) = expect s.n (m+1) (cnt s (m+1))
  full  : (∃ t ∈ s.ths, t.uses = m + 1) → cnt s m = s.n
  /-- ghost bookkeeping of each thread: one flag per executed `fetch_add`; `l` is the latest one -/
  loc   : ∀ t ∈ s.ths, t.flags.length = t.uses + (if t.spin then 1 else 0) ∧
            (t.spin = true → t.flags[t.uses]? = some t.l)
  /-- leader flags handed out so far, for EVERY use `k` -/
  lead  : ∀ k, leadCnt s k = leadExp s.n k (cnt s k)

/-! ### The two counters: use `k` works on the counter of its parity, in the direction that flips every two uses -/

theorem up_add_two (k : Nat) : up (k+2) = !up k := by
  unfold up
  rw [← decide_not, decide_eq_decide]
  omega

theorem ctr_setCtr (s : St) (k v j : Nat) : ctr (setCtr s k v) j = if j % 2 = k % 2 then v else ctr s j := by
  unfold ctr setCtr
  rcases Nat.mod_two_eq_zero_or_one k with hk | hk <;> rcases Nat.mod_two_eq_zero_or_one j with hj | hj <;>
    simp [hk, hj]

theorem ctr_setCtr_same (s : St) (k : Nat) (v : Nat) : ctr (setCtr s k v) k = v := by
  rw [ctr_setCtr, if_pos rfl]

theorem ctr_setCtr_other (s : St) (k : Nat) (v : Nat) : ctr (setCtr s k v) (k+1) = ctr s (k+1) := by
  rw [ctr_setCtr, if_neg (by omega)]

theorem ctr_setCtr_other' (s : St) (k : Nat) (v : Nat) : ctr (setCtr s (k+1) v) k = ctr s k := by
  rw [ctr_setCtr, if_neg (by omega)]

theorem ctr_add_two (s : St) (k : Nat) : ctr s (k+2) = ctr s k := by
  unfold ctr
  rw [Nat.add_mod_right]

theorem ths_setCtr (s : St) (k : Nat) (v : Nat) : (setCtr s k v).ths = s.ths := by
  unfold setCtr; split <;> rfl

theorem n_setCtr (s : St) (k : Nat) (v : Nat) : (setCtr s k v).n = s.n := by
  unfold setCtr; split <;> rfl

theorem ctr_ths (s : St) (l : List Th) (k : Nat) : ctr { s with ths := l } k = ctr s k := rfl

/-- on a C `unsigned`, adding 1 below `UINT_MAX` and adding `-1` above 0 do not wrap -/
theorem fetchAdd_one {c : Nat} (h : c + 1 < W) : fetchAdd c 1 = c + 1 := Nat.mod_eq_of_lt h

theorem fetchAdd_neg_one {c : Nat} (h0 : 0 < c) (h : c < W) : fetchAdd c (W - 1) = c - 1 := by
  obtain ⟨c, rfl⟩ := Nat.exists_eq_succ_of_ne_zero (Nat.ne_of_gt h0)
  unfold fetchAdd
  generalize W = M at *
  have hM : 1 ≤ M := Nat.le_trans (Nat.succ_le_succ (Nat.zero_le c)) (Nat.le_of_lt h)
  -- `(c + 1) + (M - 1) = c + M`
  rw [Nat.succ_eq_add_one, Nat.add_assoc, Nat.add_sub_cancel' hM, Nat.add_mod_right,
    Nat.mod_eq_of_lt (Nat.lt_of_succ_lt h), Nat.add_sub_cancel]

/-- the `fetch_add` of use `k` moves the counter from its value for `a` entered threads to its value for `a + 1` -/
theorem newCtr_expect {N k a : Nat} (ha : a < N) (hW : N < W) :
    newCtr k (expect N k a) = expect N k (a + 1) := by
  unfold newCtr expect
  cases up k <;> simp only [Bool.false_eq_true, if_false, if_true]
  · exact fetchAdd_neg_one (Nat.sub_pos_of_lt ha) (Nat.lt_of_le_of_lt (Nat.sub_le N a) hW)
  · exact fetchAdd_one (Nat.lt_of_le_of_lt ha hW)

/-- …and the thread is told "leader" exactly when that raises the expected number of leaders -/
theorem leadExp_succ {N k a : Nat} (ha : a < N) :
    leadExp N k (a + 1) = leadExp N k a + (if leadOf k (expect N k a) = true then 1 else 0) := by
  unfold leadExp leadOf expect
  cases up k <;> simp only [Bool.false_eq_true, if_false, if_true, beq_iff_eq]
  · -- down: the last to arrive finds the counter at 1
    rw [if_neg (Nat.ne_of_lt ha), Nat.zero_add]
    exact ite_congr (propext (by omega)) (fun _ => rfl) (fun _ => rfl)
  · -- up: the first to arrive finds it at 0
    cases a <;> rfl

theorem cnt_le (s : St) (k : Nat) : cnt s k ≤ s.ths.length := List.countP_le_length

theorem entered_iff {k : Nat} {t : Th} : entered k t = true ↔ (t.uses = k ∧ t.spin = true) ∨ k < t.uses := by
  simp [entered]

theorem entered_of_gt {k : Nat} {t : Th} (h : k < t.uses) : entered k t = true := entered_iff.mpr (Or.inr h)

theorem cnt_lt_of_not_entered (s : St) (k : Nat) (t : Th) (hmem : t ∈ s.ths) (h : entered k t = false) :
    cnt s k < s.ths.length := by
  refine Nat.lt_of_le_of_ne (cnt_le s k) fun hc => ?_
  have := List.countP_eq_length.mp hc _ hmem
  rw [h] at this; cases this

/-- the state after thread `i` (= `t`) executed its `fetch_add` -/
def enterSt (s : St) (i : Nat) (t : Th) : St :=
  { (setCtr s t.uses (newCtr t.uses (ctr s t.uses))) with
    ths := s.ths.set i { t with spin := true, l := leadOf t.uses (ctr s t.uses),
                                flags := t.flags ++ [leadOf t.uses (ctr s t.uses)] } }

theorem enter_spec {s s' : St} {i : Nat} (he : enter s i = some s') :
    ∃ t, s.ths[i]? = some t ∧ t.spin = false ∧ s' = enterSt s i t := by
  unfold enter at he
  split at he
  next t ht =>
    split at he
    · cases he
    · next hs => exact ⟨t, ht, Bool.not_eq_true _ ▸ hs, (Option.some.inj he).symm⟩
  next => cases he

theorem enter_eq {s : St} {i : Nat} {t : Th} (ht : s.ths[i]? = some t) (hsp : t.spin = false) :
    enter s i = some (enterSt s i t) := by
  unfold enter
  rw [ht]
  simp only [hsp, Bool.false_eq_true, if_false]
  rfl

theorem enterSt_n (s : St) (i : Nat) (t : Th) : (enterSt s i t).n = s.n := n_setCtr _ _ _

theorem enterSt_ctr (s : St) (i : Nat) (t : Th) (j : Nat) :
    ctr (enterSt s i t) j = if j % 2 = t.uses % 2 then newCtr t.uses (ctr s t.uses) else ctr s j :=
  ctr_setCtr _ _ _ _

theorem mem_enterSt {s : St} {i : Nat} {t t' : Th} (h : t' ∈ (enterSt s i t).ths) :
    t' ∈ s.ths ∨ t' = { t with spin := true, l := leadOf t.uses (ctr s t.uses),
                               flags := t.flags ++ [leadOf t.uses (ctr s t.uses)] } :=
  List.mem_or_eq_of_mem_set h

theorem enterSt_cnt (s : St) (i : Nat) (t : Th) (hi : i < s.ths.length) (hget : s.ths[i] = t)
    (hsp : t.spin = false) (k : Nat) :
    cnt (enterSt s i t) k = cnt s k + (if k = t.uses then 1 else 0) := by
  have ht := List.getElem?_eq_some_iff.mpr ⟨hi, hget⟩
  unfold cnt enterSt
  by_cases hk : k = t.uses
  · rw [if_pos hk]
    exact countP_set_succ ht (by rw [hk]; simp [entered, hsp]) (by rw [hk]; simp [entered])
  · rw [if_neg hk]
    have hk' : (t.uses == k) = false := beq_eq_false_iff_ne.mpr (Ne.symm hk)
    exact countP_set_same ht (by simp [entered, hk'])

theorem getElem?_concat {α : Type} (l : List α) (b : α) (k : Nat) :
    (l ++ [b])[k]? = if k = l.length then some b else l[k]? := by
  rcases Nat.lt_trichotomy k l.length with h | rfl | h
  · rw [List.getElem?_append_left h, if_neg (by omega)]
  · rw [List.getElem?_concat_length, if_pos rfl]
  · rw [if_neg (by omega), List.getElem?_eq_none (by simp; omega), List.getElem?_eq_none (by omega)]

theorem enterSt_leadCnt (s : St) (i : Nat) (t : Th) (hi : i < s.ths.length) (hget : s.ths[i] = t)
    (hlen : t.flags.length = t.uses) (k : Nat) :
    leadCnt (enterSt s i t) k
      = leadCnt s k + (if k = t.uses then (if leadOf t.uses (ctr s t.uses) = true then 1 else 0) else 0) := by
  have hnone : ledIn t.uses t = false := by
    simp [ledIn, List.getElem?_eq_none (Nat.le_of_eq hlen)]
  have ht := List.getElem?_eq_some_iff.mpr ⟨hi, hget⟩
  unfold leadCnt enterSt
  by_cases hk : k = t.uses
  · rw [if_pos hk, hk]
    by_cases hb : leadOf t.uses (ctr s t.uses) = true
    · rw [if_pos hb]
      exact countP_set_succ ht hnone (by simp [ledIn, hlen, hb])
    · rw [if_neg hb]
      exact countP_set_same ht (by rw [hnone]; simp [ledIn, hlen, hb])
  · rw [if_neg hk]
    exact countP_set_same ht (by simp [ledIn, getElem?_concat, hlen, hk])

theorem BInv.ctr_eq {s : St} {m j : Nat} (h : BInv s m) (hj : j = m ∨ j = m + 1) :
    ctr s j = expect s.n j (cnt s j) := by
  rcases hj with rfl | rfl
  · exact h.cm
  · exact h.cm1

theorem BInv.ctr_uses {s : St} {m : Nat} (h : BInv s m) {t : Th} (hmem : t ∈ s.ths) :
    ctr s t.uses = expect s.n t.uses (cnt s t.uses) := h.ctr_eq (h.range t hmem)

theorem BInv.cnt_lt {s : St} {m : Nat} (h : BInv s m) {t : Th} (hmem : t ∈ s.ths) (hsp : t.spin = false) :
    cnt s t.uses < s.n :=
  h.nlen ▸ cnt_lt_of_not_entered s _ t hmem (by simp [entered, hsp])

/-- **`enter` preserves the invariant** (same round). Also shows that the unsigned counter does not wrap. -/
theorem enter_inv {s s' : St} {m i : Nat} (h : BInv s m) (he : enter s i = some s') : BInv s' m := by
  obtain ⟨t, ht, hsp, rfl⟩ := enter_spec he
  obtain ⟨hi, hget⟩ := List.getElem?_eq_some_iff.mp ht
  have hmem : t ∈ s.ths := List.mem_of_getElem? ht
  have hlen : t.flags.length = t.uses := by
    have := (h.loc t hmem).1
    rw [hsp] at this; exact this
  have hcnt := enterSt_cnt s i t hi hget hsp
  have hlead := enterSt_leadCnt s i t hi hget hlen
  have hlt := h.cnt_lt hmem hsp
  have hu := h.range t hmem
  have hctr : ∀ j, j = m ∨ j = m + 1 → ctr (enterSt s i t) j = expect (enterSt s i t).n j (cnt (enterSt s i t) j) := by
    intro j hj
    rw [enterSt_ctr, enterSt_n, hcnt]
    by_cases hju : j = t.uses
    · rw [if_pos (by rw [hju]), if_pos hju, hju, h.ctr_uses hmem, newCtr_expect hlt h.nW]
    · rw [if_neg (by omega), if_neg hju]; exact h.ctr_eq hj
  refine ⟨?_, ?_, ?_, ?_, hctr m (Or.inl rfl), hctr (m + 1) (Or.inr rfl), ?_, ?_, ?_⟩
  · rw [enterSt_n]; exact h.nlen.trans (List.length_set ..).symm
  · rw [enterSt_n]; exact h.npos
  · rw [enterSt_n]; exact h.nW
  · intro t' ht'
    rcases mem_enterSt ht' with h' | rfl
    · exact h.range t' h'
    · exact hu
  · rintro ⟨t', ht', hu'⟩
    have hfull : cnt s m = s.n := h.full <| by
      rcases mem_enterSt ht' with h' | rfl
      · exact ⟨t', h', hu'⟩
      · exact ⟨t, hmem, hu'⟩
    rw [enterSt_n, hcnt, if_neg (by rintro rfl; omega), hfull]; rfl
  · intro t' ht'
    rcases mem_enterSt ht' with h' | rfl
    · exact h.loc t' h'
    · exact ⟨by simp [hlen], fun _ => by simp [hlen]⟩
  · intro k
    rw [enterSt_n, hlead, hcnt, h.lead k]
    by_cases hk : k = t.uses
    · rw [if_pos hk, if_pos hk, hk, h.ctr_uses hmem, leadExp_succ hlt]
    · rw [if_neg hk, if_neg hk]; rfl

/-- the state after thread `i` (= `t`, spinning) left the barrier -/
def exitSt (s : St) (i : Nat) (t : Th) : St :=
  { s with ths := s.ths.set i { t with uses := t.uses + 1, spin := false } }

theorem exit_spec {s s' : St} {i : Nat} (he : exit s i = some s') :
    ∃ t, s.ths[i]? = some t ∧ t.spin = true ∧ exitOk s t = true ∧ s' = exitSt s i t := by
  unfold exit at he
  split at he
  next t ht =>
    split at he
    · next hg =>
      rw [Bool.and_eq_true] at hg
      exact ⟨t, ht, hg.1, hg.2, (Option.some.inj he).symm⟩
    · cases he
  next => cases he

theorem exit_eq {s : St} {i : Nat} {t : Th} (ht : s.ths[i]? = some t) (hsp : t.spin = true)
    (hok : exitOk s t = true) : exit s i = some (exitSt s i t) := by
  unfold exit
  rw [ht]
  simp only [hsp, hok, Bool.and_self, if_true]
  rfl

theorem exitSt_cnt (s : St) (i : Nat) (t : Th) (hi : i < s.ths.length) (hget : s.ths[i] = t)
    (hsp : t.spin = true) (k : Nat) : cnt (exitSt s i t) k = cnt s k := by
  refine countP_set_same (List.getElem?_eq_some_iff.mpr ⟨hi, hget⟩) ?_
  rw [Bool.eq_iff_iff, entered_iff, entered_iff]
  simp only [hsp, and_true, Bool.false_eq_true, and_false, false_or]
  omega

theorem exitSt_leadCnt (s : St) (i : Nat) (t : Th) (hi : i < s.ths.length) (hget : s.ths[i] = t)
    (k : Nat) : leadCnt (exitSt s i t) k = leadCnt s k :=
  countP_set_same (List.getElem?_eq_some_iff.mpr ⟨hi, hget⟩) rfl

theorem mem_exitSt {s : St} {i : Nat} {t t' : Th} (h : t' ∈ (exitSt s i t).ths) :
    t' ∈ s.ths ∨ t' = { t with uses := t.uses + 1, spin := false } :=
  List.mem_or_eq_of_mem_set h

/-- the spin-loop guard of a spinning thread is true **iff** all `N` threads have entered its use -/
theorem exitOk_iff {s : St} {m : Nat} (h : BInv s m) {t : Th} (hmem : t ∈ s.ths) :
    exitOk s t = true ↔ cnt s t.uses = s.n := by
  have hle := cnt_le s t.uses
  have hN := h.nlen
  unfold exitOk
  rw [h.ctr_uses hmem]; unfold expect
  cases up t.uses <;> simp only [Bool.false_eq_true, if_false, if_true, beq_iff_eq]
  omega

/-- **`exit` preserves the invariant**: the round stays `m` when a thread of round `m` leaves and
advances to `m+1` when a thread of round `m+1` leaves (then everybody has left round `m`). -/
theorem exit_inv {s s' : St} {m i : Nat} (h : BInv s m) (he : exit s i = some s') :
    BInv s' m ∨ BInv s' (m+1) := by
  obtain ⟨t, ht, hsp, hok, rfl⟩ := exit_spec he
  obtain ⟨hi, hget⟩ := List.getElem?_eq_some_iff.mp ht
  have hmem : t ∈ s.ths := List.mem_of_getElem? ht
  have hcnt := exitSt_cnt s i t hi hget hsp
  have hlead := exitSt_leadCnt s i t hi hget
  have hall : cnt s t.uses = s.n := (exitOk_iff h hmem).mp hok
  have hnlen : (exitSt s i t).n = (exitSt s i t).ths.length := h.nlen.trans (List.length_set ..).symm
  have hloc : ∀ t' ∈ (exitSt s i t).ths, t'.flags.length = t'.uses + (if t'.spin then 1 else 0) ∧
            (t'.spin = true → t'.flags[t'.uses]? = some t'.l) := by
    intro t' ht'
    rcases mem_exitSt ht' with h' | rfl
    · exact h.loc t' h'
    · have := (h.loc t hmem).1
      rw [hsp] at this
      exact ⟨this, nofun⟩
  have hleadInv : ∀ k, leadCnt (exitSt s i t) k = leadExp (exitSt s i t).n k (cnt (exitSt s i t) k) := by
    intro k; rw [hlead, hcnt]; exact h.lead k
  rcases h.range t hmem with hu | hu
  · -- a thread of round m leaves
    refine Or.inl ⟨hnlen, h.npos, h.nW, ?_, ?_, ?_, ?_, hloc, hleadInv⟩
    · intro t' ht'
      rcases mem_exitSt ht' with h' | rfl
      · exact h.range t' h'
      · exact Or.inr (congrArg (· + 1) hu)
    · rw [hcnt]; exact h.cm
    · rw [hcnt]; exact h.cm1
    · intro _; rw [hcnt, ← hu]; exact hall
  · -- a thread of round m+1 leaves: everybody is in round m+1
    have huses : ∀ t' ∈ s.ths, t'.uses = m + 1 := by
      intro t' ht'
      have e := List.countP_eq_length.mp (show cnt s (m+1) = s.ths.length by rw [← hu, hall, h.nlen]) t' ht'
      rcases entered_iff.mp e with e | e <;> rcases h.range t' ht' with h1 | h1 <;> omega
    have hcm : cnt s m = s.n := h.full ⟨t, hmem, hu⟩
    have hc2 : cnt s (m+2) = 0 :=
      List.countP_eq_zero.mpr fun t' ht' => by
        rw [entered_iff, huses t' ht']; omega
    refine Or.inr ⟨hnlen, h.npos, h.nW, ?_, ?_, ?_, ?_, hloc, hleadInv⟩
    · intro t' ht'
      rcases mem_exitSt ht' with h' | rfl
      · exact Or.inl (huses t' h')
      · exact Or.inr (congrArg (· + 1) hu)
    · rw [hcnt]; exact h.cm1
    · -- the counter of use `m + 2` is that of use `m`, which everybody has been through: it is back at its start
      rw [hcnt]
      show ctr s (m + 2) = expect s.n (m + 2) (cnt s (m + 2))
      rw [ctr_add_two, h.cm, hcm, hc2]
      unfold expect
      rw [up_add_two]
      cases up m <;> simp
    · intro _; rw [hcnt, ← hu]; exact hall

theorem init_inv (N : Nat) (hpos : 0 < N) (hW : N < W) : BInv (init N) 0 := by
  have hth : ∀ t ∈ (init N).ths, t = { uses := 0, spin := false, l := false, flags := [] } :=
    fun t ht => List.eq_of_mem_replicate ht
  have hcnt : ∀ k, cnt (init N) k = 0 := fun k =>
    List.countP_eq_zero.mpr fun t ht => by rw [hth t ht]; simp [entered]
  have hlead : ∀ k, leadCnt (init N) k = 0 := fun k =>
    List.countP_eq_zero.mpr fun t ht => by rw [hth t ht]; simp [ledIn]
  refine ⟨(List.length_replicate ..).symm, hpos, hW, ?_, ?_, ?_, ?_, ?_, ?_⟩
  · intro t ht; rw [hth t ht]; exact Or.inl rfl
  · rw [hcnt]; rfl
  · rw [hcnt]; rfl
  · rintro ⟨t, ht, hu⟩
    rw [hth t ht] at hu; cases hu
  · intro t ht
    rw [hth t ht]; exact ⟨rfl, nofun⟩
  · intro k
    rw [hcnt, hlead]
    show 0 = leadExp N k 0
    unfold leadExp
    cases up k
    · exact (if_neg (by omega)).symm
    · rfl

/-- the states the barrier can be in: start with all `N` threads outside, then any interleaving -/
inductive Reachable : St → Prop
  | init (N : Nat) (hpos : 0 < N) (hW : N < W) : Reachable (init N)
  | step {s s' : St} (i : Nat) : Reachable s → step s i = some s' → Reachable s'

/-- run a schedule (a list of thread ids); `none` if it names a thread that does not exist -/
def exec (s : St) : List Nat → Option St
  | [] => some s
  | i :: is => match step s i with
    | some s' => exec s' is
    | none => none

/-- a step is the `fetch_add`, a successful pass of the spin loop, or a failed spin iteration -/
theorem step_cases {s s' : St} {i : Nat} (h : step s i = some s') :
    enter s i = some s' ∨ exit s i = some s' ∨ s' = s := by
  unfold step at h
  split at h
  · split at h
    · split at h
      · exact Or.inr (Or.inl h)
      · exact Or.inr (Or.inr (Option.some.inj h).symm)
    · exact Or.inl h
  · cases h

theorem exec_reachable {s s' : St} (sched : List Nat) (hr : Reachable s) (he : exec s sched = some s') :
    Reachable s' := by
  induction sched generalizing s with
  | nil => cases he; exact hr
  | cons i is ih =>
    simp only [exec] at he
    split at he
    · next s1 hs1 => exact ih (Reachable.step i hr hs1) he
    · cases he

theorem step_mono {s s' : St} {i : Nat} (hs : step s i = some s') (k : Nat) : cnt s k ≤ cnt s' k ∧ s'.n = s.n := by
  rcases step_cases hs with he | he | rfl
  · obtain ⟨t, ht, hsp, rfl⟩ := enter_spec he
    obtain ⟨hi, hget⟩ := List.getElem?_eq_some_iff.mp ht
    exact ⟨by rw [enterSt_cnt s i t hi hget hsp]; omega, enterSt_n s i t⟩
  · obtain ⟨t, ht, hsp, _, rfl⟩ := exit_spec he
    obtain ⟨hi, hget⟩ := List.getElem?_eq_some_iff.mp ht
    exact ⟨by rw [exitSt_cnt s i t hi hget hsp]; omega, rfl⟩
  · exact ⟨Nat.le_refl _, rfl⟩

theorem exec_cnt_mono {s s' : St} (sched : List Nat) (he : exec s sched = some s') (k : Nat) :
    cnt s k ≤ cnt s' k ∧ s'.n = s.n := by
  induction sched generalizing s with
  | nil => cases he; exact ⟨Nat.le_refl _, rfl⟩
  | cons i is ih =>
    simp only [exec] at he
    split at he
    · next s1 hs1 =>
      have h1 := step_mono hs1 k
      have h2 := ih he
      exact ⟨Nat.le_trans h1.1 h2.1, h2.2.trans h1.2⟩
    · cases he

end RootSim.Barrier
