import RootSim.Model.Refine
import RootSim.Proofs.LPFull
import RootSim.Proofs.TimeWarp
/-! Lemmas for the LP-local simulation theorems of `Props/C01Refine.lean`: the "sent entries are the handler's outputs" invariant
(`OInv`) and its preservation, the link between the concrete backward scans and `TW.splitUndo`, the projections of the action
trace of a step, the translation `replay` / `outsOf` ↔ `Spec.stFrom` / `Spec.outsFrom`. -/
namespace RootSim.Refine
open RootSim RootSim.LP RootSim.LPFull RootSim.Spec

variable {σ : Type}

/-- outputs of the deterministic re-execution of a list of messages (the concrete counterpart of `Spec.outsFrom`) -/
def outsOf (h : σ → Event → σ × List Event) (ev : Nat → Event) : σ → List Nat → List Event
  | _, [] => []
  | s, m :: ms => (h s (ev m)).2 ++ outsOf h ev (h s (ev m)).1 ms

/-- walk the history from the left with the LP state before the current group and the contents of the sent entries seen since
the last processed message: at every processed message `p` these are exactly the outputs of the handler on `p`. (Sent entries
after the last processed message are not constrained: they belong to a handler that is still running.) -/
def sentsOk (h : σ → Event → σ × List Event) (ev : Nat → Event) : σ → List Event → List Entry → Prop
  | _, _, [] => True
  | st, acc, .past p :: l => acc = (h st (ev p)).2 ∧ sentsOk h ev (h st (ev p)).1 [] l
  | st, acc, .sent o :: l => sentsOk h ev st (acc ++ [ev o]) l
  | st, acc, .rsent o :: l => sentsOk h ev st (acc ++ [ev o]) l

/-- **the output invariant** of one LP: the message table `ev` gives every sent entry of the history the content of the
corresponding output of the handler invocation that follows it (the one whose `past` entry closes the group), when the handler is
re-executed from `init` over the committed messages `base` and the processed entries before the group -/
def OInv (h : σ → Event → σ × List Event) (ev : Nat → Event) (init : σ) (base : List Nat) (lp : LPState σ) : Prop :=
  sentsOk h ev (replay h ev init base) [] lp.hist

/-- contents of the sent entries (local and remote) of a history segment, in order -/
def sentEvs (ev : Nat → Event) (l : List Entry) : List Event := (l.filter Entry.isSent).map (fun e => ev e.msg)

variable {h : σ → Event → σ × List Event} {ev : Nat → Event} {init : σ} {base : List Nat}

theorem replay_cons (h : σ → Event → σ × List Event) (ev : Nat → Event) (s : σ) (m : Nat) (ms : List Nat) :
    replay h ev s (m :: ms) = replay h ev (h s (ev m)).1 ms := rfl

theorem EndsPast.tail {x : Entry} {l : List Entry} (hl : EndsPast (x :: l)) : EndsPast l := by
  intro e he
  cases l with
  | nil => simp at he
  | cons a as => exact hl e (by rw [List.getLast?_cons_cons]; exact he)

theorem endsPast_nil : EndsPast [] := by intro e he; simp at he

theorem EndsPast.ne_nil_of_sent {x : Entry} {l : List Entry} (hl : EndsPast (x :: l)) (hx : x.isPast = false) : l ≠ [] := by
  rintro rfl
  exact Bool.noConfusion ((hl x rfl).symm.trans hx)

theorem sentsOk_append (l2 : List Entry) : ∀ (A : List Entry), EndsPast A → ∀ (st : σ) (acc : List Event),
    (sentsOk h ev st acc (A ++ l2) ↔
      sentsOk h ev st acc A ∧ sentsOk h ev (replay h ev st (pastMsgs A)) (if A = [] then acc else []) l2)
  | [], _, st, acc => by simp [sentsOk, pastMsgs, replay]
  | .past p :: A', hA, st, acc => by
    have ih := sentsOk_append l2 A' hA.tail (h st (ev p)).1 []
    have hp : pastMsgs (Entry.past p :: A') = p :: pastMsgs A' := rfl
    simp only [List.cons_append, sentsOk, hp, replay_cons, ih, ite_self, reduceCtorEq, if_false, and_assoc]
  | .sent o :: A', hA, st, acc => by
    have ih := sentsOk_append l2 A' hA.tail st (acc ++ [ev o])
    simp only [List.cons_append, sentsOk, show pastMsgs (Entry.sent o :: A') = pastMsgs A' from rfl, ih,
      hA.ne_nil_of_sent rfl, reduceCtorEq, if_false]
  | .rsent o :: A', hA, st, acc => by
    have ih := sentsOk_append l2 A' hA.tail st (acc ++ [ev o])
    simp only [List.cons_append, sentsOk, show pastMsgs (Entry.rsent o :: A') = pastMsgs A' from rfl, ih,
      hA.ne_nil_of_sent rfl, reduceCtorEq, if_false]

theorem sentEvs_cons_past (ev : Nat → Event) (p : Nat) (l : List Entry) : sentEvs ev (.past p :: l) = sentEvs ev l := rfl
theorem sentEvs_cons_sent (ev : Nat → Event) (o : Nat) (l : List Entry) : sentEvs ev (.sent o :: l) = ev o :: sentEvs ev l := rfl
theorem sentEvs_cons_rsent (ev : Nat → Event) (o : Nat) (l : List Entry) : sentEvs ev (.rsent o :: l) = ev o :: sentEvs ev l := rfl

/-- in a segment with the layout `[sent* past]*` the contents of the sent entries are, in order, the outputs of the re-execution of
its processed messages -/
theorem sentsOk_outs : ∀ (l : List Entry) (st : σ) (acc : List Event), sentsOk h ev st acc l → EndsPast l → (l = [] → acc = []) →
    acc ++ sentEvs ev l = outsOf h ev st (pastMsgs l)
  | [], st, acc, _, _, h0 => by rw [h0 rfl]; rfl
  | .past p :: l, st, acc, hok, hl, _ => by
    have ih := sentsOk_outs l _ [] hok.2 hl.tail (fun _ => rfl)
    rw [sentEvs_cons_past, show pastMsgs (Entry.past p :: l) = p :: pastMsgs l from rfl, outsOf, ← ih, hok.1]; rfl
  | .sent o :: l, st, acc, hok, hl, _ => by
    have ih := sentsOk_outs l st (acc ++ [ev o]) hok hl.tail (fun h0 => absurd h0 (hl.ne_nil_of_sent rfl))
    rw [sentEvs_cons_sent, show pastMsgs (Entry.sent o :: l) = pastMsgs l from rfl, ← ih, List.append_assoc]; rfl
  | .rsent o :: l, st, acc, hok, hl, _ => by
    have ih := sentsOk_outs l st (acc ++ [ev o]) hok hl.tail (fun h0 => absurd h0 (hl.ne_nil_of_sent rfl))
    rw [sentEvs_cons_rsent, show pastMsgs (Entry.rsent o :: l) = pastMsgs l from rfl, ← ih, List.append_assoc]; rfl

/-- the group pushed by a forward execution: the allocator's ordinals `alloc k, alloc (k+1), …` carry the contents `evs` -/
theorem sentsOk_outEntries (remote : Nat → Bool) (alloc : Nat → Nat) (m : Nat) : ∀ (evs : List Event) (k : Nat) (st : σ)
    (acc : List Event), (∀ oe ∈ ((List.range' k evs.length).map alloc).zip evs, ev oe.1 = oe.2) →
    (sentsOk h ev st acc (outEntries remote alloc k evs ++ [Entry.past m]) ↔ acc ++ evs = (h st (ev m)).2)
  | [], k, st, acc, _ => by simp [outEntries, sentsOk]
  | e :: es, k, st, acc, hal => by
    rw [List.length_cons, List.range'_succ, List.map_cons, List.zip_cons_cons, List.forall_mem_cons] at hal
    have ih := sentsOk_outEntries remote alloc m es (k + 1) st (acc ++ [e]) hal.2
    have h0 : ev (alloc k) = e := hal.1
    simp only [outEntries]
    split <;> simp [sentsOk, h0, ih]

theorem replay_eq_stFrom (M : SimModel σ) (ℓ : Nat) (ev : Nat → Event) : ∀ (ms : List Nat) (s : σ),
    replay (M.handler ℓ) ev s ms = stFrom M ℓ s (ms.map ev)
  | [], _ => rfl
  | m :: ms, s => by rw [replay_cons, List.map_cons, stFrom, replay_eq_stFrom M ℓ ev ms]

theorem outsOf_eq_outsFrom (M : SimModel σ) (ℓ : Nat) (ev : Nat → Event) : ∀ (ms : List Nat) (s : σ),
    outsOf (M.handler ℓ) ev s ms = outsFrom M ℓ s (ms.map ev)
  | [], _ => rfl
  | m :: ms, s => by rw [outsOf, List.map_cons, outsFrom, outsOf_eq_outsFrom M ℓ ev ms]

theorem replay_eq_lpState (M : SimModel σ) (ℓ : Nat) (ev : Nat → Event) (ms : List Nat) :
    replay (M.handler ℓ) ev (M.init ℓ) ms = lpState M ℓ (ms.map ev) := replay_eq_stFrom M ℓ ev ms _

theorem splitUndo_all (e : Event) : ∀ (U : List Event), (∀ x ∈ U, Event.before e x = true) → TW.splitUndo e U = ([], U)
  | [], _ => rfl
  | x :: l, hU => by
    have ih := splitUndo_all e l (fun y hy => hU y (by simp [hy]))
    simp [TW.splitUndo, ih, hU x (by simp)]

theorem splitUndo_eq (e : Event) (U : List Event) (hU : ∀ x ∈ U, Event.before e x = true) : ∀ (K : List Event),
    (∀ y, K.getLast? = some y → Event.before e y = false) → TW.splitUndo e (K ++ U) = (K, U)
  | [], _ => splitUndo_all e U hU
  | [a], hK => by
    have ha : Event.before e a = false := hK a rfl
    simp [TW.splitUndo, splitUndo_all e U hU, ha]
  | a :: b :: K', hK => by
    have ih := splitUndo_eq e U hU (b :: K') (fun y hy => hK y (by rw [List.getLast?_cons_cons]; exact hy))
    have h1 : TW.splitUndo e (a :: b :: K' ++ U) =
        if (TW.splitUndo e (b :: K' ++ U)).1.isEmpty && Event.before e a then ([], a :: (TW.splitUndo e (b :: K' ++ U)).2)
        else (a :: (TW.splitUndo e (b :: K' ++ U)).1, (TW.splitUndo e (b :: K' ++ U)).2) := by
      simp only [List.cons_append]; rw [TW.splitUndo]
    rw [h1, ih]; simp

theorem sends_append (a b : List Action) : sends (a ++ b) = sends a ++ sends b := List.filterMap_append

theorem sends_undo (c : Option Nat) : ∀ es : List Entry, sends (undoActions c es) = []
  | [] => rfl
  | .past _ :: es | .sent _ :: es | .rsent _ :: es => sends_undo c es

theorem sends_silent (sil : List (Nat × Nat)) : sends (sil.map (fun im => Action.silent im.1 im.2)) = [] :=
  filterMap_silent _ (fun _ _ => rfl) sil

theorem _root_.RootSim.LPFull.Rolled.sends {lp lp' : LPState σ} {k : Nat} {c : Option Nat} {racts : List Action}
    (r : Rolled h ev init base lp k c lp' racts) : sends racts = [] := by
  obtain ⟨ref, sil, rfl⟩ := r.acts
  exact (filterMap_rollbackActs _ (fun _ _ => rfl) (fun _ _ => rfl) (fun _ => rfl) _ k ref sil).trans (sends_undo c _)

theorem sends_outActions (remote : Nat → Bool) (alloc : Nat → Nat) : ∀ (evs : List Event) (k : Nat),
    sends (outActions remote alloc k evs) = ((List.range' k evs.length).map alloc).zip evs
  | [], _ => rfl
  | e :: es, k => by
    rw [outActions, List.length_cons, List.range'_succ, List.map_cons, List.zip_cons_cons, ← sends_outActions remote alloc es (k + 1)]
    split <;> rfl

theorem stepFwd_proj (remote : Nat → Bool) (alloc : Nat → Nat) (s : St σ) (m : Nat) (e : Event) :
    unprocs (stepFwd h remote alloc s m e).2 = [] ∧ antis (stepFwd h remote alloc s m e).2 = [] ∧
    sends (stepFwd h remote alloc s m e).2 = ((List.range' 0 (h s.lp.st e).2.length).map alloc).zip (h s.lp.st e).2 := by
  refine ⟨filterMap_stepFwd _ (fun _ _ => rfl) (fun _ _ => rfl) (fun _ _ => rfl) ..,
    filterMap_stepFwd _ (fun _ _ => rfl) (fun _ _ => rfl) (fun _ _ => rfl) .., ?_⟩
  rw [show (stepFwd h remote alloc s m e).2 = outActions remote alloc 0 (h s.lp.st e).2 ++ [.forward m _] from rfl,
    sends_append, sends_outActions]
  exact List.append_nil _

/-- the history index an ordinary message is executed on top of: the rollback target of `match_straggler_msg` if the straggler
test fires, the end of the history otherwise -/
def execCut (look : Nat → Msg) (lp : LPState σ) (sm : Msg) : Nat :=
  if isStraggler look lp sm then matchStraggler look lp.hist sm else lp.hist.length

theorem plain_core {s s' : St σ} {look : Nat → Msg} {remote : Nat → Bool} {alloc : Nat → Nat} {m f : Nat} {acts : List Action}
    (hL : LInv h ev init base s.lp) (hS : SInv look s.lp) (hk : kindOf look s m f = .exec)
    (hs : step h ev look remote alloc s m f = some (s', acts)) :
    ∃ k outs, k = execCut look s.lp (meOf look m f) ∧
      outs = (h (replay h ev init (base ++ pastMsgs (s.lp.hist.take k))) (ev m)).2 ∧
      EndsPast (s.lp.hist.take k) ∧
      s'.lp.hist = s.lp.hist.take k ++ outEntries remote alloc 0 outs ++ [Entry.past m] ∧
      s'.earlyAntis = s.earlyAntis ∧
      unprocs acts = (pastMsgs (s.lp.hist.drop k)).map (fun y => (y, false)) ∧
      antis acts = (s.lp.hist.drop k).filter Entry.isSent ∧
      sends acts = ((List.range' 0 outs.length).map alloc).zip outs := by
  obtain ⟨k, hk', c⟩ := step_case hs
  rw [hk] at hk'
  subst hk'
  cases c with
  | @straggler lp' racts hd hst =>
    have r := doRollback_spec hL hd
    obtain ⟨u1, u2, u3⟩ := stepFwd_proj (h := h) remote alloc { s with lp := lp' } m (ev m)
    refine ⟨_, _, (if_pos hst).symm, rfl, fun e he => (matchStraggler_last he).1, ?_, rfl, ?_, ?_, ?_⟩
    · rw [stepFwd_hist]
      show lp'.hist ++ outEntries remote alloc 0 (h lp'.st (ev m)).2 ++ _ = _
      rw [r.hist, r.st]
    · rw [unprocs_append, unprocs_append, u1, r.unprocs, List.append_nil]; exact List.append_nil _
    · rw [antis_append, antis_append, u2, r.antis, List.append_nil]; exact List.append_nil _
    · rw [sends_append, sends_append, u3, r.sends]
      show ((List.range' 0 (h lp'.st (ev m)).2.length).map alloc).zip (h lp'.st (ev m)).2 = _
      rw [r.st]
  | inOrder hst =>
    obtain ⟨u1, u2, u3⟩ := stepFwd_proj (h := h) remote alloc s m (ev m)
    refine ⟨_, _, (if_neg (by rw [hst]; exact Bool.false_ne_true)).symm, rfl, ?_, ?_, rfl, ?_, ?_, ?_⟩
    · rw [List.take_length]; exact hS.last_past
    · rw [stepFwd_hist, List.take_length, ← hL.st_ok]
    · rw [u1, List.drop_length]; rfl
    · rw [u2, List.drop_length]; rfl
    · rw [u3, List.take_length, ← hL.st_ok]

/-- **the comparisons of this step agree with the content order**: for every processed message `x` of the history, what
`msg_is_before(msg, x)` returns on the snapshot (`look`; the dequeued message carries the flag word `f + 2`) is the event order of
the contents. See `cmpOk_of_content` for the usual reason (the snapshot shows the contents recorded in `ev` and no ANTI bit on
the history's messages). -/
def CmpOk (look : Nat → Msg) (ev : Nat → Event) (hist : List Entry) (m f : Nat) : Prop :=
  ∀ x ∈ pastMsgs hist, isBefore (meOf look m f) (look x) = Event.before (ev m) (ev x)

/-- the snapshot of message `x` shows the content `ev x` -/
def ContentOk (look : Nat → Msg) (ev : Nat → Event) (x : Nat) : Prop :=
  (look x).destT = (ev x).t ∧ (look x).mType = (ev x).type ∧ (look x).plSize = (ev x).payload.length ∧
  (look x).body = (ev x).payload

instance (look : Nat → Msg) (ev : Nat → Event) (x : Nat) : Decidable (ContentOk look ev x) := by
  unfold ContentOk; infer_instance

theorem cmpOk_of_content {look : Nat → Msg} {ev : Nat → Event} {hist : List Entry} {m f : Nat} (hf : f % 2 = 0)
    (hm : ContentOk look ev m) (hx : ∀ x ∈ pastMsgs hist, ContentOk look ev x ∧ (look x).anti = 0) :
    CmpOk look ev hist m f := by
  intro x hxm
  obtain ⟨⟨x1, x2, x3, x4⟩, x5⟩ := hx x hxm
  obtain ⟨m1, m2, m3, m4⟩ := hm
  have hev : ∀ e : Event, e.toMsg.content = (e.t, 0, e.type, e.payload.length, e.payload) := by
    intro e; simp [Msg.content, Event.toMsg, Msg.anti, Msg.body]
  have ha : (meOf look m f).anti = 0 := by simp [meOf, Msg.anti]; omega
  unfold Event.before
  apply C16.content_only
  · rw [hev]
    show ((look m).destT, (meOf look m f).anti, (look m).mType, (look m).plSize, (look m).body) = _
    rw [ha, m1, m2, m3, m4]
  · rw [hev]
    show ((look x).destT, (look x).anti, (look x).mType, (look x).plSize, (look x).body) = _
    rw [x5, x1, x2, x3, x4]

/-- **the dequeued message is not before what must never be undone**: the abstract history is not empty (it starts with the
`LP_INIT` event), the message is not before the last committed message (GVT safety, C04) and — while nothing is committed yet —
not before the first processed entry (the `LP_INIT` message: under strict causality no message is) -/
structure CommitSafe (ev : Nat → Event) (base : List Nat) (hist : List Entry) (m : Nat) : Prop where
  nonempty : base ++ pastMsgs hist ≠ []
  base_ok : ∀ b, base.getLast? = some b → Event.before (ev m) (ev b) = false
  init_ok : base = [] → ∀ p, (pastMsgs hist).head? = some p → Event.before (ev m) (ev p) = false

theorem getLast_base_past {base : List Nat} {l : List Entry} (hl : EndsPast l) {z : Nat}
    (hz : (base ++ pastMsgs l).getLast? = some z) :
    (l = [] ∧ base.getLast? = some z) ∨ ∃ e, l.getLast? = some e ∧ z = e.msg := by
  cases he : l.getLast? with
  | none =>
    cases List.getLast?_eq_none_iff.mp he
    exact Or.inl ⟨rfl, by rwa [show pastMsgs [] = [] from rfl, List.append_nil] at hz⟩
  | some e =>
    obtain ⟨pre, hpre⟩ := pastMsgs_last l e he (hl e he)
    rw [hpre, ← List.append_assoc, List.getLast?_concat] at hz
    exact Or.inr ⟨e, rfl, (Option.some.inj hz).symm⟩

/-- the three facts `splitUndo_eq` needs, from the concrete scans -/
theorem exec_split_facts {s : St σ} {look : Nat → Msg} {m f k : Nat} (hS : SInv look s.lp)
    (hcmp : CmpOk look ev s.lp.hist m f) (hsafe : CommitSafe ev base s.lp.hist m)
    (hk : k = execCut look s.lp (meOf look m f)) :
    (∀ x ∈ pastMsgs (s.lp.hist.drop k), Event.before (ev m) (ev x) = true) ∧
    (∀ y, ((base ++ pastMsgs (s.lp.hist.take k)).map ev).getLast? = some y → Event.before (ev m) y = false) ∧
    base ++ pastMsgs (s.lp.hist.take k) ≠ [] := by
  -- the entry in front of the cut, if there is one, is a processed message that `m` is not before;
  -- `m` is before every processed message behind the cut
  obtain ⟨hlast, hU⟩ : (∀ e, (s.lp.hist.take k).getLast? = some e →
        e.isPast = true ∧ isBefore (meOf look m f) (look e.msg) = false) ∧
      ∀ x ∈ pastMsgs (s.lp.hist.drop k), Event.before (ev m) (ev x) = true := by
    cases hst : isStraggler look s.lp (meOf look m f) with
    | true =>
      obtain rfl : k = matchStraggler look s.lp.hist (meOf look m f) := hk.trans (if_pos hst)
      refine ⟨fun e he => matchStraggler_last he, fun x hx => ?_⟩
      obtain ⟨last, hl, hbl⟩ := isStraggler_true hst
      have hspec := C01.matchStraggler_spec look s.lp.hist (meOf look m f)
      have hmem := pastMsgs_mem.mp hx
      rw [← hcmp x (pastMsgs_mem.mpr (List.mem_of_mem_drop hmem))]
      obtain ⟨j, hj⟩ := List.mem_iff_getElem?.mp hmem
      rw [List.getElem?_drop] at hj
      by_cases hlt : matchStraggler look s.lp.hist (meOf look m f) + j < s.lp.hist.length - 1
      · exact hspec.2.2 _ _ (by omega) hlt hj rfl
      · -- the last entry: the straggler test itself
        have hlen := (List.getElem?_eq_some_iff.mp hj).1
        rw [show matchStraggler look s.lp.hist (meOf look m f) + j = s.lp.hist.length - 1 by omega,
          ← List.getLast?_eq_getElem?, hl] at hj
        cases hj
        exact hbl
    | false =>
      obtain rfl : k = s.lp.hist.length := hk.trans (if_neg (by rw [hst]; exact Bool.false_ne_true))
      refine ⟨fun e he => ?_, by rw [List.drop_length]; nofun⟩
      rw [List.take_length] at he
      exact ⟨hS.last_past e he, not_straggler_last hS hst he⟩
  have hsub := pastMsgs_take_sub s.lp.hist k
  refine ⟨hU, fun y hy => ?_, fun hnil => ?_⟩
  · rw [List.getLast?_map, Option.map_eq_some_iff] at hy
    obtain ⟨z, hz, rfl⟩ := hy
    rcases getLast_base_past (fun e he => (hlast e he).1) hz with ⟨_, hb⟩ | ⟨e, he, rfl⟩
    · exact hsafe.base_ok z hb
    · rw [← hcmp e.msg (hsub.subset (getLast?_past_mem _ e he (hlast e he).1))]
      exact (hlast e he).2
  · -- nothing kept: nothing is committed, and the first processed message would be undone
    obtain ⟨hb0, hp0⟩ := List.append_eq_nil_iff.mp hnil
    have htk : s.lp.hist.take k = [] := by
      cases he : (s.lp.hist.take k).getLast? with
      | none => exact List.getLast?_eq_none_iff.mp he
      | some e => have := getLast?_past_mem _ e he (hlast e he).1; rw [hp0] at this; cases this
    have hall : pastMsgs (s.lp.hist.drop k) = pastMsgs s.lp.hist := by
      have := congrArg pastMsgs (List.take_append_drop k s.lp.hist)
      rwa [htk] at this
    cases hh : pastMsgs s.lp.hist with
    | nil => exact hsafe.nonempty (by rw [hb0, hh]; rfl)
    | cons p0 _ =>
      have h1 := hsafe.init_ok hb0 p0 (by rw [hh]; rfl)
      rw [hU p0 (by rw [hall, hh]; exact List.mem_cons_self ..)] at h1
      cases h1

/-- **`match_straggler_msg` (with the straggler test in front of it) computes `TW.splitUndo`** on the abstract history: the kept
prefix is `keepOf`, the undone suffix is `undoOf` -/
theorem exec_split {s : St σ} {look : Nat → Msg} {m f k : Nat} (hS : SInv look s.lp)
    (hcmp : CmpOk look ev s.lp.hist m f) (hsafe : CommitSafe ev base s.lp.hist m)
    (hk : k = execCut look s.lp (meOf look m f)) :
    ∃ hd T, absPast ev base s = hd :: T ∧
      (base ++ pastMsgs (s.lp.hist.take k)).map ev = TW.keepOf (ev m) hd T ∧
      (pastMsgs (s.lp.hist.drop k)).map ev = TW.undoOf (ev m) T := by
  obtain ⟨hU, hK, hne⟩ := exec_split_facts (base := base) hS hcmp hsafe hk
  have hP : absPast ev base s = (base ++ pastMsgs (s.lp.hist.take k)).map ev ++ (pastMsgs (s.lp.hist.drop k)).map ev := by
    unfold absPast
    rw [← List.map_append, List.append_assoc, ← pastMsgs_append, List.take_append_drop]
  cases hK' : (base ++ pastMsgs (s.lp.hist.take k)).map ev with
  | nil => simp at hK'; exact absurd hK' (by simpa using hne)
  | cons hd K =>
    rw [hK'] at hP hK
    have hsp := splitUndo_eq (ev m) ((pastMsgs (s.lp.hist.drop k)).map ev)
      (by intro x hx; obtain ⟨y, hy, rfl⟩ := List.mem_map.mp hx; exact hU y hy) K
      (by
        intro y hy
        apply hK y
        cases K with
        | nil => simp at hy
        | cons a as => rw [List.getLast?_cons_cons]; exact hy)
    exact ⟨hd, K ++ (pastMsgs (s.lp.hist.drop k)).map ev, by rw [hP]; rfl, by simp [TW.keepOf, hsp],
      by simp [TW.undoOf, hsp]⟩

theorem sentsOk_prefix (l2 : List Entry) : ∀ (A : List Entry) (st : σ) (acc : List Event),
    sentsOk h ev st acc (A ++ l2) → sentsOk h ev st acc A
  | [], _, _, _ => trivial
  | .past _ :: A', _, _, hok => ⟨hok.1, sentsOk_prefix l2 A' _ _ hok.2⟩
  | .sent _ :: A', st, _, hok => sentsOk_prefix l2 A' st _ hok
  | .rsent _ :: A', st, _, hok => sentsOk_prefix l2 A' st _ hok

/-- **what `send_anti_messages` cancels is what the undone invocations scheduled**: split the history at a group boundary; the
contents of the sent entries of the suffix are, in order, the outputs of the re-execution of its processed messages from the state
after the prefix -/
theorem undone_outs {lp : LPState σ} (hO : OInv h ev init base lp) (hE : EndsPast lp.hist)
    (A R : List Entry) (hh : lp.hist = A ++ R) (hA : EndsPast A) :
    sentEvs ev R = outsOf h ev (replay h ev init (base ++ pastMsgs A)) (pastMsgs R) := by
  unfold OInv at hO
  rw [hh] at hO
  have h2 := ((sentsOk_append R A hA _ _).mp hO).2
  have hR : EndsPast R := by
    intro e he
    apply hE e
    rw [hh, List.getLast?_append, he]; rfl
  have := sentsOk_outs R _ _ h2 hR (by intro _; split <;> rfl)
  rw [replay_append, ← this]
  split <;> rfl

theorem oinv_take {lp lp' : LPState σ} (hO : OInv h ev init base lp) (k : Nat) (hh : lp'.hist = lp.hist.take k) :
    OInv h ev init base lp' := by
  unfold OInv at hO ⊢
  rw [hh]
  rw [← List.take_append_drop k lp.hist] at hO
  exact sentsOk_prefix _ _ _ _ hO

theorem kindOf_exec_of {s : St σ} {look : Nat → Msg} {m f : Nat} (hf : f % 2 = 0)
    (hno : f = 0 ∨ ∀ c ∈ s.earlyAntis, keyAt look c ≠ (f + 2, (look m).mSeq)) : kindOf look s m f = .exec := by
  have h1 : ¬ f % 2 = 1 := by omega
  rcases hno with h0 | hno
  · simp [kindOf, h0]
  · have : unlinkFirst (earlyHit look (f + 2) (look m).mSeq) s.earlyAntis = none :=
      (unlinkFirst_none _ _).mpr (fun c hc => (earlyHit_false_iff _ _ _ _).mpr (hno c hc))
    simp [kindOf, h1, this]

/-- **`OInv` is preserved by every branch of `process_msg`**, provided the message table records, for every ordinal the allocator
hands out during this step, the content that is sent with it -/
theorem step_oinv {s s' : St σ} {look : Nat → Msg} {remote : Nat → Bool} {alloc : Nat → Nat} {m f : Nat} {acts : List Action}
    (hL : LInv h ev init base s.lp) (hS : SInv look s.lp) (hO : OInv h ev init base s.lp)
    (hs : step h ev look remote alloc s m f = some (s', acts))
    (hal : ∀ oe ∈ sends acts, ev oe.1 = oe.2) : OInv h ev init base s'.lp := by
  obtain ⟨k, hk, c⟩ := step_case hs
  cases k with
  | annihilate | park => cases c <;> exact hO
  | antiRollback x =>
    cases c with
    | remoteAnti hd | localAnti hd => exact oinv_take hO _ (doRollback_spec hL hd).hist
  | exec =>
    obtain ⟨k, _, _, rfl, hA, hh, _, _, _, hsd⟩ := plain_core hL hS hk hs
    unfold OInv
    rw [hh, List.append_assoc, sentsOk_append _ _ hA, ite_self, ← replay_append,
      sentsOk_outEntries _ _ _ _ _ _ _ (hsd ▸ hal)]
    exact ⟨oinv_take (lp' := { s.lp with hist := s.lp.hist.take k }) hO k rfl, rfl⟩

/-- `f = 1`, a parked anti-message, an early match: the history is untouched, nothing is un-processed, cancelled or sent -/
theorem discard_core {s s' : St σ} {look : Nat → Msg} {remote : Nat → Bool} {alloc : Nat → Nat} {m f : Nat} {acts : List Action}
    (hs : step h ev look remote alloc s m f = some (s', acts))
    (hk : kindOf look s m f = .annihilate ∨ kindOf look s m f = .park) :
    s'.lp.hist = s.lp.hist ∧ unprocs acts = [] ∧ antis acts = [] ∧ sends acts = [] := by
  obtain ⟨k, hk', c⟩ := step_case hs
  rw [hk'] at hk
  rcases hk with rfl | rfl <;> cases c <;> exact ⟨rfl, rfl, rfl, rfl⟩

/-- an anti-message for a processed message `x` (local with flag word 3, or remote and matched): the shape of the history around
the target and what the step does -/
theorem anti_core {s s' : St σ} {look : Nat → Msg} {remote : Nat → Bool} {alloc : Nat → Nat} {m f x : Nat} {acts : List Action}
    (hL : LInv h ev init base s.lp) (hs : step h ev look remote alloc s m f = some (s', acts))
    (hk : kindOf look s m f = .antiRollback x) :
    ∃ A G B, Around s.lp.hist A G x B ∧ Entry.past x ∉ B ∧ s'.lp.hist = A ∧ s'.earlyAntis = s.earlyAntis ∧
      unprocs acts = (x, true) :: (pastMsgs B).map (fun y => (y, false)) ∧
      antis acts = G ++ B.filter Entry.isSent ∧ sends acts = [] := by
  obtain ⟨k, hk', c⟩ := step_case hs
  rw [hk] at hk'
  subst hk'
  cases c with
  | @remoteAnti A G B _ lp' racts hd a hx hB =>
    have r := doRollback_spec hL hd
    have hBx : Entry.past x ∉ B := fun hm => hB x hm hx
    obtain ⟨e1, _, e3, e4⟩ := r.around a hBx [.markAnti x] [.termRollback (ev x).t, .free x, .free m] ⟨rfl, rfl⟩ ⟨rfl, rfl⟩
    refine ⟨A, G, B, a, hBx, e1, rfl, e3, e4, ?_⟩
    rw [sends_append, show sends (Action.markAnti x :: racts) = sends racts from rfl, r.sends]; rfl
  | @localAnti A G B lp' racts hd a hB =>
    have r := doRollback_spec hL hd
    obtain ⟨e1, _, e3, e4⟩ := r.around a hB [] [.termRollback (ev m).t, .antiDiscard m f, .free m] ⟨rfl, rfl⟩ ⟨rfl, rfl⟩
    refine ⟨A, G, B, a, hB, e1, rfl, e3, e4, ?_⟩
    rw [sends_append, r.sends]; rfl

end RootSim.Refine
