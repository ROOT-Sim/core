import RootSim.Proofs.AllocTree
import RootSim.Proofs.AllocMem
/-! The multi-arena state `MM`: the arena-level invariant `Inv0`, effect of `rs_malloc` / `rs_free` /
stores on the live set, the bytes and `full_ckpt_size`.

`rs_malloc` in an existing arena, `rs_free` and a store all replace one arena by one with the same
identity; what such a replacement does to the invariant, to lookups and to the live set is said once
(`Inv0.replace`, `findArena_replace`, `liveOf_perm_cons`).  A new arena is handled as the insertion of a
fresh (empty) arena followed by an allocation in it. -/
namespace RootSim.Alloc

/-! ### `buddy_allocation_block_compute` -/

theorem bitLen_spec (i k : Nat) : bitLen i ≤ k ↔ i < 2 ^ k := by
  unfold bitLen
  split
  · subst i; simp; exact Nat.two_pow_pos k
  · rename_i h
    rw [← Nat.log2_lt h]; exact Nat.add_one_le_iff

/-- `buddy_allocation_block_compute(n)` is the least `k ≥ B` with `n ≤ 2^k`, i.e. `max B ⌈log2 n⌉` -/
theorem blockExp_le_iff (B n k : Nat) : blockExp B n ≤ k ↔ B ≤ k ∧ n ≤ 2 ^ k := by
  have hm : 0 < max n (2 ^ B) := Nat.lt_of_lt_of_le (Nat.two_pow_pos B) (Nat.le_max_right _ _)
  rw [blockExp, bitLen_spec, Nat.lt_iff_add_one_le, Nat.sub_add_cancel hm, Nat.max_le,
    Nat.pow_le_pow_iff_right (Nat.lt_succ_self 1)]
  exact And.comm

theorem blockExp_spec (B n : Nat) :
    B ≤ blockExp B n ∧ n ≤ 2 ^ blockExp B n ∧ (B < blockExp B n → 2 ^ (blockExp B n - 1) < n) := by
  have h := (blockExp_le_iff B n (blockExp B n)).1 (Nat.le_refl _)
  refine ⟨h.1, h.2, fun hlt => ?_⟩
  apply Nat.lt_of_not_le
  intro hle
  have := (blockExp_le_iff B n (blockExp B n - 1)).2 ⟨Nat.le_sub_one_of_lt hlt, hle⟩
  exact absurd this (Nat.not_le.2 (Nat.sub_one_lt (Nat.ne_of_gt (Nat.lt_of_le_of_lt (Nat.zero_le B) hlt))))

theorem two_pow_T_lt_iff {c : Cfg} (hc : c.ok) (n : Nat) : c.T < blockExp c.B n ↔ 2 ^ c.T < n := by
  rw [← Nat.not_le, blockExp_le_iff, ← Nat.not_le]
  exact not_congr (and_iff_right hc.2)

/-- one arena is well-formed: tree `WF`, memory of the right size -/
def ArenaOk (c : Cfg) (a : Arena) : Prop := a.tree.WF c.B c.T ∧ a.mem.length = 2 ^ c.T

/-- `Σ_arenas (perArena + Σ live block sizes)` -/
def sizeOf (c : Cfg) (as : List Arena) : Nat := (as.map fun a => c.perArena + a.tree.liveBytes c.T).sum

def ids (as : List Arena) : List Nat := as.map (·.id)

/-- the arena-level invariant -/
structure Inv0 (c : Cfg) (s : MM) : Prop where
  ok : ∀ a ∈ s.arenas, ArenaOk c a
  nodup : (ids s.arenas).Nodup
  fresh : ∀ a ∈ s.arenas, a.id < s.nextId
  full : s.full = c.base + sizeOf c s.arenas

theorem Inv0.with_logs {c : Cfg} {s : MM} (h : Inv0 c s) (logs : List (Nat × Ckpt)) : Inv0 c { s with logs := logs } :=
  ⟨h.ok, h.nodup, h.fresh, h.full⟩

@[simp] theorem sizeOf_nil (c) : sizeOf c [] = 0 := rfl
@[simp] theorem sizeOf_cons (c a as) : sizeOf c (a :: as) = c.perArena + a.tree.liveBytes c.T + sizeOf c as := rfl
@[simp] theorem sizeOf_append (c as bs) : sizeOf c (as ++ bs) = sizeOf c as + sizeOf c bs := by
  simp [sizeOf, List.sum_append]
@[simp] theorem ids_append (as bs) : ids (as ++ bs) = ids as ++ ids bs := List.map_append
@[simp] theorem ids_cons (a as) : ids (a :: as) = a.id :: ids as := rfl
@[simp] theorem ids_nil : ids [] = [] := rfl

theorem mem_ids {as : List Arena} {a : Arena} (h : a ∈ as) : a.id ∈ ids as := List.mem_map_of_mem h

theorem findArena_mem {as : List Arena} {id : Nat} {a : Arena} (h : findArena as id = some a) :
    a ∈ as ∧ a.id = id :=
  ⟨List.mem_of_find?_eq_some h, by simpa using List.find?_some h⟩

theorem id_ne_of_nodup {pre post : List Arena} {a : Arena} (hn : (ids (pre ++ a :: post)).Nodup) :
    ∀ x ∈ pre ++ post, x.id ≠ a.id := by
  intro x hx he
  have := (List.perm_middle (a := a.id) (l₁ := ids pre) (l₂ := ids post)).nodup_iff.1 (by simpa using hn)
  exact (List.nodup_cons.1 this).1 (by rw [← he, ← ids_append]; exact mem_ids hx)

theorem findArena_split {pre post : List Arena} {a : Arena} (hn : (ids (pre ++ a :: post)).Nodup) :
    findArena (pre ++ a :: post) a.id = some a := by
  unfold findArena
  rw [List.find?_eq_some_iff_append]
  refine ⟨by simp, pre, post, rfl, fun x hx => ?_⟩
  simpa using id_ne_of_nodup hn x (List.mem_append_left _ hx)

theorem findArena_of_mem {as : List Arena} {a : Arena} (hn : (ids as).Nodup) (h : a ∈ as) :
    findArena as a.id = some a := by
  obtain ⟨pre, post, rfl⟩ := List.append_of_mem h
  exact findArena_split hn

theorem arena_unique {c : Cfg} {s : MM} (hI : Inv0 c s) {a a' : Arena} (ha : a ∈ s.arenas) (ha' : a' ∈ s.arenas)
    (he : a.id = a'.id) : a = a' := by
  have q := findArena_of_mem hI.nodup ha
  rw [he, findArena_of_mem hI.nodup ha'] at q
  exact (Option.some.inj q).symm

theorem modArena_split {pre post : List Arena} {a : Arena} (f : Arena → Arena)
    (hn : (ids (pre ++ a :: post)).Nodup) :
    modArena a.id f (pre ++ a :: post) = pre ++ f a :: post := by
  have hid : ∀ l : List Arena, (∀ x ∈ l, x.id ≠ a.id) → l.map (fun x => if x.id = a.id then f x else x) = l :=
    fun l hl => (List.map_congr_left fun x hx => if_neg (hl x hx)).trans (List.map_id _)
  have hne := id_ne_of_nodup hn
  unfold modArena
  rw [List.map_append, List.map_cons, if_pos rfl, hid pre fun x hx => hne x (List.mem_append_left _ hx),
    hid post fun x hx => hne x (List.mem_append_right _ hx)]

theorem findArena_replace {pre post : List Arena} {a a' : Arena} (hn : (ids (pre ++ a :: post)).Nodup)
    (hid : a'.id = a.id) (id : Nat) :
    findArena (pre ++ a' :: post) id = if id = a.id then some a' else findArena (pre ++ a :: post) id := by
  split
  · rename_i h; subst h
    rw [← hid]; apply findArena_split; simpa [hid] using hn
  · rename_i h
    have h1 : (a'.id == id) = false := by simp [hid]; exact fun e => h e.symm
    have h2 : (a.id == id) = false := by simp; exact fun e => h e.symm
    simp [findArena, List.find?_append, h1, h2]

theorem exists_mem_replace {pre post : List Arena} {a a' : Arena} (hid : a'.id = a.id) (hmem : a'.mem = a.mem) :
    ∀ x ∈ pre ++ a :: post, ∃ x' ∈ pre ++ a' :: post, x'.id = x.id ∧ x'.mem = x.mem := by
  intro x hx
  rcases List.mem_append.1 hx with hx | hx
  · exact ⟨x, List.mem_append_left _ hx, rfl, rfl⟩
  · rcases List.mem_cons.1 hx with rfl | hx
    · exact ⟨a', by simp, hid, hmem⟩
    · exact ⟨x, by simp [hx], rfl, rfl⟩

/-- replacing one arena by one with the same identity -/
theorem Inv0.replace {c : Cfg} {s : MM} {pre post : List Arena} {a a' : Arena} (hI : Inv0 c s)
    (hs : s.arenas = pre ++ a :: post) (hid : a'.id = a.id) (hok : ArenaOk c a') (full' : Nat)
    (hfull : full' + a.tree.liveBytes c.T = s.full + a'.tree.liveBytes c.T) :
    Inv0 c { s with arenas := pre ++ a' :: post, full := full' } := by
  obtain ⟨h1, h2, h3, h4⟩ := hI
  rw [hs] at h1 h2 h3 h4
  have hsplit : ∀ {P : Arena → Prop}, (∀ x ∈ pre ++ a :: post, P x) → P a' → ∀ x ∈ pre ++ a' :: post, P x := by
    intro P h ha' x hx
    rcases List.mem_append.1 hx with hx | hx
    · exact h x (List.mem_append_left _ hx)
    · rcases List.mem_cons.1 hx with rfl | hx
      · exact ha'
      · exact h x (by simp [hx])
  refine ⟨hsplit h1 hok, by simpa [hid] using h2, hsplit h3 (hid ▸ h3 a (by simp)), ?_⟩
  simp only [sizeOf_append, sizeOf_cons] at h4 ⊢
  omega

theorem mem_live {c : Cfg} {s : MM} {b : Nat × Nat × Nat} :
    b ∈ s.live c ↔ ∃ a ∈ s.arenas, a.id = b.1 ∧ (b.2.1, b.2.2) ∈ a.tree.blocks c.T 0 := by
  unfold MM.live
  simp only [List.mem_flatMap, List.mem_map]
  constructor
  · rintro ⟨a, ha, x, hx, rfl⟩; exact ⟨a, ha, rfl, hx⟩
  · rintro ⟨a, ha, h1, h2⟩; exact ⟨a, ha, (b.2.1, b.2.2), h2, by simp [h1]⟩

theorem mem_live_of_mem {c : Cfg} {s : MM} (hI : Inv0 c s) {a : Arena} (ha : a ∈ s.arenas) {o k : Nat} :
    (a.id, o, k) ∈ s.live c ↔ (o, k) ∈ a.tree.blocks c.T 0 := by
  rw [mem_live]
  exact ⟨fun ⟨x, hx, he, hb⟩ => arena_unique hI hx ha he ▸ hb, fun hb => ⟨a, ha, rfl, hb⟩⟩

theorem mem_arena_of_live {c : Cfg} {s : MM} {b : Nat × Nat × Nat} (h : b ∈ s.live c) :
    ∃ a ∈ s.arenas, a.id = b.1 := by
  obtain ⟨a, ha, e, _⟩ := mem_live.1 h
  exact ⟨a, ha, e⟩

/-- `MM.live` as a function of the arena list -/
def liveOf (c : Cfg) (as : List Arena) : List (Nat × Nat × Nat) :=
  as.flatMap fun a => (a.tree.blocks c.T 0).map fun b => (a.id, b.1, b.2)

theorem live_eq (c : Cfg) (s : MM) : s.live c = liveOf c s.arenas := rfl

/-- If the tree of one arena gains the block `b` (as a permutation of its live blocks), the live set
gains `(id, b)`.  Read from right to left: loses. -/
theorem liveOf_perm_cons {c : Cfg} {pre post : List Arena} {a a' : Arena} (hid : a'.id = a.id) {b : Nat × Nat}
    (h : (a'.tree.blocks c.T 0).Perm (b :: a.tree.blocks c.T 0)) :
    (liveOf c (pre ++ a' :: post)).Perm ((a.id, b.1, b.2) :: liveOf c (pre ++ a :: post)) := by
  simp only [liveOf, List.flatMap_append, List.flatMap_cons, hid]
  exact (((h.map _).append_right _).append_left _).trans List.perm_middle

theorem liveBytes_of_perm {T : Nat} {t t' : BT} {b : Nat × Nat} (h : (t'.blocks T 0).Perm (b :: t.blocks T 0)) :
    t'.liveBytes T = 2 ^ b.2 + t.liveBytes T :=
  (h.map fun b : Nat × Nat => 2 ^ b.2).sum_nat

theorem blocks_nodup {B k : Nat} {t : BT} (h : t.WF B k) (o : Nat) : (t.blocks k o).Nodup :=
  (BT.blocks_sorted h o).imp fun {a b} hab he => by
    subst he
    exact absurd hab (Nat.not_le.2 (lt_add_two_pow a.1 a.2))

/-! ### `rs_malloc` -/

theorem mallocIn_spec {c : Cfg} {e : Nat} (hc : c.ok) (hBe : c.B ≤ e) (heT : e ≤ c.T) (as : List Arena)
    (hok : ∀ a ∈ as, ArenaOk c a) :
    (mallocIn c.T e as = none ∧ ∀ a ∈ as, a.tree.longest c.T < e) ∨
    ∃ pre a post t' off, as = pre ++ a :: post ∧
      mallocIn c.T e as = some (pre ++ { a with tree := t' } :: post, ⟨a.id, off⟩) ∧
      a.tree.bmalloc c.T e = some (t', off) := by
  induction as with
  | nil => left; simp [mallocIn]
  | cons a rest ih =>
    rcases ih (fun x hx => hok x (by simp [hx])) with ⟨h1, h2⟩ | ⟨pre, b, post, t', off, h1, h2, h3⟩
    · cases hb : a.tree.bmalloc c.T e with
      | none =>
        left
        refine ⟨by simp [mallocIn, h1, hb], List.forall_mem_cons.2 ⟨?_, h2⟩⟩
        exact (BT.bmalloc_eq_none hc.1 hBe heT (hok a (by simp)).1).1 hb
      | some r =>
        right
        exact ⟨[], a, rest, r.1, r.2, rfl, by simp [mallocIn, h1, hb], by simp [hb]⟩
    · right
      exact ⟨a :: pre, b, post, t', off, by simp [h1], by simp [mallocIn, h2], h3⟩

/-- What a successful allocation does (common to the "existing arena" and "new arena" paths). -/
structure AllocRes (c : Cfg) (s s' : MM) (p : Ptr) (e : Nat) : Prop where
  inv : Inv0 c s'
  live : ∀ b, b ∈ s'.live c ↔ b = (p.aid, p.off, e) ∨ b ∈ s.live c
  fresh : (p.aid, p.off, e) ∉ s.live c
  inside : p.off + 2 ^ e ≤ 2 ^ c.T
  aligned : 2 ^ e ∣ p.off
  mem : ∀ a ∈ s.arenas, ∃ a' ∈ s'.arenas, a'.id = a.id ∧ a'.mem = a.mem
  logs : s'.logs = s.logs
  sub : (ids s.arenas).Sublist (ids s'.arenas)
  full : s'.full = s.full + 2 ^ e + (s'.arenas.length - s.arenas.length) * c.perArena
  grow : s.arenas.length ≤ s'.arenas.length

theorem AllocRes.of_bmalloc {c : Cfg} {s : MM} {pre post : List Arena} {a : Arena} {t' : BT} {off e : Nat}
    (hc : c.ok) (hI : Inv0 c s) (hs : s.arenas = pre ++ a :: post) (hBe : c.B ≤ e) (heT : e ≤ c.T)
    (hb : a.tree.bmalloc c.T e = some (t', off)) (full' : Nat) (hfull : full' = s.full + 2 ^ e) :
    AllocRes c s { s with arenas := pre ++ { a with tree := t' } :: post, full := full' } ⟨a.id, off⟩ e := by
  have ha : a ∈ s.arenas := by rw [hs]; simp
  have hok := hI.ok a ha
  have hle : e ≤ a.tree.longest c.T := Nat.le_of_not_lt fun hlt => by
    rw [(BT.bmalloc_eq_none hc.1 hBe heT hok.1).2 hlt] at hb; cases hb
  obtain ⟨t'', off', q1, q2, q3, q4, q5⟩ := BT.bmalloc_spec hc.1 hBe heT hok.1 hle
  obtain ⟨rfl, rfl⟩ : t' = t'' ∧ off = off' := by simpa [hb] using q1
  have hp := q5 0
  rw [Nat.zero_add] at hp
  have hnew : (off, e) ∉ a.tree.blocks c.T 0 := (List.nodup_cons.1 (hp.nodup_iff.1 (blocks_nodup q2 0))).1
  exact {
    inv := hI.replace (a' := { a with tree := t' }) hs rfl ⟨q2, hok.2⟩ full'
      (by rw [hfull, liveBytes_of_perm hp]; exact Nat.add_assoc _ _ _)
    live := fun b => by
      rw [live_eq, live_eq, hs]
      exact (liveOf_perm_cons (a := a) (a' := { a with tree := t' }) rfl hp).mem_iff.trans List.mem_cons
    fresh := fun h => hnew ((mem_live_of_mem hI ha).1 h)
    inside := q3
    aligned := q4
    mem := by rw [hs]; exact exists_mem_replace rfl rfl
    logs := rfl
    sub := by simp [hs]
    full := by simp [hs, hfull]
    grow := by simp [hs] }

theorem length_insertAt {α} (l : List α) (i : Nat) (a : α) : (insertAt l i a).length = l.length + 1 := by
  rw [insertAt, List.perm_middle.length_eq, List.take_append_drop, List.length_cons]

theorem mem_insertAt {α} {l : List α} {i : Nat} {a x : α} : x ∈ insertAt l i a ↔ x = a ∨ x ∈ l := by
  rw [insertAt, List.perm_middle.mem_iff, List.take_append_drop, List.mem_cons]

/-- `rs_malloc` when no arena can serve the request: a fresh (completely free) arena is inserted at `ins`.
This alone changes neither the live set nor the bytes. -/
theorem Inv0.insertFresh {c : Cfg} {s : MM} (hc : c.ok) (hI : Inv0 c s) (ins : Nat) :
    Inv0 c { s with arenas := insertAt s.arenas ins (Arena.fresh c s.nextId), full := s.full + c.perArena,
                    nextId := s.nextId + 1 } ∧
    liveOf c (insertAt s.arenas ins (Arena.fresh c s.nextId)) = s.live c := by
  have hsplit := List.take_append_drop ins s.arenas
  have hnid : s.nextId ∉ ids s.arenas := fun hm => by
    obtain ⟨x, hx, he⟩ := List.mem_map.1 hm
    exact absurd (hI.fresh x hx) (by rw [he]; exact Nat.lt_irrefl _)
  refine ⟨⟨?_, ?_, ?_, ?_⟩, ?_⟩
  · intro x hx
    rcases mem_insertAt.1 hx with rfl | hx
    · exact ⟨by simpa [Arena.fresh] using hc.2, by simp [Arena.fresh]⟩
    · exact hI.ok x hx
  · have := hI.nodup
    rw [← hsplit, ids_append] at this hnid
    simp only [insertAt, ids_append, ids_cons]
    exact List.perm_middle.nodup_iff.2 (List.nodup_cons.2 ⟨hnid, this⟩)
  · intro x hx
    rcases mem_insertAt.1 hx with rfl | hx
    · exact Nat.lt_succ_self _
    · exact Nat.lt_succ_of_lt (hI.fresh x hx)
  · have := hI.full
    rw [← hsplit, sizeOf_append] at this
    simp only [insertAt, sizeOf_append, sizeOf_cons, Arena.fresh, BT.liveBytes, BT.blocks_free]
    simp only [List.map_nil, List.sum_nil]
    omega
  · simp only [live_eq, liveOf, insertAt, List.flatMap_append, List.flatMap_cons, Arena.fresh, BT.blocks_free,
      List.map_nil, List.nil_append]
    rw [← List.flatMap_append, hsplit]

/-- the three outcomes of `rs_malloc`; a new arena is created only when no existing one can serve the
request -/
theorem rsMalloc_spec {c : Cfg} {s : MM} (hc : c.ok) (hI : Inv0 c s) (n ins : Nat) :
    (n = 0 ∧ rsMalloc c s n ins = (s, .null)) ∨
    (2 ^ c.T < n ∧ rsMalloc c s n ins = (s, .enomem)) ∨
    (0 < n ∧ n ≤ 2 ^ c.T ∧ ∃ s' p, rsMalloc c s n ins = (s', .ptr p) ∧ AllocRes c s s' p (blockExp c.B n) ∧
      (s'.arenas.length = s.arenas.length ∨ ∀ a ∈ s.arenas, a.tree.longest c.T < blockExp c.B n)) := by
  by_cases hn : n = 0
  · left; exact ⟨hn, by simp [rsMalloc, hn]⟩
  by_cases hT : c.T < blockExp c.B n
  · right; left
    exact ⟨(two_pow_T_lt_iff hc n).1 hT, by simp [rsMalloc, hn, hT]⟩
  right; right
  refine ⟨Nat.pos_of_ne_zero hn, Nat.le_of_not_lt (mt (two_pow_T_lt_iff hc n).2 hT), ?_⟩
  have heT : blockExp c.B n ≤ c.T := Nat.le_of_not_lt hT
  have hBe := (blockExp_spec c.B n).1
  simp only [rsMalloc, hn, hT, if_false]
  generalize blockExp c.B n = e at *
  rcases mallocIn_spec hc hBe heT s.arenas hI.ok with ⟨h1, h2⟩ | ⟨pre, a, post, t', off, h1, h2, h3⟩
  · obtain ⟨t', off, q1, -⟩ :=
      BT.bmalloc_spec (t := .free) hc.1 hBe heT (by simpa using hc.2) (by simpa using heT)
    obtain ⟨hI0, hl0⟩ := hI.insertFresh hc ins
    have A := AllocRes.of_bmalloc hc hI0 (pre := s.arenas.take ins) (post := s.arenas.drop ins) rfl hBe heT q1
      (s.full + 2 ^ e + c.perArena) (Nat.add_right_comm _ _ _)
    simp only [h1, Arena.fresh, q1]
    refine ⟨_, _, rfl, ?_, Or.inr h2⟩
    exact {
      inv := A.inv
      live := fun b => by rw [← hl0]; exact A.live b
      fresh := fun h => A.fresh (by rw [live_eq]; exact hl0 ▸ h)
      inside := A.inside
      aligned := A.aligned
      mem := fun x hx => A.mem x (mem_insertAt.2 (Or.inr hx))
      logs := A.logs
      sub := List.Sublist.trans (by
        simp only [insertAt, ids_append, ids_cons]
        conv => lhs; rw [← List.take_append_drop ins s.arenas, ids_append]
        exact (List.Sublist.refl _).append (List.sublist_cons_self _ _)) A.sub
      full := by simp only [length_insertAt, Nat.add_sub_cancel_left, Nat.one_mul]
      grow := by simp only [length_insertAt]; exact Nat.le_succ _ }
  · simp only [h2]
    exact ⟨_, _, rfl, AllocRes.of_bmalloc hc hI h1 hBe heT h3 _ rfl, Or.inl (by simp [h1])⟩

theorem rsMalloc_ptr {c : Cfg} {s s' : MM} {n ins : Nat} {p : Ptr} (hc : c.ok) (hI : Inv0 c s)
    (h : rsMalloc c s n ins = (s', .ptr p)) : AllocRes c s s' p (blockExp c.B n) := by
  rcases rsMalloc_spec hc hI n ins with ⟨_, h2⟩ | ⟨_, h2⟩ | ⟨_, _, s'', q, h2, hA, _⟩
  · rw [h2] at h; cases h
  · rw [h2] at h; cases h
  · rw [h2] at h; cases h; exact hA

theorem pairwise_or {α} {R : α → α → Prop} {l : List α} (h : l.Pairwise R) {a b : α} (ha : a ∈ l) (hb : b ∈ l)
    (hne : a ≠ b) : R a b ∨ R b a := by
  induction l with
  | nil => cases ha
  | cons x l ih =>
    rw [List.pairwise_cons] at h
    rw [List.mem_cons] at ha hb
    rcases ha with rfl | ha <;> rcases hb with rfl | hb
    · exact absurd rfl hne
    · exact Or.inl (h.1 b hb)
    · exact Or.inr (h.1 a ha)
    · exact ih h.2 ha hb

theorem live_disjoint {c : Cfg} {s : MM} (hI : Inv0 c s) {id o1 k1 o2 k2 : Nat}
    (h1 : (id, o1, k1) ∈ s.live c) (h2 : (id, o2, k2) ∈ s.live c) (hne : (o1, k1) ≠ (o2, k2)) :
    o1 + 2 ^ k1 ≤ o2 ∨ o2 + 2 ^ k2 ≤ o1 := by
  obtain ⟨a, ha, rfl⟩ := mem_arena_of_live h1
  rw [mem_live_of_mem hI ha] at h1 h2
  exact pairwise_or (BT.blocks_sorted (hI.ok a ha).1 0) h1 h2 hne

theorem live_bounds {c : Cfg} {s : MM} (hI : Inv0 c s) {id o k : Nat} (h : (id, o, k) ∈ s.live c) :
    c.B ≤ k ∧ k ≤ c.T ∧ o + 2 ^ k ≤ 2 ^ c.T ∧ 2 ^ k ∣ o := by
  obtain ⟨a, ha, _, b⟩ := mem_live.1 h
  have := BT.blocks_bounds (hI.ok a ha).1 b
  rw [Nat.zero_add, Nat.sub_zero] at this
  exact ⟨this.1, this.2.1, this.2.2.2.1, this.2.2.2.2⟩

theorem live_off_lt {c : Cfg} {s : MM} (hI : Inv0 c s) {id o k : Nat} (h : (id, o, k) ∈ s.live c) : o < 2 ^ c.T :=
  Nat.lt_of_lt_of_le (lt_add_two_pow o k) (live_bounds hI h).2.2.1

theorem liveBytes_le_full {c : Cfg} {s : MM} (hI : Inv0 c s) {a : Arena} (ha : a ∈ s.arenas) :
    a.tree.liveBytes c.T ≤ s.full := by
  obtain ⟨pre, post, hs⟩ := List.append_of_mem ha
  rw [hI.full, hs, sizeOf_append, sizeOf_cons]
  omega

theorem blockAt_iff {c : Cfg} {s : MM} (hI : Inv0 c s) (p : Ptr) (j : Nat) :
    s.blockAt c p = some j ↔ (p.aid, p.off, j) ∈ s.live c := by
  obtain ⟨aid, off⟩ := p
  simp only [MM.blockAt]
  constructor
  · intro h
    split at h
    · cases h
    · rename_i a ha
      obtain ⟨h1, h2⟩ := findArena_mem ha
      obtain ⟨b, hb, rfl⟩ := Option.map_eq_some_iff.1 h
      have hp : b.1 = off := by simpa using List.find?_some hb
      exact mem_live.2 ⟨a, h1, h2, by rw [← hp]; exact List.mem_of_find?_eq_some hb⟩
  · intro h
    obtain ⟨a, ha, rfl⟩ : ∃ a ∈ s.arenas, a.id = aid := mem_arena_of_live h
    rw [mem_live_of_mem hI ha] at h
    rw [findArena_of_mem hI.nodup ha]
    simp only
    cases hf : List.find? (fun b => b.1 == off) (a.tree.blocks c.T 0) with
    | none => exact absurd (List.find?_eq_none.1 hf _ h) (by simp)
    | some b =>
      have hp : b.1 = off := by simpa using List.find?_some hf
      -- two blocks of a sorted list with the same start address are equal
      by_cases hne : b = (off, j)
      · rw [hne]; rfl
      · rcases pairwise_or (BT.blocks_sorted (hI.ok a ha).1 0) (List.mem_of_find?_eq_some hf) h hne with h | h
        · exact absurd (hp ▸ h) (Nat.not_le.2 (lt_add_two_pow b.1 b.2))
        · exact absurd (hp ▸ h) (Nat.not_le.2 (lt_add_two_pow off j))

/-! ### `rs_free` -/

structure FreeRes (c : Cfg) (s s' : MM) (p : Ptr) (j : Nat) : Prop where
  inv : Inv0 c s'
  live : ∀ b, b ∈ s'.live c ↔ b ∈ s.live c ∧ b ≠ (p.aid, p.off, j)
  mem : ∀ a ∈ s.arenas, ∃ a' ∈ s'.arenas, a'.id = a.id ∧ a'.mem = a.mem
  ids : ids s'.arenas = ids s.arenas
  logs : s'.logs = s.logs
  full : s'.full + 2 ^ j = s.full
  reusable : ∃ a' ∈ s'.arenas, a'.id = p.aid ∧ j ≤ a'.tree.longest c.T
  next : s'.nextId = s.nextId

theorem rsFree_spec {c : Cfg} {s : MM} (hc : c.ok) (hI : Inv0 c s) {p : Ptr} {j : Nat}
    (hp : (p.aid, p.off, j) ∈ s.live c) : ∃ s', rsFree c s (some p) = some s' ∧ FreeRes c s s' p j := by
  obtain ⟨aid, off⟩ := p
  obtain ⟨a, ha, rfl⟩ : ∃ a ∈ s.arenas, a.id = aid := mem_arena_of_live hp
  simp only at hp
  have hbk : (off, j) ∈ a.tree.blocks c.T 0 := (mem_live_of_mem hI ha).1 hp
  obtain ⟨pre, post, hs⟩ := List.append_of_mem ha
  have hnd : (ids (pre ++ a :: post)).Nodup := hs ▸ hI.nodup
  have hok := hI.ok a ha
  have hoff : ¬ 2 ^ c.T ≤ off := Nat.not_le.2 (live_off_lt hI hp)
  obtain ⟨t', q1, q2, q3, q4⟩ := BT.bfree_spec (base := 0) (d := off) (o := off) hc.1 hok.1
    (by rwa [Nat.zero_add]) (Nat.le_refl _) (lt_add_two_pow off j)
  have hperm := q4 0
  rw [Nat.zero_add] at hperm
  have hlb := liveBytes_of_perm hperm
  have hfull : 2 ^ j ≤ s.full := Nat.le_trans (hlb ▸ Nat.le_add_right _ _) (liveBytes_le_full hI ha)
  have hI' : Inv0 c { s with arenas := pre ++ { a with tree := t' } :: post, full := s.full - 2 ^ j } :=
    hI.replace (a' := { a with tree := t' }) hs rfl ⟨q2, hok.2⟩ _
      (by rw [hlb, ← Nat.add_assoc, Nat.sub_add_cancel hfull])
  have hgone : (a.id, off, j) ∉ liveOf c (pre ++ { a with tree := t' } :: post) := fun h =>
    (List.nodup_cons.1 (hperm.nodup_iff.1 (blocks_nodup hok.1 0))).1
      ((mem_live_of_mem hI' (a := { a with tree := t' }) (by simp)).1 h)
  have hlive := liveOf_perm_cons (c := c) (pre := pre) (post := post) (a := { a with tree := t' }) (a' := a) rfl hperm
  refine ⟨_, ?_, {
    inv := hI'
    live := fun b => by
      rw [live_eq, live_eq, hs, hlive.mem_iff, List.mem_cons]
      exact ⟨fun h => ⟨Or.inr h, fun e => hgone (e ▸ h)⟩, fun h => h.1.resolve_left h.2⟩
    mem := by rw [hs]; exact exists_mem_replace rfl rfl
    ids := by simp [hs]
    logs := rfl
    full := Nat.sub_add_cancel hfull
    reusable := ⟨{ a with tree := t' }, by simp, rfl, q3⟩
    next := rfl }⟩
  simp only [rsFree, hs, findArena_split hnd, hoff, if_false, q1, modArena_split _ hnd]

/-! ### loads and stores -/

theorem peek_of_mem {c : Cfg} {s s' : MM} (hI : Inv0 c s) (hI' : Inv0 c s')
    (hm : ∀ a ∈ s.arenas, ∃ a' ∈ s'.arenas, a'.id = a.id ∧ a'.mem = a.mem) {a : Arena} (ha : a ∈ s.arenas)
    (o len : Nat) : s'.peek a.id o len = s.peek a.id o len := by
  obtain ⟨a', ha', e1, e2⟩ := hm a ha
  unfold MM.peek
  rw [findArena_of_mem hI.nodup ha, ← e1, findArena_of_mem hI'.nodup ha']
  simp only [e2]

theorem bytes_of_mem {c : Cfg} {s s' : MM} (hI : Inv0 c s) (hI' : Inv0 c s')
    (hm : ∀ a ∈ s.arenas, ∃ a' ∈ s'.arenas, a'.id = a.id ∧ a'.mem = a.mem) {b : Nat × Nat × Nat}
    (hb : b ∈ s.live c) : s'.bytes b = s.bytes b := by
  obtain ⟨a, ha, e⟩ := mem_arena_of_live hb
  unfold MM.bytes
  rw [← e]; exact peek_of_mem hI hI' hm ha _ _

/-- what a store of `bs` at offset `o` of arena `aid` does -/
structure PokeRes (c : Cfg) (s s' : MM) (aid o : Nat) (bs : List Nat) : Prop where
  inv : Inv0 c s'
  live : s'.live c = s.live c
  same : s'.peek aid o bs.length = bs
  frame : ∀ id o' len, (id ≠ aid ∨ o' + len ≤ o ∨ o + bs.length ≤ o') → s'.peek id o' len = s.peek id o' len
  ids : ids s'.arenas = ids s.arenas
  logs : s'.logs = s.logs

theorem poke_spec {c : Cfg} {s : MM} (hI : Inv0 c s) {a : Arena} (ha : a ∈ s.arenas) (o : Nat) (bs : List Nat)
    (hb : o + bs.length ≤ 2 ^ c.T) : PokeRes c s (s.poke a.id o bs) a.id o bs := by
  obtain ⟨pre, post, hs⟩ := List.append_of_mem ha
  have hnd : (ids (pre ++ a :: post)).Nodup := hs ▸ hI.nodup
  have hok := hI.ok a ha
  have hw : o + bs.length ≤ a.mem.length := by rw [hok.2]; exact hb
  have hp : s.poke a.id o bs = { s with arenas := pre ++ { a with mem := writeAt a.mem o bs } :: post } := by
    unfold MM.poke; rw [hs, modArena_split _ hnd]
  have hfa := fun id => findArena_replace (a' := { a with mem := writeAt a.mem o bs }) hnd rfl id
  rw [hp]
  exact {
    inv := hI.replace (a' := { a with mem := writeAt a.mem o bs }) hs rfl
      ⟨hok.1, by simp [writeAt_length hw, hok.2]⟩ s.full rfl
    live := by simp [MM.live, hs]
    same := by
      simp only [MM.peek, hfa, if_true]
      exact readAt_writeAt_same hw
    frame := fun id o' len h => by
      simp only [MM.peek, hfa, hs]
      by_cases he : id = a.id
      · subst he
        rw [findArena_split hnd, if_pos rfl]
        refine readAt_ext fun i h1 h2 => ?_
        rw [writeAt_get hw, if_neg]
        rcases h with h | h | h
        · exact absurd rfl h
        · exact fun q => Nat.not_le.2 (Nat.lt_of_lt_of_le h2 h) q.1
        · exact fun q => Nat.not_le.2 q.2 (Nat.le_trans h h1)
      · rw [if_neg he]
    ids := by simp [hs]
    logs := rfl }

end RootSim.Alloc
