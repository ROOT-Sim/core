import RootSim.Proofs.GvtNodeInv
/-! The counting invariant of the node-level GVT round: holds at the start of a round, preserved by every
step, hence in every reachable state, for any number of nodes and threads and any interleaving.

Every step replaces one thread and at most the node of that thread, so `inv_local_step` reduces the
preservation of the sums and counts of `Inv` to facts about the replaced thread and node alone. -/
namespace RootSim.GvtNode

theorem counts_set {s s' : St} {t : Nat} {th th' : Thr} (h : s.thr[t]? = some th) (hn : th'.node = th.node)
    (hthr : s'.thr = s.thr.set t th') (k : Nat) :
    nThr s' k = nThr s k ∧
    nReported s' k + (if th.node = k ∧ th.stage.reported = true then 1 else 0)
      = nReported s k + (if th.node = k ∧ th'.stage.reported = true then 1 else 0) ∧
    nRedWait s' k + (if th.node = k ∧ th.stage = .reduceWait then 1 else 0)
      = nRedWait s k + (if th.node = k ∧ th'.stage = .reduceWait then 1 else 0) := by
  have a := countP_set_add h th' (fun th => decide (th.node = k))
  have b := countP_set_add h th' (fun th => th.node = k && th.stage.reported)
  have c := countP_set_add h th' (fun th => th.node = k && th.stage = .reduceWait)
  simp only [hn, Bool.and_eq_true, decide_eq_true_eq] at a b c
  simp only [nThr, nReported, nRedWait, hthr]
  exact ⟨by omega, b, c⟩

/-- the balance at node `k` (whose `polled` goes from `p` to `p'`) survives the replacement of thread `t` and
node `th.node` if what `th`, `nd` and the in-flight list contribute to its two sides moves by the same amount -/
theorem balance_step (old : Bool) {s s' : St} {t : Nat} {th th' : Thr} {nd nd' : Node}
    (h : s.thr[t]? = some th) (hnd : s.nodes[th.node]? = some nd) (hthr : s'.thr = s.thr.set t th')
    (hnodes : s'.nodes = s.nodes.set th.node nd') (hn : th'.node = th.node) {k p p' : Nat}
    (hbal : (eff nd').count k + (if th.node = k then nd.polled else 0)
              + ((th'.unrep.get old).count k + (if th.node = k then th.recv.get old else 0) + flightTo old s k)
          = (eff nd).count k + (if th.node = k then nd'.polled else 0)
              + ((th.unrep.get old).count k + (if th.node = k then th'.recv.get old else 0) + flightTo old s' k))
    (hp : (if th.node = k then nd.polled else 0) + p' = (if th.node = k then nd'.polled else 0) + p)
    (bal : reportedTo s k + unreportedTo old s k = p + unpolledAt old s k + flightTo old s k) :
    reportedTo s' k + unreportedTo old s' k = p' + unpolledAt old s' k + flightTo old s' k := by
  have b1 := sumBy_set (fun nd => (eff nd).count k) s.nodes _ nd nd' hnd
  have b2 := sumBy_set (fun th => (th.unrep.get old).count k) s.thr t th th' h
  have b3 := sumBy_set (fun th => if th.node = k then th.recv.get old else 0) s.thr t th th' h
  simp only [hn] at b3
  simp only [reportedTo, unreportedTo, unpolledAt, hthr, hnodes] at bal ⊢
  exact balance_arith bal b1 b2 b3 hbal hp

theorem allContrib_get {s : St} {k : Nat} {nd : Node} (h : s.nodes[k]? = some nd)
    (ha : allContrib s = true) : nd.contrib.isSome = true :=
  List.all_eq_true.1 ha nd (List.mem_of_getElem? h)

/-- once the collective is complete, a node step that leaves `contrib` alone does not change its result -/
theorem contrib_same {s s' : St} {k0 : Nat} {nd nd' : Node} (h : s.nodes[k0]? = some nd)
    (hn : s'.nodes = s.nodes.set k0 nd') (hc : nd'.contrib = nd.contrib) (ha : allContrib s = true) (k : Nat) :
    allContrib s' = true ∧ scatter s' k = scatter s k := by
  constructor
  · rw [allContrib, hn, List.all_eq_true]
    intro x hx
    rcases List.mem_or_eq_of_mem_set hx with hx | rfl
    · exact List.all_eq_true.1 ha x hx
    · rw [hc]; exact allContrib_get h ha
  · have := sumBy_set (fun nd => (nd.contrib.getD []).count k) s.nodes k0 nd nd' h
    rw [hc] at this
    simp only [scatter, hn]; omega

/-- a step that replaces thread `t` (`th` by `th'`, same node) and its node (`nd` by `nd'`) and possibly the
in-flight list preserves `Inv` if `th'` is well-formed, a complete collective is left alone, and the
conjuncts of `NodeOK` hold of `nd'` with every sum and count replaced by its change at `th`, `nd` alone -/
theorem inv_local_step (old : Bool) {s s' : St} {t : Nat} {th th' : Thr} {nd nd' : Node} (hinv : Inv old s)
    (h : s.thr[t]? = some th) (hnd : s.nodes[th.node]? = some nd)
    (hN : s'.N = s.N) (hthr : s'.thr = s.thr.set t th') (hnodes : s'.nodes = s.nodes.set th.node nd')
    (hok : ThrOK old s.nodes.length th') (hn : th'.node = th.node)
    (hdep : allContrib s = true → nd'.contrib = nd.contrib)
    (hcc : nd'.cc + (if th.stage.reported = true then 1 else 0)
         = nd.cc + (if th'.stage.reported = true then 1 else 0))
    (hrw : (if nd'.contrib.isSome ∧ nd'.subtracted = false then 1 else 0)
             + (if th.stage = .reduceWait then 1 else 0)
         = (if nd.contrib.isSome ∧ nd.subtracted = false then 1 else 0)
             + (if th'.stage = .reduceWait then 1 else 0))
    (hrecv : nd'.totalRecv = (nd'.cc : Int) + nd'.polled
               - (if nd'.subtracted then ((nd'.toReceive.getD 0 : Nat) : Int) + s.N else 0))
    (hci : nd'.contrib.isSome ↔ nd'.cc = s.N)
    (hsub : nd'.subtracted = true → allContrib s = true ∧ nd'.toReceive = some (scatter s th.node))
    (hbal : ∀ k, (eff nd').count k + (if th.node = k then nd.polled else 0)
          + ((th'.unrep.get old).count k + (if th.node = k then th.recv.get old else 0) + flightTo old s k)
        = (eff nd).count k + (if th.node = k then nd'.polled else 0)
          + ((th.unrep.get old).count k + (if th.node = k then th'.recv.get old else 0) + flightTo old s' k)) :
    Inv old s' := by
  constructor
  · intro t' x hx
    rw [hthr] at hx; rw [hnodes, List.length_set]
    rcases getElem?_set_cases hx with ⟨_, rfl⟩ | ⟨_, hx⟩
    · exact hok
    · exact hinv.thr t' x hx
  · intro k nd1 hk
    obtain ⟨c1, c2, c3⟩ := counts_set h hn hthr k
    have coll := fun ha => contrib_same hnd hnodes (hdep ha) ha k
    rw [hnodes] at hk
    rcases getElem?_set_cases hk with ⟨rfl, rfl⟩ | ⟨hne, hk⟩
    · have I := hinv.node _ nd hnd
      simp only [true_and] at c2 c3
      refine ⟨?_, ?_, ?_, ?_, ?_, ?_, ?_⟩
      · rw [c1, hN]; exact I.nthr
      · apply Nat.add_right_cancel (m := if th.stage.reported = true then 1 else 0)
        rw [hcc, c2, I.cc_eq]
      · apply Nat.add_right_cancel (m := if th.stage = .reduceWait then 1 else 0)
        rw [c3, hrw, I.redwait]
      · rw [hN]; exact hrecv
      · rw [hN]; exact hci
      · intro hs
        obtain ⟨ha, hr⟩ := hsub hs
        rw [(coll ha).1, (coll ha).2]; exact ⟨rfl, hr⟩
      · exact balance_step old h hnd hthr hnodes hn (hbal _) (by rw [if_pos rfl, if_pos rfl, Nat.add_comm])
          I.balance
    · have I := hinv.node k nd1 hk
      have hne' : ¬ th.node = k := fun e => hne e.symm
      simp only [hne', false_and, if_false, Nat.add_zero] at c2 c3
      refine ⟨?_, ?_, ?_, ?_, ?_, ?_, ?_⟩
      · rw [c1, hN]; exact I.nthr
      · rw [c2]; exact I.cc_eq
      · rw [c3]; exact I.redwait
      · rw [hN]; exact I.recv_eq
      · rw [hN]; exact I.contrib_iff
      · intro hs
        obtain ⟨ha, hr⟩ := I.sub hs
        rw [(coll ha).1, (coll ha).2]; exact ⟨rfl, hr⟩
      · exact balance_step old h hnd hthr hnodes hn (hbal _) (by rw [if_neg hne', if_neg hne']) I.balance

/-- `send`, `deliver`, `flip`: thread `t` is replaced, keeping its stage class, and the in-flight list changes -/
theorem inv_thread_step (old : Bool) {s s' : St} {t : Nat} {th th' : Thr} (hinv : Inv old s)
    (h : s.thr[t]? = some th) (hN : s'.N = s.N) (hnodes : s'.nodes = s.nodes)
    (hthr : s'.thr = s.thr.set t th') (hok : ThrOK old s.nodes.length th')
    (hn : th'.node = th.node) (hs1 : th'.stage.reported = th.stage.reported)
    (hs2 : (th'.stage = .reduceWait ↔ th.stage = .reduceWait))
    (hbal : ∀ k, (th'.unrep.get old).count k + (if th.node = k then th.recv.get old else 0) + flightTo old s k
              = (th.unrep.get old).count k + (if th.node = k then th'.recv.get old else 0) + flightTo old s' k) :
    Inv old s' := by
  have hlt := (hinv.thr t th h).node_lt
  have hnd := List.getElem?_eq_getElem hlt
  have I := hinv.node _ _ hnd
  refine inv_local_step old hinv h hnd hN hthr (by rw [hnodes, List.set_getElem_self]) hok hn (fun _ => rfl)
    (by rw [hs1]) (by simp only [hs2]) I.recv_eq I.contrib_iff I.sub fun k => congrArg (_ + ·) (hbal k)

theorem inv_send (old : Bool) {s s' : St} {t d ts : Nat} (hinv : Inv old s) (hs : send s t d ts = some s') :
    Inv old s' := by
  obtain ⟨th, h, -, rfl⟩ := send_some hs
  have T := hinv.thr t th h
  refine inv_thread_step old hinv h rfl rfl rfl ⟨T.node_lt, T.col_pre, T.col_post, fun hr => ?_⟩ rfl rfl Iff.rfl
    fun k => ?_
  · -- a thread that has reported stamps the new colour
    have hc : th.colour = !old := T.col_post (by intro h1; rw [h1] at hr; cases hr)
    show (th.unrep.set th.colour _).get old = []
    rw [hc, Two.get_set_not]; exact T.unrep_nil hr
  · simp only [flightTo, List.countP_append, List.countP_cons, List.countP_nil]
    by_cases hc : th.colour = old
    · subst hc; by_cases hd : d = k <;> simp [hd]; omega
    · have : old ≠ th.colour := fun h => hc h.symm
      simp [Two.get_set_ne this, hc]

theorem inv_deliver (old : Bool) {s s' : St} {i t : Nat} (hinv : Inv old s) (hs : deliver s i t = some s') :
    Inv old s' := by
  obtain ⟨m, th, hm, h, hnode, rfl⟩ := deliver_some hs
  have T := hinv.thr t th h
  refine inv_thread_step old hinv h rfl rfl rfl ⟨T.node_lt, T.col_pre, T.col_post, T.unrep_nil⟩ rfl rfl Iff.rfl
    fun k => ?_
  have he := countP_eraseIdx' (fun m => m.colour = old && m.dest = k) s.flight i m hm
  simp only [flightTo]
  by_cases hc : m.colour = old
  · subst hc; by_cases hd : th.node = k <;> simp [hd, ← hnode] at he ⊢ <;> omega
  · have : old ≠ m.colour := fun h => hc h.symm
    simp [Two.get_set_ne this, hc] at he ⊢; omega

theorem inv_flip (old : Bool) {s s' : St} {t : Nat} (hinv : Inv old s) (hs : flip s t = some s') :
    Inv old s' := by
  obtain ⟨th, h, hst, rfl⟩ := flip_some hs
  have T := hinv.thr t th h
  refine inv_thread_step old hinv h rfl rfl rfl ⟨T.node_lt, Stage.noConfusion, fun _ => ?_, Bool.noConfusion⟩
    rfl ?_ ?_ fun k => rfl
  · show (!th.colour) = !old
    rw [T.col_pre hst]
  · rw [hst]; rfl
  · rw [hst]; exact ⟨Stage.noConfusion, Stage.noConfusion⟩

theorem nReported_lt {s : St} {t : Nat} {th : Thr} (h : s.thr[t]? = some th)
    (hr : th.stage.reported = false) : nReported s th.node < nThr s th.node := by
  have hle : nReported s th.node ≤ nThr s th.node :=
    List.countP_mono_left fun x _ hx => (Bool.and_eq_true_iff.1 hx).1
  refine Nat.lt_of_le_of_ne hle fun e => ?_
  have := countP_and_eq_all (fun x : Thr => decide (x.node = th.node)) (fun x => x.stage.reported) s.thr e
    th (List.mem_of_getElem? h) (decide_eq_true rfl)
  rw [hr] at this; cases this

theorem nRedWait_pos {s : St} {t : Nat} {th : Thr} (h : s.thr[t]? = some th)
    (hr : th.stage = .reduceWait) : 1 ≤ nRedWait s th.node :=
  List.countP_pos_iff.2 ⟨th, List.mem_of_getElem? h, by rw [hr, decide_eq_true rfl]; rfl⟩

/-- `no_premature_pass`, invariant form: while the `fetch_sub` of `node_sent_reduce_wait` has not happened
at node `k`, a thread of `k` that has reported reads a value `≥ 1` from `total_msg_received` -/
theorem recv_pos_of_not_subtracted (old : Bool) {s : St} (hinv : Inv old s) {t : Nat} {th : Thr} {nd : Node}
    (h : s.thr[t]? = some th) (hnd : s.nodes[th.node]? = some nd) (hr : th.stage.reported = true)
    (hsub : nd.subtracted = false) : 1 ≤ nd.totalRecv := by
  have I := hinv.node _ nd hnd
  have : 1 ≤ nReported s th.node :=
    List.countP_pos_iff.2 ⟨th, List.mem_of_getElem? h, by rw [hr, decide_eq_true rfl]; rfl⟩
  have h1 := I.recv_eq
  have h2 := I.cc_eq
  simp only [hsub, Bool.false_eq_true, if_false] at h1
  omega

theorem subtracted_of_zero (old : Bool) {s : St} (hinv : Inv old s) {t : Nat} {th : Thr} {nd : Node}
    (h : s.thr[t]? = some th) (hnd : s.nodes[th.node]? = some nd) (hr : th.stage.reported = true)
    (hz : nd.totalRecv = 0) : nd.subtracted = true := by
  cases hsb : nd.subtracted
  · have := recv_pos_of_not_subtracted old hinv h hnd hr hsb; omega
  · rfl

theorem inv_report (old : Bool) {s s' : St} {t : Nat} (hinv : Inv old s) (hs : report s t = some s') :
    Inv old s' := by
  obtain ⟨th, nd, h, hnd, hst, -, rfl⟩ := report_some hs
  have T := hinv.thr t th h
  have I := hinv.node _ nd hnd
  have hpost : th.colour = !old := T.col_post (hst ▸ Stage.noConfusion)
  have hno : (!th.colour) = old := by rw [hpost, Bool.not_not]
  -- the reporter has not reported: `c_c < n_threads`, hence nothing deposited here and no collective complete
  have hlt : nd.cc < s.N := by rw [I.cc_eq, ← I.nthr]; exact nReported_lt h (by rw [hst]; rfl)
  have hcn : nd.contrib = none := by
    cases hc : nd.contrib
    · rfl
    · have := I.contrib_iff.1 (by rw [hc]; rfl); omega
  have hna : ¬ allContrib s = true := fun ha => by have := allContrib_get hnd ha; rw [hcn] at this; cases this
  have hsb : nd.subtracted = false := by
    cases hsb : nd.subtracted
    · rfl
    · exact absurd (I.sub hsb).1 hna
  rw [hno]
  refine inv_local_step old hinv h hnd rfl rfl rfl
    ⟨T.node_lt, fun e => ?col_pre, fun _ => hpost, fun _ => Two.get_set_same _ _ _⟩ rfl
    (fun ha => absurd ha hna) ?hcc ?hrw ?hrecv ?hci (fun e => ?hsub) fun k => ?hbal
  case col_pre => dsimp only at e; split at e <;> cases e
  case hcc => by_cases hl : nd.cc = s.N - 1 <;> simp [hl, hst, Stage.reported]
  case hrw => by_cases hl : nd.cc = s.N - 1 <;> simp [hl, hst, hcn, hsb]
  case hrecv =>
    have := I.recv_eq
    simp only [hsb, Bool.false_eq_true, if_false] at this ⊢
    omega
  case hci => by_cases hl : nd.cc = s.N - 1 <;> simp [hl, hcn] <;> omega
  case hsub => rw [hsb] at e; cases e
  case hbal =>
    -- with nothing deposited before, `eff` is `total_sent`, now extended by the reporter's bag
    simp only [eff, hcn, flightTo, Two.get_set_same, List.count_nil]
    split <;> simp only [Option.getD_some, Option.getD_none, List.count_append] <;> omega

theorem inv_collective (old : Bool) {s s' : St} {t : Nat} (hinv : Inv old s)
    (hs : collective s t = some s') : Inv old s' := by
  obtain ⟨th, nd, h, hnd, hst, hall, rfl⟩ := collective_some hs
  have T := hinv.thr t th h
  have I := hinv.node _ nd hnd
  -- the stepping thread sits in `reduceWait`, so the collective has not been consumed yet
  have hcs : nd.contrib.isSome ∧ nd.subtracted = false := by
    have := I.redwait
    have := nRedWait_pos h hst
    by_cases hc : nd.contrib.isSome ∧ nd.subtracted = false
    · exact hc
    · rw [if_neg hc] at *; omega
  refine inv_local_step old hinv h hnd rfl rfl rfl
    ⟨T.node_lt, Stage.noConfusion, fun _ => T.col_post (hst ▸ Stage.noConfusion),
      fun _ => T.unrep_nil (by rw [hst]; rfl)⟩ rfl
    (fun _ => rfl) (by rw [hst]; rfl) ?hrw ?hrecv I.contrib_iff (fun _ => ⟨hall, rfl⟩) fun k => rfl
  case hrw => simp [hst, hcs]
  case hrecv =>
    have := I.recv_eq
    simp only [hcs.2, Bool.false_eq_true, if_false] at this
    simp only [this, if_true, Option.getD_some]
    omega

theorem inv_poll (old : Bool) {s s' : St} {t : Nat} (hinv : Inv old s) (hs : poll s t = some s') :
    Inv old s' := by
  obtain ⟨th, nd, h, hnd, hst, rfl⟩ := poll_some hs
  have T := hinv.thr t th h
  have I := hinv.node _ nd hnd
  have hpost : th.colour = !old := T.col_post (hst ▸ Stage.noConfusion)
  have hno : (!th.colour) = old := by rw [hpost, Bool.not_not]
  have hrep : th.stage.reported = true := by rw [hst]; rfl
  rw [hno]
  -- the slice of `total_sent` is cleared only after the collective has taken its snapshot
  have heff : nd.contrib.getD (if nd.totalRecv = 0 then cleanup s.nodes.length s.N th.rid nd.totalSent
      else nd.totalSent) = eff nd := by
    split
    · rename_i hz
      exact getD_of_isSome (allContrib_get hnd (I.sub (subtracted_of_zero old hinv h hnd hrep hz)).1) _ _
    · rfl
  refine inv_local_step old hinv h hnd rfl rfl rfl
    ⟨T.node_lt, fun e => ?col_pre, fun _ => hpost, fun _ => T.unrep_nil hrep⟩ rfl
    (fun _ => rfl) ?hcc ?hrw ?hrecv I.contrib_iff I.sub fun k => ?hbal
  case col_pre => dsimp only at e; split at e <;> cases e
  case hcc => by_cases hz : nd.totalRecv = 0 <;> simp [hz, hst, Stage.reported]
  case hrw => by_cases hz : nd.totalRecv = 0 <;> simp [hz, hst]
  case hrecv =>
    have := I.recv_eq
    simp only [this]
    omega
  case hbal =>
    simp only [eff, heff, flightTo, Two.get_set_same]
    by_cases hk : th.node = k <;> simp only [hk, if_true, if_false] <;> omega

theorem inv_step (old : Bool) (s s' : St) (a : Action) (hinv : Inv old s) (hs : step s a = some s') :
    Inv old s' := by
  cases a with
  | send t d ts => exact inv_send old hinv hs
  | deliver i t => exact inv_deliver old hinv hs
  | flip t => exact inv_flip old hinv hs
  | report t => exact inv_report old hinv hs
  | collective t => exact inv_collective old hinv hs
  | poll t => exact inv_poll old hinv hs

theorem inv_of_roundStart (old : Bool) (s : St) (h : RoundStart old s) : Inv old s := by
  constructor
  · intro t th ht
    obtain ⟨h1, h2, h3⟩ := h.thr th (List.mem_of_getElem? ht)
    exact ⟨h1, fun _ => h2, fun hn => absurd h3 hn, fun hr => by rw [h3] at hr; cases hr⟩
  · intro k nd hk
    have hlt : k < s.nodes.length := (List.getElem?_eq_some_iff.1 hk).1
    have hnd := h.node nd (List.mem_of_getElem? hk)
    subst hnd
    have hst := fun th hth => (h.thr th hth).2.2
    have hrep : nReported s k = 0 := List.countP_eq_zero.2 fun th hth => by simp [hst th hth, Stage.reported]
    have hrw : nRedWait s k = 0 := List.countP_eq_zero.2 fun th hth => by simp [hst th hth]
    have hrt : reportedTo s k = 0 := (sumBy_eq_zero_iff _ _).2 fun nd1 h1 => by rw [h.node nd1 h1]; rfl
    refine ⟨h.nthr k hlt, hrep.symm, hrw, rfl, ⟨nofun, fun e => ?_⟩, nofun, ?_⟩
    · exact absurd e (Nat.ne_of_lt h.npos)
    · show reportedTo s k + _ = 0 + _ + _
      rw [hrt, Nat.zero_add, Nat.zero_add]; exact h.balance k hlt

end RootSim.GvtNode
