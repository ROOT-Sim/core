import RootSim.Model.Serial
import RootSim.Proofs.SeqSpec
/-!
Helper lemmas for `serial_refines_spec` (C10): the serial runtime model of `Model/Serial.lean` simulates the
reference semantics of `Model/SeqSpec.lean`.
-/
namespace RootSim
open RootSim.Heap RootSim.C15.Heap

/-- a message as `msg_allocator_pack` + `raw_flags = 0` leaves it -/
def Msg.Packed (m : Msg) : Prop := m.rawFlags = 0 ∧ m.plSize = m.pl.length

theorem packMsg_packed (e : Event) (k : Nat) : (packMsg e k).Packed := by
  simp [packMsg, Event.toMsg, Msg.Packed]

theorem packMsg_toEvent (e : Event) (k : Nat) : (packMsg e k).toEvent = e := by
  cases e; simp [packMsg, Event.toMsg, Msg.toEvent, Msg.body]

theorem Msg.Packed.wf {m : Msg} (h : m.Packed) : m.WF := by
  unfold Msg.WF; rw [h.2]; exact Nat.le_refl _

theorem packed_before (a b : Msg) (ha : a.Packed) (hb : b.Packed) :
    isBefore a b = Event.before a.toEvent b.toEvent := by
  unfold Event.before
  apply C16.content_only
  · simp [Msg.content, Msg.toEvent, Event.toMsg, Msg.body, Msg.anti, ha.1, ha.2]
  · simp [Msg.content, Msg.toEvent, Event.toMsg, Msg.body, Msg.anti, hb.1, hb.2]

theorem isBefore_strictWeak_packed : StrictWeak isBefore Msg.Packed where
  asymm a b ha hb := isBefore_strictWeak.asymm a b ha.wf hb.wf
  ntrans a b c ha hb hc := isBefore_strictWeak.ntrans a b c ha.wf hb.wf hc.wf

def pendOf (q : Array Msg) : List Event := q.toList.map Msg.toEvent

theorem scheduleAll_spec (outs : List Event) : ∀ (q : Array Msg) (k : Nat) {msg : Msg}, heapMin q = some msg →
    IsHeap isBefore q → AllP Msg.Packed q → (∀ o ∈ outs, Event.before o msg.toEvent = false) →
    IsHeap isBefore (scheduleAll q k outs).1 ∧ AllP Msg.Packed (scheduleAll q k outs).1 ∧
    (pendOf (scheduleAll q k outs).1).Perm (outs ++ pendOf q) ∧
    heapMin (scheduleAll q k outs).1 = some msg := by
  induction outs with
  | nil => exact fun q k _ hm hh hp _ => ⟨hh, hp, .refl _, hm⟩
  | cons o os ih =>
    intro q k msg hm hh hp hroot
    obtain ⟨h0, rfl⟩ := heapMin_eq_some.1 hm
    have hins := insert_isHeap isBefore_strictWeak_packed q (packMsg o k) hp (packMsg_packed o k) hh
    have hperm : (pendOf (heapInsert isBefore q (packMsg o k)).1).Perm (o :: pendOf q) := by
      have := (insert_perm (constCmp isBefore) q (packMsg o k)).map Msg.toEvent
      rwa [List.map_cons, packMsg_toEvent] at this
    have hroot1 : heapMin (heapInsert isBefore q (packMsg o k)).1 = heapMin q := by
      refine heapInsertI_root _ q _ h0 fun _ => ?_
      show isBefore (packMsg o k) _ = false
      rw [packed_before _ _ (packMsg_packed o k) (hp 0 h0), packMsg_toEvent]
      exact hroot o List.mem_cons_self
    obtain ⟨i1, i2, i3, i4⟩ := ih _ (k + 1) (hroot1.trans hm) hins.1 hins.2
      (fun o' ho' => hroot o' (List.mem_cons_of_mem _ ho'))
    exact ⟨i1, i2, i3.trans ((List.Perm.append_left os hperm).trans List.perm_middle), i4⟩

theorem mem_pendOf {q : Array Msg} {m : Msg} (h : m ∈ q.toList) : m.toEvent ∈ pendOf q :=
  List.mem_map_of_mem h

theorem root_minIn {q : Array Msg} {msg : Msg} (hh : IsHeap isBefore q) (hp : AllP Msg.Packed q)
    (h : heapMin q = some msg) : msg.toEvent.minIn (pendOf q) ∧ msg.Packed := by
  obtain ⟨h0, rfl⟩ := heapMin_eq_some.1 h
  refine ⟨⟨mem_pendOf (Array.mem_toList_iff.2 (Array.getElem_mem h0)), fun x hx => ?_⟩, hp 0 h0⟩
  obtain ⟨y, hy, rfl⟩ := List.mem_map.1 hx
  rw [← packed_before _ _ (allP_iff.1 hp y hy) (hp 0 h0)]
  exact root_minimal isBefore_strictWeak_packed q hp hh _ h _ hy

/-- one `dispatch; schedule…; heap_extract` round: the extracted message IS the dispatched one
(this is where contract V2 and C16 are used) and the queue afterwards holds exactly the other
pending events plus the scheduled ones -/
theorem dispatch_extract {q : Array Msg} {msg : Msg} (k : Nat) (outs : List Event)
    (hh : IsHeap isBefore q) (hp : AllP Msg.Packed q) (h : heapMin q = some msg)
    (hv2 : ∀ o ∈ outs, Event.before o msg.toEvent = false) :
    ∃ q2, heapExtract isBefore (scheduleAll q k outs).1 = some (msg, q2) ∧
      IsHeap isBefore q2 ∧ AllP Msg.Packed q2 ∧
      (pendOf q2).Perm ((pendOf q).erase msg.toEvent ++ outs) := by
  obtain ⟨s1, s2, s3, s4⟩ := scheduleAll_spec outs q k h hh hp hv2
  obtain ⟨hsz, hroot⟩ := heapMin_eq_some.1 s4
  obtain ⟨q2, hq2⟩ := heapExtractI_isSome (constCmp isBefore) _ hsz
  rw [hroot] at hq2
  have hx := extract_isHeap isBefore_strictWeak_packed _ msg q2 hq2 s2 s1
  refine ⟨q2, hq2, hx.1, hx.2.1, ?_⟩
  have p1 : (pendOf (scheduleAll q k outs).1).Perm (msg.toEvent :: pendOf q2) :=
    (extract_perm _ _ msg q2 hq2).map Msg.toEvent
  have p2 := List.perm_cons_erase (root_minIn hh hp h).1.1
  exact (p1.symm.trans (s3.trans ((List.Perm.append_left outs p2).trans
    (List.perm_middle.trans (.cons _ List.perm_append_comm))))).cons_inv

/-! ### the termination counter `to_terminate` vs. "all LPs have ended" -/

def cntFalse (l : List Bool) : Nat := l.countP (fun b => !b)

theorem all_id_eq (l : List Bool) : l.all id = (cntFalse l == 0) := by
  unfold cntFalse
  induction l with
  | nil => rfl
  | cons x xs ih => cases x <;> simp [ih]

theorem set_same {l : List Bool} {d : Nat} {b : Bool} (h : l[d]? = some b) : l.set d b = l := by
  obtain ⟨hd, e⟩ := List.getElem?_eq_some_iff.1 h
  rw [← e]; exact List.set_getElem_self hd

theorem cntFalse_pos_of_mem {l : List Bool} {d : Nat} (h : l[d]? = some false) : 0 < cntFalse l := by
  unfold cntFalse
  rw [List.countP_pos_iff]
  exact ⟨false, List.mem_of_getElem? h, rfl⟩

/-- The bookkeeping `if(lp->termination_t < 0 && committed(..)) { lp->termination_t = ..; if(!--to_terminate) break; }`
of `serial_simulation_run` against the sticky flags of the reference semantics: `b` is the LP's flag before the
event, `ce` the answer of `CanEnd`, `left` the counter `to_terminate`.  Raising the flag when it is newly set is
setting it to `b || ce`, the counter stays the number of unset flags, and it reaches zero exactly when all are set. -/
theorem ended_step (l : List Bool) (d : Nat) (b ce : Bool) (left : Nat) (hb : l[d]? = some b)
    (hl : left = cntFalse l) (hpos : 0 < left) :
    let newly := !b && ce
    let left' := if newly then left - 1 else left
    (if newly then l.set d true else l) = l.set d (b || ce) ∧ left' = cntFalse (l.set d (b || ce)) ∧
    (l.set d (b || ce)).all id = (newly && left' == 0) ∧ ((newly && left' == 0) = false → 0 < left') := by
  dsimp only
  cases hn : (!b && ce)
  · -- the flag keeps its value
    have hbc : (b || ce) = b := by
      cases b with
      | false => exact hn
      | true => rfl
    rw [hbc, set_same hb, all_id_eq, ← hl]
    exact ⟨rfl, rfl, by simp [Nat.ne_of_gt hpos], fun _ => hpos⟩
  · -- the flag is raised: `b = false`, `ce = true`
    cases b with
    | true => cases hn
    | false =>
      obtain rfl : ce = true := hn
      obtain ⟨hd, e⟩ := List.getElem?_eq_some_iff.1 hb
      have hcnt : cntFalse (l.set d true) = left - 1 := by
        unfold cntFalse at hl ⊢
        rw [List.countP_set hd, e, ← hl]; rfl
      rw [Bool.false_or, all_id_eq, hcnt]
      exact ⟨rfl, rfl, by simp, fun h => Nat.pos_of_ne_zero (by simpa using h)⟩

section Main
variable {σ : Type} {M : SimModel σ}

structure SerialInv (M : SimModel σ) (S : SerialSt σ) : Prop where
  heap : IsHeap isBefore S.queue
  packed : AllP Msg.Packed S.queue
  left : S.toTerminate = cntFalse S.ended
  pos : 0 < S.toTerminate ∨ M.nLps = 0

def SerialSt.cfg (S : SerialSt σ) : Cfg σ := ⟨S.states, S.ended, pendOf S.queue⟩

/-- the state after dispatching `msg` (LP state `s`, flag `b`) and the termination bookkeeping -/
def iterS1 (M : SimModel σ) (S : SerialSt σ) (msg : Msg) (s : σ) (b : Bool) : SerialSt σ :=
  let r := M.handler msg.dest s msg.toEvent
  let newly := !b && M.canEnd msg.dest r.1
  { queue := (scheduleAll S.queue S.nextSeq r.2).1, states := S.states.set msg.dest r.1,
    ended := if newly then S.ended.set msg.dest true else S.ended,
    toTerminate := if newly then S.toTerminate - 1 else S.toTerminate,
    nextSeq := (scheduleAll S.queue S.nextSeq r.2).2, traceRev := msg.toEvent :: S.traceRev }

def iterStop (M : SimModel σ) (termT : Nat) (timer : Nat → Bool) (k : Nat) (S : SerialSt σ) (msg : Msg) (s : σ) (b : Bool) : Bool :=
  let r := M.handler msg.dest s msg.toEvent
  let newly := !b && M.canEnd msg.dest r.1
  (newly && (if newly then S.toTerminate - 1 else S.toTerminate) == 0) || (timer k && decide (termT ≤ msg.destT))

/-- two `break`s that leave the loop in the same state are one `break` on the disjunction -/
theorem ite_ite_same {α : Type} (A B : Bool) (X Y : α) :
    (if A = true then X else if B = true then X else Y) = if (A || B) = true then X else Y := by
  cases A <;> cases B <;> rfl

theorem serialMain_succ (termT : Nat) (timer : Nat → Bool) (fuel k : Nat) (S : SerialSt σ) (msg : Msg) (s : σ) (b : Bool)
    (q2 : Array Msg) (hmin : heapMin S.queue = some msg) (hs : S.states[msg.dest]? = some s)
    (hb : S.ended[msg.dest]? = some b)
    (hext : heapExtract isBefore (scheduleAll S.queue S.nextSeq (M.handler msg.dest s msg.toEvent).2).1 = some (msg, q2)) :
    serialMain M termT timer (fuel + 1) k S =
      if iterStop M termT timer k S msg s b then (iterS1 M S msg s b, .finished)
      else serialMain M termT timer fuel (k + 1) { iterS1 M S msg s b with queue := q2 } := by
  simp only [serialMain, hmin, hs, hb, hext, iterStop, iterS1, if_true]
  exact ite_ite_same _ _ _ _

theorem serialMain_refines (hv : M.Valid) (termT : Nat) (timer : Nat → Bool) : ∀ (fuel k : Nat) (S : SerialSt σ),
    SerialInv M S → Reachable M S.cfg →
    ∃ tr c' fin, (serialMain M termT timer fuel k S).1.traceRev = tr.reverse ++ S.traceRev ∧
      (serialMain M termT timer fuel k S).1.states = c'.st ∧
      (serialMain M termT timer fuel k S).2 = (if fin then .finished else .outOfFuel) ∧
      MainRun M termT timer k S.cfg tr c' fin := by
  refine mainLoop_refines SerialSt.cfg SerialSt.traceRev (SerialInv M) _ (fun _ _ => rfl) ?_
  intro fuel k S hinv hreach
  obtain ⟨sh1, sh2, sh3⟩ := hreach.shape hv
  cases hmin : heapMin S.queue with
  | none =>
    refine .inl ⟨?_, by simp only [serialMain, hmin]⟩
    have : S.queue = #[] := Array.eq_empty_of_size_eq_zero
      (Nat.eq_zero_of_not_pos fun h => nomatch hmin.symm.trans (Array.getElem?_eq_getElem h))
    simp only [SerialSt.cfg, pendOf, this, List.map_nil, Array.toList_empty]
  | some msg =>
    obtain ⟨hminIn, hpk⟩ := root_minIn hinv.heap hinv.packed hmin
    have hdest : msg.dest < M.nLps := sh3 _ hminIn.1
    obtain ⟨s, hs⟩ : ∃ s, S.states[msg.dest]? = some s := ⟨_, List.getElem?_eq_getElem (sh1 ▸ hdest)⟩
    obtain ⟨b, hb⟩ : ∃ b, S.ended[msg.dest]? = some b := ⟨_, List.getElem?_eq_getElem (sh2 ▸ hdest)⟩
    have hvalid := hv.step S.cfg hreach msg.toEvent s hminIn hs
    obtain ⟨q2, hext, hq2h, hq2p, hq2perm⟩ := dispatch_extract S.nextSeq (M.handler msg.dest s msg.toEvent).2
      hinv.heap hinv.packed hmin (fun o ho => (hvalid o ho).1)
    have hpos : 0 < S.toTerminate := hinv.pos.resolve_right (Nat.ne_of_gt (Nat.zero_lt_of_lt hdest))
    obtain ⟨e1, e2, e3, e4⟩ := ended_step S.ended msg.dest b
      (M.canEnd msg.dest (M.handler msg.dest s msg.toEvent).1) S.toTerminate hb hinv.left hpos
    -- the loop stops in `iterS1` (the dispatched message still queued) or goes on after the extraction
    have hstop : stopNow termT timer k ({ iterS1 M S msg s b with queue := q2 } : SerialSt σ).cfg msg.toEvent
        = iterStop M termT timer k S msg s b := by
      simp only [stopNow, Cfg.allEnded, SerialSt.cfg, iterS1, iterStop, e1, e3]
      rfl
    refine .inr ⟨msg.toEvent, { iterS1 M S msg s b with queue := q2 }, iterS1 M S msg s b, ?_,
      ⟨s, b, hminIn, hs, hb, rfl, e1, hq2perm⟩, rfl, fun hst => ?_, rfl, rfl⟩
    · rw [hstop, serialMain_succ termT timer fuel k S msg s b q2 hmin hs hb hext]
    · rw [hstop] at hst
      exact ⟨hq2h, hq2p, (congrArg cntFalse e1 ▸ e2 :), .inl (e4 (Bool.or_eq_false_iff.1 hst).1)⟩

/-- the `LP_INIT` message is strictly before every model event (types `< LP_INIT`, V3) -/
theorem init_before (m : Msg) (hm : m.Packed) (ht : m.mType < LP_INIT) (lp k : Nat) :
    isBefore (packMsg (initEvent lp) k) m = true := by
  have ha : m.anti = 0 := by simp [Msg.anti, hm.1]
  have hty : m.mType < 65534 := ht
  simp only [isBefore, isBeforeExt, packMsg, initEvent, Event.toMsg, Msg.anti, LP_INIT]
  simp only [Msg.anti] at ha
  rcases Nat.eq_zero_or_pos m.destT with h | h
  · have : ¬ (65534 = m.mType) := by omega
    simp [h, ha, this]; omega
  · simp [h]

structure InitInv (S : SerialSt σ) : Prop where
  heap : IsHeap isBefore S.queue
  packed : AllP Msg.Packed S.queue
  types : ∀ x ∈ pendOf S.queue, x.type < LP_INIT

/-- `heap_insert` of the `LP_INIT` message into a queue of model events: it becomes the root -/
theorem insert_init {q : Array Msg} (hh : IsHeap isBefore q) (hp : AllP Msg.Packed q)
    (hty : ∀ x ∈ pendOf q, x.type < LP_INIT) (lp k : Nat) :
    IsHeap isBefore (heapInsert isBefore q (packMsg (initEvent lp) k)).1 ∧
    AllP Msg.Packed (heapInsert isBefore q (packMsg (initEvent lp) k)).1 ∧
    heapMin (heapInsert isBefore q (packMsg (initEvent lp) k)).1 = some (packMsg (initEvent lp) k) ∧
    (pendOf (heapInsert isBefore q (packMsg (initEvent lp) k)).1).Perm (initEvent lp :: pendOf q) := by
  have hins := insert_isHeap isBefore_strictWeak_packed q _ hp (packMsg_packed (initEvent lp) k) hh
  have hperm := insert_perm (constCmp isBefore) q (packMsg (initEvent lp) k)
  have hsz : 0 < (heapInsert isBefore q (packMsg (initEvent lp) k)).1.size :=
    Array.length_toList ▸ hperm.length_eq ▸ Nat.succ_pos _
  have hpend := hperm.map Msg.toEvent
  rw [List.map_cons, packMsg_toEvent] at hpend
  refine ⟨hins.1, hins.2, heapMin_eq_some.2 ⟨hsz, ?_⟩, hpend⟩
  rcases List.mem_cons.1 (hperm.mem_iff.1 (Array.mem_toList_iff.2 (Array.getElem_mem hsz))) with h | h
  · exact h
  · -- a root among the old elements would be a model event that `LP_INIT` is not before
    have hmin := root_minimal isBefore_strictWeak_packed _ hins.2 hins.1 _ (heapMin_eq_some.2 ⟨hsz, rfl⟩)
      _ (hperm.mem_iff.2 List.mem_cons_self)
    rw [init_before _ (hins.2 0 hsz) (hty _ (mem_pendOf h))] at hmin
    exact absurd hmin.symm Bool.false_ne_true

theorem serialInitLp_spec (hv : M.Valid) (S : SerialSt σ) (lp : Nat) (hlp : lp < M.nLps) (hi : InitInv S) :
    ∃ S', serialInitLp M S lp = .ok S' ∧ InitInv S' ∧ S'.cfg.Equiv (initStep M S.cfg lp) ∧
      S'.toTerminate = S.toTerminate ∧ S'.traceRev = initEvent lp :: S.traceRev := by
  have hvalid := hv.init lp hlp
  obtain ⟨h1, h2, hroot, hpend0⟩ := insert_init hi.heap hi.packed hi.types lp S.nextSeq
  have hmsgEv := packMsg_toEvent (initEvent lp) S.nextSeq
  obtain ⟨q2, hext, hq2h, hq2p, hq2perm⟩ := dispatch_extract (S.nextSeq + 1)
    (M.handler lp (M.init lp) (initEvent lp)).2 h1 h2 hroot (fun o ho => hmsgEv ▸ (hvalid o ho).1)
  rw [hmsgEv] at hq2perm
  have hq2perm' : (pendOf q2).Perm (pendOf S.queue ++ (M.handler lp (M.init lp) (initEvent lp)).2) :=
    hq2perm.trans (.append_right _ (by simpa using hpend0.erase (initEvent lp)))
  refine ⟨{ S with queue := q2, states := S.states.set lp (M.handler lp (M.init lp) (initEvent lp)).1,
                   nextSeq := (scheduleAll (heapInsert isBefore S.queue (packMsg (initEvent lp) S.nextSeq)).1
                     (S.nextSeq + 1) (M.handler lp (M.init lp) (initEvent lp)).2).2,
                   traceRev := initEvent lp :: S.traceRev }, ?_, ⟨hq2h, hq2p, ?_⟩, ⟨rfl, rfl, hq2perm'⟩, rfl, rfl⟩
  · simp only [serialInitLp, hmsgEv, hext]
    simp
  · intro x hx
    rcases List.mem_append.1 (hq2perm'.mem_iff.1 hx) with h | h
    · exact hi.types x h
    · exact (hvalid x h).2.2

theorem serialInitLoop_spec (hv : M.Valid) : ∀ (l : List Nat) (S : SerialSt σ) (c : Cfg σ),
    (∀ lp ∈ l, lp < M.nLps) → InitInv S → S.cfg.Equiv c →
    ∃ S', serialInitLoop M l S = .ok S' ∧ InitInv S' ∧ S'.cfg.Equiv (l.foldl (initStep M) c) ∧
      S'.toTerminate = S.toTerminate ∧ S'.traceRev = (l.map initEvent).reverse ++ S.traceRev := by
  intro l
  induction l with
  | nil => intro S c _ hi he; exact ⟨S, rfl, hi, he, rfl, by simp⟩
  | cons lp rest ih =>
    intro S c hl hi he
    obtain ⟨S1, h1, hi1, he1, hto, htr⟩ := serialInitLp_spec hv S lp (hl lp List.mem_cons_self) hi
    obtain ⟨S', h2, hi2, he2, hto2, htr2⟩ := ih S1 (initStep M c lp) (fun x hx => hl x (List.mem_cons_of_mem _ hx)) hi1
      (he1.trans (initStep_equiv he lp))
    refine ⟨S', ?_, hi2, he2, by rw [hto2, hto], ?_⟩
    · simp only [serialInitLoop, h1]; exact h2
    · rw [htr2, htr]; simp

theorem serialRun_isSpecRun (hv : M.Valid) (termT : Nat) (timer : Nat → Bool) (fuel : Nat) :
    IsSpecRun M termT timer (serialRun M termT timer fuel) := by
  have hi0 : InitInv (serialSt0 M) :=
    ⟨fun c hc => by simp [serialSt0] at hc, fun k hk => by simp [serialSt0] at hk, by simp [serialSt0, pendOf]⟩
  obtain ⟨S0, h0, hi, he, hto, htr⟩ := serialInitLoop_spec hv (List.range M.nLps) (serialSt0 M) (initCfg0 M)
    (fun lp h => List.mem_range.1 h) hi0 ⟨rfl, rfl, by simp [SerialSt.cfg, serialSt0, pendOf, initCfg0]⟩
  have hshape := initStep_fold_st (M := M) (List.range M.nLps) (initCfg0 M)
  have hinv : SerialInv M S0 := by
    refine ⟨hi.heap, hi.packed, ?_, ?_⟩
    · rw [hto, show S0.ended = List.replicate M.nLps false from he.2.1.trans hshape.2]
      simp [serialSt0, cntFalse, List.countP_replicate]
    · rw [hto]; simp only [serialSt0]; omega
  obtain ⟨tr, c', fin, t1, t2, t3, hm⟩ :=
    serialMain_refines hv termT timer fuel 0 S0 hinv (.init he.1 he.2.1 he.2.2)
  have htr0 : S0.traceRev.reverse = initTrace M := by rw [htr]; simp [serialSt0, initTrace]
  refine isSpecRun_of_main he hm ?_
  unfold serialRun
  rw [h0]
  cases hres : serialMain M termT timer fuel 0 S0 with
  | mk S oc =>
    rw [hres] at t1 t2 t3
    simp only at t1 t2 t3
    subst t3
    cases fin <;> simp [hres, t1, t2, htr0]

end Main
end RootSim
