import RootSim.Model.GenModel
import RootSim.Proofs.SpecV2
/-!
# The GenModel family and the model contracts `Spec.V2s` / `Spec.V2`

`Spec.V2s M` / `Spec.V2 M` quantify over EVERY LP index, EVERY state and EVERY event. For the GenModel
family (`GenModel.simModel P rng0`, the twin of `harness/genmodel.h`) they are FALSE as stated
(`genmodel_not_V2s`, `genmodel_not_V2` below, kernel-checked):

* an LP index `ℓ ≥ nLps` (the runtime never has one): `LP_INIT` and the tick send to `me`;
* an `LP_INIT` event with a time stamp `> 0` (the runtime only dispatches `Spec.initEv ℓ`, time 0):
  `gm_process` schedules the first events at the ABSOLUTE times `dq`, not at `now + dq`;
* an event type above `LP_FINI` (the API contract V3 demands `type < LP_INIT`; the runtime only dispatches such
  events): the fan-out types are `< e.type` but not `< LP_INIT`.

The contracts that ARE true are the relativised ones, `Spec.V2sOn` / `Spec.V2On`: the same conclusion for
every ADMISSIBLE invocation (`Spec.Admissible`: an existing LP, and either a model event type or exactly the
`LP_INIT` event of this LP) — in every state, reachable or not. These are the only invocations any of the
machines (`Spec.Step`, `TW.Step`, `TWG.Step`, `TWD.Step`) perform; `Proofs/ClampTransfer.lean` makes this
precise (for each machine, every reachable state of `M` is a reachable state of `Spec.clamp M`); `V2sOn M ↔ V2s (clamp M)`
is `V2sOn_iff_clamp` below.
-/
namespace RootSim.Spec
open RootSim

variable {σ : Type}

/-- the invocations the runtime can perform: an existing LP `ℓ` processes a model event (type below
`LP_INIT`) or its own `LP_INIT` event (time 0, empty payload) -/
def Admissible (M : SimModel σ) (ℓ : Nat) (c : Event) : Prop :=
  ℓ < M.nLps ∧ (c.type < LP_INIT ∨ c = initEv ℓ)

instance (M : SimModel σ) (ℓ : Nat) (c : Event) : Decidable (Admissible M ℓ c) := by
  unfold Admissible; infer_instance

/-- `V2s` relativised to the admissible invocations (still EVERY state) -/
def V2sOn (M : SimModel σ) : Prop :=
  ∀ (ℓ : Nat) (s : σ) (c : Event), Admissible M ℓ c → ∀ o ∈ (M.handler ℓ s c).2,
    Event.before c o = true ∧ o.dest < M.nLps ∧ o.type < LP_INIT

/-- `V2` relativised to the admissible invocations (still EVERY state) -/
def V2On (M : SimModel σ) : Prop :=
  ∀ (ℓ : Nat) (s : σ) (c : Event), Admissible M ℓ c → ∀ o ∈ (M.handler ℓ s c).2,
    Event.before o c = false ∧ o.dest < M.nLps ∧ o.type < LP_INIT

/-- the model that answers the non-admissible invocations with "no change, nothing scheduled" and is `M`
on the admissible ones -/
def clamp (M : SimModel σ) : SimModel σ :=
  { M with handler := fun ℓ s c => if Admissible M ℓ c then M.handler ℓ s c else (s, []) }

@[simp] theorem clamp_nLps (M : SimModel σ) : (clamp M).nLps = M.nLps := rfl
@[simp] theorem clamp_init (M : SimModel σ) : (clamp M).init = M.init := rfl

theorem clamp_handler_of {M : SimModel σ} {ℓ : Nat} {c : Event} (h : Admissible M ℓ c) (s : σ) :
    (clamp M).handler ℓ s c = M.handler ℓ s c := if_pos h

theorem clamp_handler_not {M : SimModel σ} {ℓ : Nat} {c : Event} (h : ¬ Admissible M ℓ c) (s : σ) :
    (clamp M).handler ℓ s c = (s, []) := if_neg h

/-- a property of everything `M` schedules on admissible invocations is a property of everything `clamp M`
schedules -/
theorem clamp_forall_out {M : SimModel σ} {Q : Event → Event → Prop} :
    (∀ ℓ s c, Admissible M ℓ c → ∀ o ∈ (M.handler ℓ s c).2, Q c o) ↔
    ∀ ℓ s c, ∀ o ∈ ((clamp M).handler ℓ s c).2, Q c o := by
  constructor
  · intro V ℓ s c o ho
    by_cases h : Admissible M ℓ c
    · rw [clamp_handler_of h] at ho; exact V ℓ s c h o ho
    · rw [clamp_handler_not h] at ho; cases ho
  · intro V ℓ s c h o ho
    rw [← clamp_handler_of h] at ho; exact V ℓ s c o ho

theorem V2sOn_iff_clamp (M : SimModel σ) : V2sOn M ↔ V2s (clamp M) :=
  clamp_forall_out (Q := fun c o => Event.before c o = true ∧ o.dest < M.nLps ∧ o.type < LP_INIT)

theorem V2On_iff_clamp (M : SimModel σ) : V2On M ↔ V2 (clamp M) :=
  clamp_forall_out (Q := fun c o => Event.before o c = false ∧ o.dest < M.nLps ∧ o.type < LP_INIT)

theorem V2s.on {M : SimModel σ} (V : V2s M) : V2sOn M := fun ℓ s c _ => V ℓ s c
theorem V2.on {M : SimModel σ} (V : V2 M) : V2On M := fun ℓ s c _ => V ℓ s c

theorem V2sOn.toV2On {M : SimModel σ} (V : V2sOn M) : V2On M := fun ℓ s c h o ho =>
  ⟨Event.before_asymm (V ℓ s c h o ho).1, (V ℓ s c h o ho).2⟩

end RootSim.Spec

namespace RootSim.GenModel
open RootSim RootSim.Spec

theorem before_of_le_type_gt {a b : Event} (ht : a.t ≤ b.t) (hty : b.type < a.type) :
    Event.before a b = true :=
  (isBefore_iff _ _).mpr ((Nat.lt_or_eq_of_le ht).imp_right fun h => ⟨h, .inr ⟨rfl, .inl hty⟩⟩)

theorem delay_pos (k : Nat) : 1 ≤ delaysQ.getD (1 + k) 1 := by
  rw [Nat.add_comm]
  match k with
  | 0 | 1 | 2 | 3 | 4 | 5 => decide
  | k + 6 => exact Nat.le_refl 1

theorem onInit_out {P : Params} (hL : 0 < P.nLps) (hT : 0 < P.nTypes) {me : Nat} {s : GState} {o : Event}
    (ho : o ∈ (onInit P me s).2) :
    (o.dest = me ∨ o.dest < P.nLps) ∧ o.type < P.nTypes := by
  obtain ⟨j, -, rfl⟩ := List.mem_map.mp ho
  -- the first event (`j = 0`) is the tick for `me`, of the largest type; the others go to hashed LPs and types
  rcases Nat.eq_zero_or_pos j with rfl | hj
  · exact ⟨.inl rfl, Nat.sub_lt hT Nat.one_pos⟩
  · refine ⟨.inr ?_, ?_⟩
    · show (if j = 0 then me else _) < _
      rw [if_neg (Nat.ne_of_gt hj)]
      exact Nat.mod_lt _ hL
    · show (if j = 0 then _ else _) < _
      rw [if_neg (Nat.ne_of_gt hj)]
      exact Nat.mod_lt _ hT

theorem tick_out {c : Prop} [Decidable c] {me t d ty sz : Nat} {a : UInt64} {b : Bool} {o : Event} (hd : 0 < d)
    (ho : o ∈ if c then [mkEvent me (t + d) ty sz a b] else []) :
    c ∧ o.dest = me ∧ t < o.t ∧ o.type = ty := by
  obtain ⟨hc, ho⟩ := List.mem_ite_nil_right.mp ho
  cases List.mem_singleton.mp ho
  exact ⟨hc, rfl, Nat.lt_add_of_pos_right hd, rfl⟩

/-- every event scheduled by the ordinary-event branch: the tick (strictly later, same type, to `me`),
a fan-out event (not earlier, strictly smaller type), or the V2-only forward (same time, type and
payload, to the next LP) -/
theorem onEvent_out {P : Params} (hn : 0 < P.nLps) {me : Nat} {s : GState} {e o : Event}
    (ho : o ∈ (onEvent P me s e).2) :
    (e.type = P.nTypes - 1 ∧ o.dest = me ∧ e.t < o.t ∧ o.type = e.type) ∨
    (e.type ≠ 0 ∧ (o.dest = me ∨ o.dest < P.nLps) ∧ e.t ≤ o.t ∧ o.type < e.type) ∨
    (P.fwdTok = true ∧ e.type ≠ 0 ∧ e.type ≠ P.nTypes - 1 ∧
      o = { dest := (me + 1) % P.nLps, t := e.t, type := e.type, payload := e.payload }) := by
  have hd (k : Nat) : 0 < delaysQ.getD (1 + k) 1 * (1 + me % 3 * P.skew) :=
    Nat.mul_pos (delay_pos k) (Nat.add_pos_left Nat.one_pos _)
  unfold onEvent at ho
  by_cases hthr : s.cnt.toNat ≥ threshold P me
  · rw [if_pos hthr] at ho; cases ho
  rw [if_neg hthr] at ho
  -- the new accumulator is all that the scheduled events see of the state update
  dsimp only at ho
  generalize Prod.fst (α := UInt64) (β := Rng) _ = a at ho
  by_cases h0 : e.type = 0
  · rw [if_pos h0] at ho; exact .inl (tick_out (hd _) ho)
  rw [if_neg h0, List.mem_append, List.mem_append] at ho
  rcases ho with (ho | ho) | ho
  · exact .inl (tick_out (hd _) ho)
  · obtain ⟨j, -, hj⟩ := List.mem_filterMap.mp ho
    obtain ⟨-, hj⟩ := Option.ite_none_left_eq_some.mp hj
    cases hj
    refine .inr (.inl ⟨h0, ?_, Nat.le_add_right _ _, Nat.mod_lt _ (Nat.pos_of_ne_zero h0)⟩)
    split
    · exact .inl rfl
    all_goals exact .inr (Nat.mod_lt _ hn)
  · obtain ⟨h, ho⟩ := List.mem_ite_nil_right.mp ho
    exact .inr (.inr ⟨h.1, h0, h.2.1, List.mem_singleton.mp ho⟩)

theorem handler_of_model {P : Params} {me : Nat} {s : GState} {c : Event} (h : c.type < LP_INIT) :
    handler P me s c = onEvent P me s c := by
  have h' : c.type ≠ LP_FINI := Nat.ne_of_lt (Nat.lt_succ_of_lt h)
  rw [handler, if_neg (Nat.ne_of_lt h), if_neg h']

theorem handler_of_init {P : Params} {me : Nat} {s : GState} :
    handler P me s (initEv me) = onInit P me s := if_pos rfl

/-- what every admissible invocation schedules: for existing LPs, with model types, and strictly after its
cause (later time stamp, or same time stamp and strictly smaller type) unless it is the V2-only forward,
which has the time stamp, type and payload of its cause -/
theorem handler_out {P : Params} (hL : 0 < P.nLps) (hT : 0 < P.nTypes) (hT' : P.nTypes ≤ LP_INIT)
    {ℓ : Nat} (hℓ : ℓ < P.nLps) {s : GState} {c o : Event} (hc : c.type < LP_INIT ∨ c = initEv ℓ)
    (ho : o ∈ (handler P ℓ s c).2) :
    (Event.before c o = true ∨
      P.fwdTok = true ∧ o.t = c.t ∧ o.type = c.type ∧ o.payload = c.payload) ∧
    o.dest < P.nLps ∧ o.type < LP_INIT := by
  have dest {o : Event} (h : o.dest = ℓ ∨ o.dest < P.nLps) : o.dest < P.nLps := h.elim (· ▸ hℓ) id
  rcases hc with hc | rfl
  · rw [handler_of_model hc] at ho
    rcases onEvent_out hL ho with ⟨_, hd, ht, hty⟩ | ⟨_, hd, ht, hty⟩ | ⟨hf, _, _, rfl⟩
    · exact ⟨.inl (Event.before_of_t_lt ht), dest (.inl hd), hty ▸ hc⟩
    · exact ⟨.inl (before_of_le_type_gt ht hty), dest hd, Nat.lt_trans hty hc⟩
    · exact ⟨.inr ⟨hf, rfl, rfl, rfl⟩, Nat.mod_lt _ hL, hc⟩
  · rw [handler_of_init] at ho
    obtain ⟨hd, hty⟩ := onInit_out hL hT ho
    have hty' : o.type < LP_INIT := Nat.lt_of_lt_of_le hty hT'
    exact ⟨.inl (before_of_le_type_gt (Nat.zero_le _) hty'), dest hd, hty'⟩

/-! ### The V2-only mode leaves the strict contract, and the unrelativised contracts are false -/

/-- a typical check configuration: 4 LPs, 3 types, fan 3, threshold 40, spread 20 -/
def P0 : Params :=
  { seed := 12345, nLps := 4, nTypes := 3, maxFan := 3, thrBase := 40, thrSpread := 20,
    useRng := true, memOps := true, t0Events := false }

/-- the same in the V2-only mode -/
def P0fwd : Params := { P0 with fwdTok := true }

def rngZ : Nat → Rng := fun _ => ⟨1, 2, 3, 4⟩

/-- the state of LP 0 after its `LP_INIT` (a reachable state) -/
def s0 (P : Params) : GState := (handler P 0 ((simModel P rngZ).init 0) (initEv 0)).1

/-- a model event of type 1 at time 5 (in the V2-only mode it is forwarded unchanged to LP 1) -/
def cFwd : Event := { dest := 0, t := 5, type := 1, payload := [] }

/-- **The V2-only mode really leaves the strict contract**: LP 0, in its state after `LP_INIT`, processing the
admissible event `cFwd`, schedules an event that is NOT after its cause. -/
theorem genmodel_fwd_not_V2sOn : ¬ V2sOn (simModel P0fwd rngZ) := by
  intro V
  have h := V 0 (s0 P0fwd) cFwd (by decide) { dest := 1, t := 5, type := 1, payload := [] } (by decide)
  exact absurd h.1 (by decide)

theorem genmodel_fwd_not_V2s : ¬ V2s (simModel P0fwd rngZ) :=
  fun V => genmodel_fwd_not_V2sOn V.on

theorem onInit_self (P : Params) (me : Nat) (s : GState) : ∃ o ∈ (onInit P me s).2, o.dest = me :=
  ⟨_, List.mem_map.mpr ⟨0, List.mem_range.mpr (Nat.add_pos_left Nat.one_pos _), rfl⟩, rfl⟩

/-- a non-existing LP index, whatever the parameters and the state: `LP_INIT` schedules the first tick
for `me` -/
theorem not_validStep_init_of_le {P : Params} (rng0 : Nat → Rng) {me : Nat} (h : P.nLps ≤ me) (s : GState) :
    ¬ (simModel P rng0).validStep me s (initEv me) := by
  intro V
  obtain ⟨o, ho, hd⟩ := onInit_self P me s
  rw [← handler_of_init] at ho
  exact Nat.not_lt.mpr h (hd ▸ (V o ho).2.1)

/-- hence the UNRELATIVISED contracts are false for every member of the GenModel family: `Spec.V2`, a fortiori
`Spec.V2s`, quantify over invocations the runtime never performs -/
theorem not_V2 (P : Params) (rng0 : Nat → Rng) : ¬ V2 (simModel P rng0) :=
  fun V => not_validStep_init_of_le rng0 (Nat.le_refl _) ((simModel P rng0).init P.nLps) (V P.nLps _ _)

theorem genmodel_not_V2 : ¬ V2 (simModel P0 rngZ) := not_V2 P0 rngZ

theorem genmodel_not_V2s : ¬ V2s (simModel P0 rngZ) := fun V => genmodel_not_V2 V.toV2

end RootSim.GenModel
