import RootSim.Model.GvtNode
import RootSim.Proofs.ListSet
/-! List and pair lemmas for the node-level GVT counting proof, and what an enabled action of the model does. -/
namespace RootSim.GvtNode

@[simp] theorem Two.get_set_same {α} (p : Two α) (b : Bool) (x : α) : (p.set b x).get b = x := by
  cases b <;> rfl

@[simp] theorem Two.get_set_not {α} (p : Two α) (b : Bool) (x : α) : (p.set (!b) x).get b = p.get b := by
  cases b <;> rfl

@[simp] theorem Two.get_not_set {α} (p : Two α) (b : Bool) (x : α) : (p.set b x).get (!b) = p.get (!b) := by
  cases b <;> rfl

theorem Two.get_set_ne {α} {p : Two α} {b c : Bool} {x : α} (h : c ≠ b) : (p.set b x).get c = p.get c := by
  cases b <;> cases c <;> first | rfl | exact absurd rfl h

theorem getD_of_isSome {α} {o : Option α} (h : o.isSome = true) (a b : α) : o.getD a = o.getD b := by
  cases o with
  | none => cases h
  | some _ => rfl

/-- removing one element takes its term out of the sum; replacing it (`sumBy_set`) exchanges the terms -/
theorem sumBy_eraseIdx {α} (f : α → Nat) (l : List α) (i : Nat) (a : α) (h : l[i]? = some a) :
    sumBy f (l.eraseIdx i) + f a = sumBy f l := by
  induction l generalizing i with
  | nil => simp at h
  | cons x l ih =>
    cases i with
    | zero => cases h; rw [List.eraseIdx_cons_zero, sumBy, Nat.add_comm]
    | succ i => rw [List.eraseIdx_cons_succ, sumBy, sumBy, Nat.add_assoc, ih i h]

theorem sumBy_set {α} (f : α → Nat) (l : List α) (i : Nat) (a b : α) (h : l[i]? = some a) :
    sumBy f (l.set i b) + f a = sumBy f l + f b := by
  have hb := sumBy_eraseIdx f (l.set i b) i b (List.getElem?_set_self (List.getElem?_eq_some_iff.1 h).1)
  rw [List.eraseIdx_set_eq] at hb
  rw [← hb, ← sumBy_eraseIdx f l i a h, Nat.add_right_comm]

theorem sumBy_congr {α} (f g : α → Nat) (l : List α) (h : ∀ a ∈ l, f a = g a) : sumBy f l = sumBy g l := by
  induction l with
  | nil => rfl
  | cons x l ih =>
    rw [sumBy, sumBy, h x List.mem_cons_self, ih fun a ha => h a (List.mem_cons_of_mem x ha)]

theorem sumBy_eq_zero_iff {α} (f : α → Nat) (l : List α) : sumBy f l = 0 ↔ ∀ a ∈ l, f a = 0 := by
  induction l with
  | nil => simp [sumBy]
  | cons x l ih => simp [sumBy, ih]

theorem countP_eq_sumBy {α} (p : α → Bool) (l : List α) :
    l.countP p = sumBy (fun a => if p a then 1 else 0) l := by
  induction l with
  | nil => rfl
  | cons x l ih => rw [List.countP_cons, sumBy, ih, Nat.add_comm]

theorem countP_eraseIdx' {α} (p : α → Bool) (l : List α) (i : Nat) (a : α) (h : l[i]? = some a) :
    List.countP p (l.eraseIdx i) + (if p a then 1 else 0) = List.countP p l := by
  rw [countP_eq_sumBy, countP_eq_sumBy]; exact sumBy_eraseIdx _ l i a h

theorem countP_and_eq_all {α} (p q : α → Bool) (l : List α)
    (h : l.countP (fun x => p x && q x) = l.countP p) : ∀ x ∈ l, p x = true → q x = true := by
  intro x hx hp
  have h' : (l.filter p).countP q = (l.filter p).length := by
    rw [List.countP_filter, ← List.countP_eq_length_filter, ← h]
    simp only [Bool.and_comm]
  exact List.countP_eq_length.1 h' x (List.mem_filter.2 ⟨hx, hp⟩)

/-- the arithmetic of a balance `R + U = p + P + F` whose sums are updated in place (`R' + e = R + e'` etc.):
it persists if the updates cancel (`hb`); `q`, `q'` are the share of `p`, `p'` that takes part in `hb`.
Proof: add `e + u + (r + q)` to both sides. -/
theorem balance_arith {R U P F R' U' P' F' p p' q q' e e' u u' r r' : Nat}
    (bal : R + U = p + P + F) (b1 : R' + e = R + e') (b2 : U' + u = U + u') (b3 : P' + r = P + r')
    (hb : e' + q + (u' + r + F) = e + q' + (u + r' + F')) (hq : q + p' = q' + p) :
    R' + U' = p' + P' + F' := by
  have h1 : R' + U' + (e + u) = p + P + F + (e' + u') := by
    rw [← bal, Nat.add_add_add_comm, b1, b2, Nat.add_add_add_comm]
  have h2 : p' + P' + F' + (e + u) + (r + q) = p + P + F + (e' + u') + (r + q) :=
    calc p' + P' + F' + (e + u) + (r + q) = (P' + r) + (q + p') + (e + u + F') := by ac_rfl
      _ = P + p + (e + q' + (u + r' + F')) := by rw [b3, hq]; ac_rfl
      _ = p + P + F + (e' + u') + (r + q) := by rw [← hb]; ac_rfl
  exact Nat.add_right_cancel (h1.trans (Nat.add_right_cancel h2).symm)

theorem run_induction {P : St → Prop} (hstep : ∀ s s' a, P s → step s a = some s' → P s') :
    ∀ (as : List Action) (s s' : St), P s → run s as = some s' → P s'
  | [], s, s', h, hs => by cases hs; exact h
  | a :: as, s, s', h, hs => by
    simp only [run] at hs
    split at hs
    · cases hs
    · rename_i s1 h1; exact run_induction hstep as s1 s' (hstep s s1 a h h1) hs

/-! What an enabled action does. The three thread actions replace one thread and the in-flight list, the three
node actions replace one thread and its node. -/

theorem send_some {s s' : St} {t d ts : Nat} (hs : send s t d ts = some s') :
    ∃ th, s.thr[t]? = some th ∧ d < s.nodes.length ∧
      s' = { s with thr := s.thr.set t { th with unrep := th.unrep.set th.colour (d :: th.unrep.get th.colour) }
                    flight := s.flight ++ [⟨th.colour, d, ts⟩] } := by
  unfold send at hs
  split at hs
  · cases hs
  · split at hs
    · exact ⟨_, ‹_›, ‹_›, (Option.some.inj hs).symm⟩
    · cases hs

theorem deliver_some {s s' : St} {i t : Nat} (hs : deliver s i t = some s') :
    ∃ m th, s.flight[i]? = some m ∧ s.thr[t]? = some th ∧ th.node = m.dest ∧
      s' = { s with thr := s.thr.set t { th with recv := th.recv.set m.colour (th.recv.get m.colour + 1) }
                    flight := s.flight.eraseIdx i } := by
  unfold deliver at hs
  split at hs
  · split at hs
    · exact ⟨_, _, ‹_›, ‹_›, ‹_›, (Option.some.inj hs).symm⟩
    · cases hs
  · cases hs

theorem flip_some {s s' : St} {t : Nat} (hs : flip s t = some s') :
    ∃ th, s.thr[t]? = some th ∧ th.stage = .redux1 ∧
      s' = { s with thr := s.thr.set t { th with colour := !th.colour, stage := .reduce } } := by
  unfold flip at hs
  split at hs
  · cases hs
  · split at hs
    · exact ⟨_, ‹_›, ‹_›, (Option.some.inj hs).symm⟩
    · cases hs

theorem report_some {s s' : St} {t : Nat} (hs : report s t = some s') :
    ∃ th nd, s.thr[t]? = some th ∧ s.nodes[th.node]? = some nd ∧ th.stage = .reduce ∧ caZero s th.node = true ∧
      s' = { s with
        thr := s.thr.set t { th with unrep := th.unrep.set (!th.colour) []
                                     stage := if nd.cc = s.N - 1 then .reduceWait else .wait }
        nodes := s.nodes.set th.node { nd with
          totalSent := nd.totalSent ++ th.unrep.get (!th.colour)
          totalRecv := nd.totalRecv + 1
          cc := nd.cc + 1
          contrib := if nd.cc = s.N - 1 then some (nd.totalSent ++ th.unrep.get (!th.colour)) else nd.contrib } } := by
  unfold report at hs
  split at hs
  · cases hs
  · split at hs
    · cases hs
    · split at hs
      · exact ⟨_, _, ‹_›, ‹_›, (‹_ ∧ _›).1, (‹_ ∧ _›).2, (Option.some.inj hs).symm⟩
      · cases hs

theorem collective_some {s s' : St} {t : Nat} (hs : collective s t = some s') :
    ∃ th nd, s.thr[t]? = some th ∧ s.nodes[th.node]? = some nd ∧ th.stage = .reduceWait ∧ allContrib s = true ∧
      s' = { s with
        thr := s.thr.set t { th with stage := .wait }
        nodes := s.nodes.set th.node { nd with
          toReceive := some (scatter s th.node)
          subtracted := true
          totalRecv := nd.totalRecv - ((scatter s th.node : Int) + s.N) } } := by
  unfold collective at hs
  split at hs
  · cases hs
  · split at hs
    · cases hs
    · split at hs
      · exact ⟨_, _, ‹_›, ‹_›, (‹_ ∧ _›).1, (‹_ ∧ _›).2, (Option.some.inj hs).symm⟩
      · cases hs

theorem poll_some {s s' : St} {t : Nat} (hs : poll s t = some s') :
    ∃ th nd, s.thr[t]? = some th ∧ s.nodes[th.node]? = some nd ∧ th.stage = .wait ∧
      s' = { s with
        thr := s.thr.set t { th with recv := th.recv.set (!th.colour) 0
                                     stage := if nd.totalRecv = 0 then .redux2 else .wait }
        nodes := s.nodes.set th.node { nd with
          totalRecv := nd.totalRecv + (th.recv.get (!th.colour) : Int)
          polled := nd.polled + th.recv.get (!th.colour)
          totalSent := if nd.totalRecv = 0 then cleanup s.nodes.length s.N th.rid nd.totalSent
                       else nd.totalSent } } := by
  unfold poll at hs
  split at hs
  · cases hs
  · split at hs
    · cases hs
    · split at hs
      · exact ⟨_, _, ‹_›, ‹_›, ‹_›, (Option.some.inj hs).symm⟩
      · cases hs

end RootSim.GvtNode
