import RootSim.Proofs.GvtGlobal
import RootSim.Proofs.ListSet
/-!
# The invariant of a GVT round (`Model/GvtGlobal.lean`), used by `Props/C04Global.lean`

The invariant `RInv old s` of a round whose old colour is `old`:
* `col`        : a node has colour `old` before its flip and `!old` after it;
* `allFlipped` : if some node has passed, every node has flipped (guard of `pass`);
* `accCur`     : from `join` on, `acc ≤ cur` (`join` needs `cur = none`; every extraction lowers `acc`);
* `oldFlight`  : an old-colour message in flight is addressed to a node that has not passed (guard of `pass`, and
                 no flipped node stamps the old colour);
* `destOk`     : destinations are valid;
* `newFlight`  : as long as some node is still idle, every new-colour message in flight is `≥ acc` of some
                 flipped node (its sender: `ts ≥ cur ≥ acc`, and `acc` only decreases before the next `join`);
* `safe`       : once no node is idle: every `g` that is `≤ floor k` for all `k` and `≤` every old-colour message
                 in flight (`LBnd`) is `≤` every `pend`, `cur`, and in-flight time stamp (`AllGe`).
`safe` is inductive because, once no node is idle, the set of such `g` never grows (`lbnd_of_step`: a `g` in it
after a step was in it before): no step raises `min(min_k floor k, min old-colour in flight)`.
-/
namespace RootSim.GvtGlobal

def LBnd (old : Bool) (g : Nat) (s : St) : Prop :=
  (∀ (k : Nat) nd, s.nodes[k]? = some nd → Le g (floor nd)) ∧ ∀ m ∈ s.flight, m.colour = old → g ≤ m.ts

def AllGe (g : Nat) (s : St) : Prop :=
  (∀ (k : Nat) nd, s.nodes[k]? = some nd → (∀ x ∈ nd.pend, g ≤ x) ∧ Le g nd.cur) ∧ ∀ m ∈ s.flight, g ≤ m.ts

def NoIdle (s : St) : Prop := ∀ (k : Nat) nd, s.nodes[k]? = some nd → nd.stage ≠ .idle

theorem Stage.not_reported_of_not_passed {st : Stage} (h : st.hasPassed = false) : st.isReported = false := by
  cases st <;> first | rfl | cases h

theorem Stage.eq_reported {st : Stage} (h : st.isReported = true) : ∃ m, st = .reported m := by
  cases st with
  | reported m => exact ⟨m, rfl⟩
  | _ => cases h

theorem floor_unrep {nd : Node} (h : nd.stage.isReported = false) :
    floor nd = omin nd.acc (omin (lmin nd.pend) nd.cur) := by
  unfold floor
  cases hs : nd.stage with
  | reported m => rw [hs] at h; cases h
  | _ => rfl

theorem le_floor_unrep (g : Nat) (nd : Node) (h : nd.stage.isReported = false) :
    Le g (floor nd) ↔ Le g nd.acc ∧ (∀ x ∈ nd.pend, g ≤ x) ∧ Le g nd.cur := by
  rw [floor_unrep h, le_omin, le_omin, le_lmin]

theorem le_floor_rep (g : Nat) (nd : Node) (m : Option Nat) (h : nd.stage = .reported m) :
    Le g (floor nd) ↔ Le g m := by
  unfold floor; rw [h]

theorem mem_erase_cases {l : List Nat} {e x : Nat} (h : x ∈ l) : x = e ∨ x ∈ l.erase e := by
  by_cases hx : x = e
  · exact Or.inl hx
  · exact Or.inr ((List.mem_erase_of_ne hx).2 h)

theorem mem_flight_snoc {fl : List Msg} {m m' : Msg} (h : m ∈ fl ++ [m']) : m ∈ fl ∨ m = m' :=
  (List.mem_append.1 h).imp_right List.mem_singleton.1

/-- nothing below `g` is ever created: every step keeps `AllGe g` -/
theorem allge_step {g : Nat} {s s' : St} (h : AllGe g s) (st : Step s s') : AllGe g s' := by
  obtain ⟨hn, hf⟩ := h
  cases st with
  | beginProcess k e nd hk he hc =>
    have hnd := hn k nd hk
    exact ⟨forall_upd hk hn ⟨fun x hx => hnd.1 x (List.mem_of_mem_erase hx), (le_some _ _).2 (hnd.1 e he)⟩, hf⟩
  | emitLocal k x c nd hk hc hx =>
    have hnd := hn k nd hk
    refine ⟨forall_upd hk hn ⟨fun y hy => ?_, hnd.2⟩, hf⟩
    rcases List.mem_cons.1 hy with rfl | hy
    · exact Nat.le_trans (hnd.2 c hc) hx
    · exact hnd.1 y hy
  | emitRemote k d x c nd hk hc hx hd =>
    have hnd := hn k nd hk
    refine ⟨forall_upd hk hn hnd, fun m hm => ?_⟩
    rcases mem_flight_snoc hm with hm | rfl
    · exact hf m hm
    · exact Nat.le_trans (hnd.2 c hc) hx
  | endProcess k c nd hk hc => exact ⟨forall_upd hk hn ⟨(hn k nd hk).1, le_none g⟩, hf⟩
  | deliver i m nd hi hk =>
    have hnd := hn m.dest nd hk
    refine ⟨forall_upd hk hn ⟨fun y hy => ?_, hnd.2⟩, fun m' hm' => hf m' (List.mem_of_mem_eraseIdx hm')⟩
    rcases List.mem_cons.1 hy with rfl | hy
    · exact hf m (List.mem_of_getElem? hi)
    · exact hnd.1 y hy
  | join k nd hk hs hc | flip k nd hk hs | pass k nd hk hs hg | report k nd hk hs =>
    exact ⟨forall_upd hk hn (hn k nd hk), hf⟩

/-- the invariant of a round whose old colour is `old` (see the header of this file) -/
structure RInv (old : Bool) (s : St) : Prop where
  col : ∀ (k : Nat) nd, s.nodes[k]? = some nd → nd.colour = (if nd.stage.hasFlipped then !old else old)
  allFlipped : ∀ (k : Nat) nd, s.nodes[k]? = some nd → nd.stage.hasPassed = true →
    ∀ (j : Nat) ndj, s.nodes[j]? = some ndj → ndj.stage.hasFlipped = true
  accCur : ∀ (k : Nat) nd, s.nodes[k]? = some nd → nd.stage ≠ .idle → ∀ c, nd.cur = some c → OLe nd.acc c
  oldFlight : ∀ m ∈ s.flight, m.colour = old → ∃ nd, s.nodes[m.dest]? = some nd ∧ nd.stage.hasPassed = false
  destOk : ∀ m ∈ s.flight, m.dest < s.nodes.length
  newFlight : ∀ m ∈ s.flight, m.colour = (!old) →
    NoIdle s ∨ ∃ (j : Nat) (nd : Node), s.nodes[j]? = some nd ∧ nd.stage.hasFlipped = true ∧ OLe nd.acc m.ts
  safe : NoIdle s → ∀ g, LBnd old g s → AllGe g s

/-- a node stamps the new colour exactly when it has flipped -/
theorem RInv.hasFlipped_iff {old : Bool} {s : St} (h : RInv old s) {k : Nat} {nd : Node}
    (hk : s.nodes[k]? = some nd) : nd.stage.hasFlipped = true ↔ nd.colour = (!old) := by
  have := h.col k nd hk
  cases hf : nd.stage.hasFlipped <;> rw [hf] at this <;> cases old <;> simp [this]

theorem RInv.not_passed {old : Bool} {s : St} (h : RInv old s) {k j : Nat} {nd ndj : Node}
    (hk : s.nodes[k]? = some nd) (hnf : nd.stage.hasFlipped = false) (hj : s.nodes[j]? = some ndj) :
    ndj.stage.hasPassed = false :=
  Bool.eq_false_iff.2 fun hq => Bool.noConfusion (hnf.symm.trans (h.allFlipped j ndj hj hq k nd hk))

theorem noIdle_step {s s' : St} (h : NoIdle s) (st : Step s s') : NoIdle s' := by
  cases st with
  | beginProcess k e nd hk he hc | emitLocal k x c nd hk hc hx | emitRemote k d x c nd hk hc hx hd
  | endProcess k c nd hk hc | deliver i m nd hi hk => exact forall_upd hk h (h _ nd hk)
  | join k nd hk hs hc | flip k nd hk hs | pass k nd hk hs hg | report k nd hk hs =>
    exact forall_upd hk h Stage.noConfusion

/-- node `k` goes from `nd` to `nd'`: flipped nodes stay flipped, and a node passes only if one had passed before or
every node has flipped -/
theorem allFlipped_upd {old : Bool} {s : St} (h : RInv old s) {k : Nat} {nd nd' : Node} {fl : List Msg}
    (hk : s.nodes[k]? = some nd) (hfl : nd.stage.hasFlipped = true → nd'.stage.hasFlipped = true)
    (hps : nd'.stage.hasPassed = true → nd.stage.hasPassed = true ∨ ∀ n ∈ s.nodes, n.stage.hasFlipped = true) :
    ∀ (k1 : Nat) nd1, (upd s k nd' fl).nodes[k1]? = some nd1 → nd1.stage.hasPassed = true →
    ∀ (j : Nat) ndj, (upd s k nd' fl).nodes[j]? = some ndj → ndj.stage.hasFlipped = true := by
  intro k1 nd1 h1 hp1
  -- enough: every node of `s` has flipped
  have hall : ∀ (j : Nat) ndj, s.nodes[j]? = some ndj → ndj.stage.hasFlipped = true := by
    rw [upd_get nd' fl k1 hk] at h1
    split at h1
    · cases h1
      rcases hps hp1 with hp | hg
      · exact h.allFlipped k nd hk hp
      · exact fun j ndj hj => hg ndj (List.mem_of_getElem? hj)
    · exact h.allFlipped k1 nd1 h1 hp1
  exact forall_upd hk hall (hfl (hall k nd hk))

theorem destOk_upd {s : St} {k : Nat} {nd : Node} {fl : List Msg} (h : ∀ m ∈ fl, m.dest < s.nodes.length) :
    ∀ m ∈ (upd s k nd fl).flight, m.dest < (upd s k nd fl).nodes.length := by
  rw [upd_length]; exact h

/-- an old-colour message that was in flight before the step is still addressed to a node that has not passed,
unless the step makes its destination pass -/
theorem oldFlight_keep {old : Bool} {s : St} (h : RInv old s) {k : Nat} {nd nd' : Node} {fl : List Msg}
    (hk : s.nodes[k]? = some nd) (m : Msg) (hm : m ∈ s.flight) (hc : m.colour = old)
    (hp : nd'.stage.hasPassed = true →
      nd.stage.hasPassed = true ∨ ∀ m ∈ s.flight, m.dest = k → m.colour ≠ old) :
    ∃ ndd, (upd s k nd' fl).nodes[m.dest]? = some ndd ∧ ndd.stage.hasPassed = false := by
  obtain ⟨ndd, hd, hnp⟩ := h.oldFlight m hm hc
  obtain ⟨ndd', hd', hcase⟩ := exists_upd nd' fl hk m.dest ndd hd
  refine ⟨ndd', hd', ?_⟩
  rcases hcase with ⟨hmk, rfl, rfl⟩ | ⟨_, rfl⟩
  · refine Bool.eq_false_iff.2 fun hq => ?_
    rcases hp hq with hq' | hg
    · exact Bool.noConfusion (hnp.symm.trans hq')
    · exact hg m hm hmk hc
  · exact hnp

/-- a new-colour message that was in flight before the step keeps its witness -/
theorem newFlight_keep {old : Bool} {s : St} (h : RInv old s) {k : Nat} {nd nd' : Node} {fl : List Msg}
    (hk : s.nodes[k]? = some nd) (hst : Step s (upd s k nd' fl))
    (hp : nd.stage.hasFlipped = true → nd'.stage.hasFlipped = true ∧ ∀ x, OLe nd.acc x → OLe nd'.acc x)
    (m : Msg) (hm : m ∈ s.flight) (hc : m.colour = (!old)) :
    NoIdle (upd s k nd' fl) ∨ ∃ (j : Nat) (ndj : Node), (upd s k nd' fl).nodes[j]? = some ndj ∧
      ndj.stage.hasFlipped = true ∧ OLe ndj.acc m.ts := by
  rcases h.newFlight m hm hc with hni | ⟨j, ndj, hj, hf, hle⟩
  · exact Or.inl (noIdle_step hni hst)
  · obtain ⟨ndj', hj', hcase⟩ := exists_upd nd' fl hk j ndj hj
    refine Or.inr ⟨j, ndj', hj', ?_⟩
    rcases hcase with ⟨_, rfl, rfl⟩ | ⟨_, rfl⟩
    · exact ⟨(hp hf).1, (hp hf).2 _ hle⟩
    · exact ⟨hf, hle⟩

/-- `floor` of the old node from `floor` of the new one, for a step that keeps the stage -/
theorem floor_local {g : Nat} {nd nd' : Node} (hst : nd'.stage = nd.stage)
    (hu : nd.stage.isReported = false → Le g nd'.acc → (∀ x ∈ nd'.pend, g ≤ x) → Le g nd'.cur →
      Le g nd.acc ∧ (∀ x ∈ nd.pend, g ≤ x) ∧ Le g nd.cur) :
    Le g (floor nd') → Le g (floor nd) := by
  intro hfl
  cases hr : nd.stage.isReported with
  | false =>
    have h' := (le_floor_unrep g nd' (hst ▸ hr)).1 hfl
    exact (le_floor_unrep g nd hr).2 (hu hr h'.1 h'.2.1 h'.2.2)
  | true =>
    obtain ⟨m, hs⟩ := Stage.eq_reported hr
    rw [le_floor_rep g nd m hs]
    rwa [le_floor_rep g nd' m (hst.trans hs)] at hfl

theorem floor_congr {g : Nat} {nd nd' : Node} (h1 : nd.stage.isReported = false)
    (h2 : nd'.stage.isReported = false) (ha : nd'.acc = nd.acc) (hp : nd'.pend = nd.pend) (hc : nd'.cur = nd.cur) :
    Le g (floor nd') → Le g (floor nd) := by
  rw [floor_unrep h1, floor_unrep h2, ha, hp, hc]; exact id

/-- once no node is idle, a step does not enlarge the set of lower bounds of
`min(min_k floor k, min old-colour in flight)`: that quantity does not increase -/
theorem lbnd_of_step {old : Bool} {g : Nat} {s s' : St} (h : RInv old s) (hni : NoIdle s) (st : Step s s')
    (hl : LBnd old g s') : LBnd old g s := by
  obtain ⟨hn', hf'⟩ := hl
  cases st with
  | beginProcess k e nd hk he hc =>
    refine ⟨forall_of_upd hk hn' (floor_local rfl fun _ ha hp _ => ?_), hf'⟩
    have ha' := (le_omin _ _ _).1 ha
    refine ⟨ha'.1, fun x hx => ?_, hc ▸ le_none g⟩
    rcases mem_erase_cases (e := e) hx with rfl | hx
    · exact (le_some _ _).1 ha'.2
    · exact hp x hx
  | emitLocal k x c nd hk hc hx =>
    exact ⟨forall_of_upd hk hn'
      (floor_local rfl fun _ ha hp hcur => ⟨ha, fun y hy => hp y (List.mem_cons_of_mem _ hy), hcur⟩), hf'⟩
  | emitRemote k d x c nd hk hc hx hd =>
    exact ⟨forall_of_upd hk hn' id, fun m hm hcm => hf' m (List.mem_append_left _ hm) hcm⟩
  | endProcess k c nd hk hc =>
    refine ⟨forall_of_upd hk hn' (floor_local rfl fun _ ha hp _ => ⟨ha, hp, ?_⟩), hf'⟩
    -- the event that has just been processed is covered by the accumulator
    rw [hc]; exact (le_some _ _).2 (le_ole_trans ha (h.accCur k nd hk (hni k nd hk) c hc))
  | deliver i m nd hi hk =>
    have hloc : Le g (floor { nd with pend := m.ts :: nd.pend }) → Le g (floor nd) :=
      floor_local rfl fun _ ha hp hcur => ⟨ha, fun y hy => hp y (List.mem_cons_of_mem _ hy), hcur⟩
    refine ⟨forall_of_upd hk hn' hloc, fun m' hm' hcm' => ?_⟩
    obtain ⟨i', hi'⟩ := List.mem_iff_getElem?.1 hm'
    by_cases hii : i' = i
    · subst hii
      rw [hi] at hi'; cases hi'
      -- the delivered message is old-coloured: its destination has not passed, so it is under `floor`
      obtain ⟨ndd, hdd, hnp⟩ := h.oldFlight m hm' hcm'
      rw [hk] at hdd; cases hdd
      have hfl := hn' m.dest { nd with pend := m.ts :: nd.pend } (by rw [upd_get _ _ _ hk, if_pos rfl])
      exact ((le_floor_unrep g { nd with pend := m.ts :: nd.pend } (Stage.not_reported_of_not_passed hnp)).1
        hfl).2.1 m.ts (List.mem_cons_self ..)
    · exact hf' m' ((List.mem_eraseIdx_iff_getElem?).2 ⟨i', hii, hi'⟩) hcm'
  | join k nd hk hs hc => exact absurd hs (hni k nd hk)
  | flip k nd hk hs | pass k nd hk hs hg =>
    exact ⟨forall_of_upd hk hn' (floor_congr (hs ▸ rfl) rfl rfl rfl rfl), hf'⟩
  | report k nd hk hs => exact ⟨forall_of_upd hk hn' id, hf'⟩

theorem rinv_step {old : Bool} {s s' : St} (h : RInv old s) (st : Step s s') : RInv old s' where
  col := by
    cases st with
    | beginProcess k e nd hk he hc | emitLocal k x c nd hk hc hx | emitRemote k d x c nd hk hc hx hd
    | endProcess k c nd hk hc | deliver i m nd hi hk => exact forall_upd hk h.col (h.col _ nd hk)
    | join k nd hk hs hc | pass k nd hk hs hg | report k nd hk hs =>
      exact forall_upd hk h.col (by have := h.col _ nd hk; rw [hs] at this; exact this)
    | flip k nd hk hs =>
      exact forall_upd hk h.col (by have := h.col _ nd hk; rw [hs] at this; exact congrArg (!·) this)
  allFlipped := by
    cases st with
    | beginProcess k e nd hk he hc | emitLocal k x c nd hk hc hx | emitRemote k d x c nd hk hc hx hd
    | endProcess k c nd hk hc | deliver i m nd hi hk => exact allFlipped_upd h hk id Or.inl
    | join k nd hk hs hc => exact allFlipped_upd h hk (hs ▸ fun hf => nomatch hf) (fun hp => nomatch hp)
    | flip k nd hk hs => exact allFlipped_upd h hk (fun _ => rfl) (fun hp => nomatch hp)
    | pass k nd hk hs hg => exact allFlipped_upd h hk (fun _ => rfl) (fun _ => Or.inr hg.1)
    | report k nd hk hs => exact allFlipped_upd h hk (fun _ => rfl) (fun _ => Or.inl (hs ▸ rfl))
  accCur := by
    cases st with
    | beginProcess k e nd hk he hc =>
      exact forall_upd hk h.accCur fun _ c hc' =>
        (ole_omin _ _ _).2 (Or.inr ((ole_some _ _).2 (Nat.le_of_eq (Option.some.inj hc'))))
    | emitLocal k x c nd hk hc hx | emitRemote k d x c nd hk hc hx hd | deliver i m nd hi hk =>
      exact forall_upd hk h.accCur (h.accCur _ nd hk)
    | endProcess k c nd hk hc => exact forall_upd hk h.accCur fun _ c hc' => nomatch hc'
    | join k nd hk hs hc => exact forall_upd hk h.accCur fun _ c hc' => nomatch hc.symm.trans hc'
    | flip k nd hk hs | pass k nd hk hs hg | report k nd hk hs =>
      exact forall_upd hk h.accCur fun _ => h.accCur _ nd hk (hs ▸ Stage.noConfusion)
  oldFlight := by
    cases st with
    | beginProcess k e nd hk he hc | emitLocal k x c nd hk hc hx | endProcess k c nd hk hc =>
      exact fun m hm hc' => oldFlight_keep h hk m hm hc' Or.inl
    | join k nd hk hs hc | flip k nd hk hs =>
      exact fun m hm hc' => oldFlight_keep h hk m hm hc' fun hq => nomatch hq
    | report k nd hk hs =>
      exact fun m hm hc' => oldFlight_keep h hk m hm hc' fun _ => Or.inl (hs ▸ rfl)
    | pass k nd hk hs hg =>
      -- the guard: everything in flight for `k` carries `k`'s colour, which is the new one
      refine fun m hm hc' => oldFlight_keep h hk m hm hc' fun _ => Or.inr fun m' hm' hd' hc'' => ?_
      have hnew := (h.hasFlipped_iff hk).1 (hs ▸ rfl)
      rw [← hg.2 m' hm' hd', hc''] at hnew
      cases old <;> cases hnew
    | deliver i m nd hi hk =>
      exact fun m' hm' hc' => oldFlight_keep h hk m' (List.mem_of_mem_eraseIdx hm') hc' Or.inl
    | emitRemote k d x c nd hk hc hx hd =>
      intro m hm hc'
      rcases mem_flight_snoc hm with hm | rfl
      · exact oldFlight_keep h hk m hm hc' Or.inl
      · -- a message stamped `old`: the sender has not flipped, so nobody has passed
        have hnf : nd.stage.hasFlipped = false :=
          Bool.eq_false_iff.2 fun hf => by rw [(h.hasFlipped_iff hk).1 hf] at hc'; cases old <;> cases hc'
        obtain ⟨ndd, hdd⟩ : ∃ ndd, s.nodes[d]? = some ndd := ⟨s.nodes[d], List.getElem?_eq_getElem hd⟩
        obtain ⟨ndd', hd', hcase⟩ := exists_upd nd (s.flight ++ [⟨nd.colour, d, x⟩]) hk d ndd hdd
        refine ⟨ndd', hd', ?_⟩
        have : ndd' = ndd := by rcases hcase with ⟨_, rfl, rfl⟩ | ⟨_, rfl⟩ <;> rfl
        exact this ▸ h.not_passed hk hnf hdd
  destOk := by
    cases st with
    | beginProcess k e nd hk he hc | emitLocal k x c nd hk hc hx
    | endProcess k c nd hk hc | join k nd hk hs hc | flip k nd hk hs
    | pass k nd hk hs hg | report k nd hk hs => exact destOk_upd h.destOk
    | emitRemote k d x c nd hk hc hx hd =>
      exact destOk_upd fun m hm => (mem_flight_snoc hm).elim (h.destOk m) (fun hm => hm ▸ hd)
    | deliver i m nd hi hk => exact destOk_upd fun m' hm' => h.destOk m' (List.mem_of_mem_eraseIdx hm')
  newFlight := by
    have st0 := st
    cases st with
    | beginProcess k e nd hk he hc =>
      exact newFlight_keep h hk st0 fun hf => ⟨hf, fun x hx => (ole_omin _ _ _).2 (Or.inl hx)⟩
    | emitLocal k x c nd hk hc hx | endProcess k c nd hk hc =>
      exact newFlight_keep h hk st0 fun hf => ⟨hf, fun _ hx => hx⟩
    | join k nd hk hs hc => exact newFlight_keep h hk st0 (hs ▸ fun hf => nomatch hf)
    | flip k nd hk hs | pass k nd hk hs hg | report k nd hk hs =>
      exact newFlight_keep h hk st0 fun _ => ⟨rfl, fun _ hx => hx⟩
    | deliver i m nd hi hk =>
      exact fun m' hm' hc' =>
        newFlight_keep h hk st0 (fun hf => ⟨hf, fun _ hx => hx⟩) m' (List.mem_of_mem_eraseIdx hm') hc'
    | emitRemote k d x c nd hk hc hx hd =>
      intro m hm hc'
      rcases mem_flight_snoc hm with hm | rfl
      · exact newFlight_keep h hk st0 (fun hf => ⟨hf, fun _ hx => hx⟩) m hm hc'
      · -- stamped `!old`: the sender has flipped, hence joined, hence `acc ≤ cur ≤ x`
        have hf : nd.stage.hasFlipped = true := (h.hasFlipped_iff hk).2 hc'
        have hni : nd.stage ≠ .idle := fun hi => by rw [hi] at hf; cases hf
        exact Or.inr ⟨k, nd, by rw [upd_get _ _ k hk, if_pos rfl], hf, ole_trans (h.accCur k nd hk hni c hc) hx⟩
  safe := by
    intro hni' g hl
    by_cases hni : NoIdle s
    · exact allge_step (h.safe hni g (lbnd_of_step h hni st hl)) st
    · cases st with
      | beginProcess k e nd hk he hc | emitLocal k x c nd hk hc hx | emitRemote k d x c nd hk hc hx hd
      | endProcess k c nd hk hc | deliver i m nd hi hk => exact absurd (forall_of_upd hk hni' id) hni
      | flip k nd hk hs | pass k nd hk hs hg | report k nd hk hs =>
        exact absurd (forall_of_upd hk hni' fun _ hid => nomatch hs.symm.trans hid) hni
      | join k nd hk hs hc =>
        -- the last idle node joins: nobody has passed, every node is still under its own `floor`
        obtain ⟨hn', hf'⟩ := hl
        have hnf : nd.stage.hasFlipped = false := hs ▸ rfl
        have hnr : ∀ (j : Nat) ndj, (upd s k { nd with stage := .joined, acc := none } s.flight).nodes[j]? =
            some ndj → ndj.stage.isReported = false :=
          forall_upd hk (fun j ndj hj => Stage.not_reported_of_not_passed (h.not_passed hk hnf hj)) rfl
        have hfloor := fun j ndj hj => (le_floor_unrep g ndj (hnr j ndj hj)).1 (hn' j ndj hj)
        refine ⟨fun j ndj hj => (hfloor j ndj hj).2, fun m hm => ?_⟩
        by_cases hcm : m.colour = old
        · exact hf' m hm hcm
        · -- a new-colour message is above the accumulator of a flipped node, which is not `k`
          rcases h.newFlight m hm (Bool.eq_not_of_ne hcm) with h1 | ⟨j, ndj, hj, hfj, hle⟩
          · exact absurd h1 hni
          · have hacc := forall_of_upd (P := fun n => n.stage.hasFlipped = true → Le g n.acc) hk
              (fun j ndj hj _ => (hfloor j ndj hj).1) (fun _ hf => Bool.noConfusion (hnf.symm.trans hf))
            exact le_ole_trans (hacc j ndj hj hfj) hle

theorem rinv_init {old : Bool} {s : St} (h0 : RoundStart old s) : RInv old s := by
  obtain ⟨hn, hf⟩ := h0
  have hn' : ∀ (k : Nat) nd, s.nodes[k]? = some nd → nd.stage = .idle ∧ nd.colour = old :=
    fun k nd hk => hn nd (List.mem_of_getElem? hk)
  exact
    { col := fun k nd hk => by rw [(hn' k nd hk).1, (hn' k nd hk).2]; rfl
      allFlipped := fun k nd hk hp => by rw [(hn' k nd hk).1] at hp; cases hp
      accCur := fun k nd hk hni => absurd (hn' k nd hk).1 hni
      oldFlight := fun m hm _ => by
        have hd := (hf m hm).2
        refine ⟨s.nodes[m.dest], List.getElem?_eq_getElem hd, ?_⟩
        rw [(hn' m.dest _ (List.getElem?_eq_getElem hd)).1]; rfl
      destOk := fun m hm => (hf m hm).2
      newFlight := fun m hm hc => by rw [(hf m hm).1] at hc; cases old <;> cases hc
      safe := fun hni g hl =>
        ⟨fun k nd hk => absurd (hn' k nd hk).1 (hni k nd hk), fun m hm => hl.2 m hm (hf m hm).1⟩ }

theorem rinv_reach {old : Bool} {s0 s : St} (h0 : RoundStart old s0) (hr : Reach s0 s) : RInv old s := by
  induction hr with
  | refl => exact rinv_init h0
  | step _ st ih => exact rinv_step ih st


/-! ## after the last report -/

theorem map_stage_upd {s : St} {k : Nat} {nd : Node} (nd' : Node) (fl : List Msg) (hk : s.nodes[k]? = some nd)
    (hst : nd'.stage = nd.stage) :
    (upd s k nd' fl).nodes.map (·.stage) = s.nodes.map (·.stage) :=
  map_set_same hk hst

theorem allReported_get {s : St} (h : AllReported s) {k : Nat} {nd : Node} (hk : s.nodes[k]? = some nd) :
    nd.stage.isReported = true := h nd (List.mem_of_getElem? hk)

theorem allReported_of_stages {s s' : St} (hst : s'.nodes.map (·.stage) = s.nodes.map (·.stage))
    (hall : AllReported s) : AllReported s' := by
  have h : ∀ st ∈ s.nodes.map (·.stage), st.isReported = true := List.forall_mem_map.mpr hall
  rw [← hst] at h
  exact fun nd hnd => h _ (List.mem_map_of_mem hnd)

/-- once every node has reported, no step changes a stage: the round's result is fixed -/
theorem stages_step {s s' : St} (hall : AllReported s) (st : Step s s') :
    s'.nodes.map (·.stage) = s.nodes.map (·.stage) := by
  cases st with
  | beginProcess k e nd hk he hc | emitLocal k x c nd hk hc hx | emitRemote k d x c nd hk hc hx hd
  | endProcess k c nd hk hc | deliver i m nd hi hk => exact map_stage_upd _ _ hk rfl
  | join k nd hk hs hc | flip k nd hk hs | pass k nd hk hs hg | report k nd hk hs =>
    have := allReported_get hall hk; rw [hs] at this; cases this

theorem stages_reach {s s' : St} (hall : AllReported s) (hr : Reach s s') :
    s'.nodes.map (·.stage) = s.nodes.map (·.stage) := by
  induction hr with
  | refl => rfl
  | step _ st ih => rw [stages_step (allReported_of_stages ih hall) st, ih]

theorem reach_trans {s0 s s' : St} (h1 : Reach s0 s) (h2 : Reach s s') : Reach s0 s' := by
  induction h2 with
  | refl => exact h1
  | step _ st ih => exact .step ih st

theorem gvt_eq_of_stages {s s' : St} (h : s'.nodes.map (·.stage) = s.nodes.map (·.stage)) : gvt s' = gvt s := by
  have := congrArg (List.map Stage.value) h
  rw [List.map_map, List.map_map] at this
  exact congrArg ominL this

theorem RInv.no_old_flight {old : Bool} {s : St} (h : RInv old s) (hall : AllReported s) :
    ∀ m ∈ s.flight, m.colour ≠ old := by
  intro m hm hc
  obtain ⟨nd, hd, hnp⟩ := h.oldFlight m hm hc
  exact Bool.noConfusion ((Stage.not_reported_of_not_passed hnp).symm.trans (allReported_get hall hd))

/-- with every node reported, every `g ≤ gvt s` is in `LBnd`, hence (invariant `safe`) below everything -/
theorem allge_of_allReported {old : Bool} {s : St} (h : RInv old s) (hall : AllReported s) (g : Nat)
    (hg : Le g (gvt s)) : AllGe g s := by
  have hni : NoIdle s := fun k nd hk hid => by
    have := allReported_get hall hk; rw [hid] at this; cases this
  refine h.safe hni g ⟨fun k nd hk => ?_, fun m hm hc => absurd hc (h.no_old_flight hall m hm)⟩
  obtain ⟨m, hs⟩ := Stage.eq_reported (allReported_get hall hk)
  rw [le_floor_rep g nd m hs]
  have := (le_ominL g _).1 hg nd.stage.value (List.mem_map.2 ⟨nd, List.mem_of_getElem? hk, rfl⟩)
  rwa [hs] at this

theorem lowerBound_of_allge {v : Option Nat} {s : St} (h : ∀ g, Le g v → AllGe g s) : LowerBound v s := by
  refine ⟨fun nd hnd => ?_, fun m hm => ole_of_forall_le fun g hg => (h g hg).2 m hm⟩
  obtain ⟨k, hk⟩ := List.mem_iff_getElem?.1 hnd
  exact ⟨fun x hx => ole_of_forall_le fun g hg => ((h g hg).1 k nd hk).1 x hx,
    fun c hc => ole_of_forall_le fun g hg => ((h g hg).1 k nd hk).2 c hc⟩

/-! ## monotonicity across rounds -/

/-- everything the round can ever look at is `≥ g0` -/
def Mono (g0 : Nat) (s : St) : Prop :=
  AllGe g0 s ∧ ∀ (k : Nat) nd, s.nodes[k]? = some nd → (nd.stage ≠ .idle → Le g0 nd.acc) ∧ Le g0 nd.stage.value

theorem mono_step {g0 : Nat} {s s' : St} (h : Mono g0 s) (st : Step s s') : Mono g0 s' := by
  refine ⟨allge_step h.1 st, ?_⟩
  obtain ⟨⟨hn, hf⟩, hm⟩ := h
  cases st with
  | beginProcess k e nd hk he hc =>
    exact forall_upd hk hm
      ⟨fun hni => (le_omin _ _ _).2 ⟨(hm k nd hk).1 hni, (le_some _ _).2 ((hn k nd hk).1 e he)⟩, (hm k nd hk).2⟩
  | emitLocal k x c nd hk hc hx | emitRemote k d x c nd hk hc hx hd
  | endProcess k c nd hk hc | deliver i m nd hi hk => exact forall_upd hk hm (hm _ nd hk)
  | join k nd hk hs hc => exact forall_upd hk hm ⟨fun _ => le_none g0, le_none g0⟩
  | flip k nd hk hs | pass k nd hk hs hg =>
    exact forall_upd hk hm ⟨fun _ => (hm k nd hk).1 (hs ▸ Stage.noConfusion), le_none g0⟩
  | report k nd hk hs =>
    -- the reported value is the node's `floor`, which is above `g0` like everything it is made of
    have ha := (hm k nd hk).1 (hs ▸ Stage.noConfusion)
    exact forall_upd hk hm ⟨fun _ => ha,
      (le_floor_unrep g0 nd (hs ▸ rfl)).2 ⟨ha, (hn k nd hk).1, (hn k nd hk).2⟩⟩

theorem mono_init {old : Bool} {g0 : Nat} {s : St} (h0 : RoundStart old s) (hg : LowerBound (some g0) s) :
    Mono g0 s := by
  refine ⟨⟨fun k nd hk => ?_, fun m hm => (ole_some _ _).1 (hg.2 m hm)⟩, fun k nd hk => ?_⟩
  · have := hg.1 nd (List.mem_of_getElem? hk)
    exact ⟨fun x hx => (ole_some _ _).1 (this.1 x hx), fun c hc => (ole_some _ _).1 (this.2 c hc)⟩
  · have := (h0.1 nd (List.mem_of_getElem? hk)).1
    exact ⟨fun hni => absurd this hni, by rw [this]; exact le_none g0⟩

theorem mono_reach {g0 : Nat} {s0 s : St} (h : Mono g0 s0) (hr : Reach s0 s) : Mono g0 s := by
  induction hr with
  | refl => exact h
  | step _ st ih => exact mono_step ih st

end RootSim.GvtGlobal
