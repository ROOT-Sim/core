import RootSim.Model.Float
/-!
Lemmas about `rneNat` (round to nearest even to binary64 precision): the result lies on the grid
`2^dropBits`, next to `m` and at most half a grid step above it; hence it never crosses a
representable number (sandwich lemmas) and keeps the leading bit.  Scales `s ≤ 1074` only (no
subnormal grid) where the number of dropped bits matters: that covers every value that occurs in
random.c.
-/
namespace RootSim.Float

theorem bitlen_lt (m : Nat) : m < 2 ^ bitlen m := by
  unfold bitlen
  split
  · omega
  · exact Nat.lt_log2_self

theorem bitlen_le_of_lt {m n : Nat} (h : m < 2 ^ n) : bitlen m ≤ n := by
  unfold bitlen
  split
  · exact Nat.zero_le _
  · rename_i h0
    exact (Nat.log2_lt h0).2 h

theorem pow_bitlen_le {m : Nat} (h0 : m ≠ 0) : 2 ^ (bitlen m - 1) ≤ m := by
  unfold bitlen
  rw [if_neg h0, Nat.add_sub_cancel]
  exact Nat.log2_self_le h0

theorem bitlen_pos {m : Nat} (h0 : m ≠ 0) : 1 ≤ bitlen m := by
  unfold bitlen
  rw [if_neg h0]
  exact Nat.le_add_left _ _

theorem ne_zero_of_pow_le_mul {m s j : Nat} (h : 2 ^ s ≤ m * 2 ^ j) : m ≠ 0 := by
  intro h0
  rw [h0, Nat.zero_mul] at h
  exact absurd h (Nat.not_le.2 (Nat.two_pow_pos s))

/-- `2^s ≤ m * 2^j < 2^(bitlen m + j)` -/
theorem lt_bitlen_add {m s j : Nat} (h : 2 ^ s ≤ m * 2 ^ j) : s < bitlen m + j := by
  have hlt : 2 ^ s < 2 ^ (bitlen m + j) := by
    rw [Nat.pow_add]
    exact Nat.lt_of_le_of_lt h (Nat.mul_lt_mul_of_pos_right (bitlen_lt m) (Nat.two_pow_pos _))
  exact (Nat.pow_lt_pow_iff_right (by decide)).1 hlt

theorem dropBits_eq {m s : Nat} (hs : s ≤ 1074) : dropBits m s = bitlen m - 53 := by
  rw [dropBits, Nat.sub_eq_zero_of_le hs, Nat.max_zero]

/-- a number below `2^(53+j)`, at a scale whose subnormal grid is not coarser than `2^j`, loses
at most `j` bits -/
theorem dropBits_le {m s j : Nat} (hs : s ≤ 1074 + j) (hlt : m < 2 ^ (53 + j)) :
    dropBits m s ≤ j :=
  Nat.max_le.2 ⟨Nat.sub_le_of_le_add (Nat.add_comm 53 j ▸ bitlen_le_of_lt hlt),
    Nat.sub_le_of_le_add (Nat.add_comm 1074 j ▸ hs)⟩

/-- shape of the result: on the grid `2^k`, at `q` or `q + 1`, up only from the upper half -/
theorem rneNat_cases (m s : Nat) :
    rneNat m s = m / 2 ^ dropBits m s * 2 ^ dropBits m s ∨
    (0 < dropBits m s ∧ rneNat m s = (m / 2 ^ dropBits m s + 1) * 2 ^ dropBits m s ∧
      2 ^ (dropBits m s - 1) ≤ m % 2 ^ dropBits m s) := by
  unfold rneNat
  generalize dropBits m s = k
  simp only
  by_cases hk : k = 0
  · subst hk
    rw [if_pos rfl, Nat.pow_zero, Nat.div_one, Nat.mul_one]
    exact .inl rfl
  · rw [if_neg hk]
    split
    · rename_i h
      exact .inr ⟨Nat.pos_of_ne_zero hk, rfl, h.elim Nat.le_of_lt fun h => Nat.le_of_eq h.1.symm⟩
    · exact .inl rfl

theorem rneNat_ge_floor (m s : Nat) : m / 2 ^ dropBits m s * 2 ^ dropBits m s ≤ rneNat m s := by
  rcases rneNat_cases m s with e | ⟨_, e, _⟩
  · exact Nat.le_of_eq e.symm
  · rw [e]; exact Nat.mul_le_mul_right _ (Nat.le_succ _)

theorem rneNat_ge_grid (m s Y : Nat) (h : Y * 2 ^ dropBits m s ≤ m) :
    Y * 2 ^ dropBits m s ≤ rneNat m s :=
  Nat.le_trans (Nat.mul_le_mul_right _ ((Nat.le_div_iff_mul_le (Nat.two_pow_pos _)).2 h))
    (rneNat_ge_floor m s)

theorem rneNat_le_grid (m s Y : Nat) (h : m ≤ Y * 2 ^ dropBits m s) :
    rneNat m s ≤ Y * 2 ^ dropBits m s := by
  rcases rneNat_cases m s with e | ⟨_, e, hr⟩
  · rw [e]
    exact Nat.le_trans (Nat.div_mul_le_self _ _) h
  · -- the remainder is positive, so `q * g < m ≤ Y * g` and `q + 1 ≤ Y`
    rw [e]
    have hlt : m / 2 ^ dropBits m s * 2 ^ dropBits m s < m :=
      Nat.lt_of_lt_of_eq
        (Nat.lt_add_of_pos_right (Nat.lt_of_lt_of_le (Nat.two_pow_pos _) hr))
        (Nat.div_add_mod' m _)
    exact Nat.mul_le_mul_right _ (Nat.lt_of_mul_lt_mul_right (Nat.lt_of_lt_of_le hlt h))

theorem rneNat_exact {m s : Nat} (hk : dropBits m s = 0) : rneNat m s = m := by
  unfold rneNat
  simp only
  rw [if_pos hk]

theorem rneNat_le_add_half {m s : Nat} (hk : 0 < dropBits m s) :
    rneNat m s ≤ m + 2 ^ (dropBits m s - 1) := by
  rcases rneNat_cases m s with e | ⟨_, e, hr⟩
  · rw [e]
    exact Nat.le_trans (Nat.div_mul_le_self _ _) (Nat.le_add_right _ _)
  · have hg := Nat.two_pow_pred_mul_two hk
    have hdm := Nat.div_add_mod' m (2 ^ dropBits m s)
    rw [e, Nat.add_mul, Nat.one_mul]
    omega

/-- **upper sandwich**: a power of two `2^j / 2^s` above `m / 2^s` (on the subnormal grid or coarser) is not
crossed; `j = s` is the value 1 -/
theorem rneNat_le_pow {m s j : Nat} (hs : s ≤ 1074 + j) (h : m ≤ 2 ^ j) : rneNat m s ≤ 2 ^ j := by
  have hlt : m < 2 ^ (53 + j) :=
    Nat.lt_of_le_of_lt h (Nat.pow_lt_pow_right (by decide) (Nat.lt_add_of_pos_left (by decide)))
  rw [← Nat.pow_sub_mul_pow 2 (dropBits_le hs hlt)] at h ⊢
  exact rneNat_le_grid m s _ h

theorem rneNat_ge_lead {m s : Nat} (hs : s ≤ 1074) (h0 : m ≠ 0) :
    2 ^ (bitlen m - 1) ≤ rneNat m s := by
  have hk : dropBits m s ≤ bitlen m - 1 := by
    rw [dropBits_eq hs]
    exact Nat.sub_le_sub_left (by decide) _
  have h := pow_bitlen_le h0
  rw [← Nat.pow_sub_mul_pow 2 hk] at h ⊢
  exact rneNat_ge_grid m s _ h

/-- **lower sandwich** for a power of two: `2^-j ≤ m / 2^s → 2^-j ≤ rne (m / 2^s)` -/
theorem rneNat_ge_pow (m s j : Nat) (hs : s ≤ 1074) (h : 2 ^ s ≤ m * 2 ^ j) :
    2 ^ s ≤ rneNat m s * 2 ^ j := by
  have hm0 := ne_zero_of_pow_le_mul h
  have hsj := lt_bitlen_add h
  calc 2 ^ s ≤ 2 ^ (bitlen m - 1 + j) := Nat.pow_le_pow_right (by decide) (by omega)
    _ = 2 ^ (bitlen m - 1) * 2 ^ j := Nat.pow_add _ _ _
    _ ≤ rneNat m s * 2 ^ j := Nat.mul_le_mul_right _ (rneNat_ge_lead hs hm0)

/-- the overflow threshold `2^1024` is not reached by anything `≤ 2^k`, `k < 1024` -/
theorem no_overflow {a s k : Nat} (hk : k < 1024) (h : a ≤ 2 ^ (k + s)) : ¬ a ≥ 2 ^ (1024 + s) :=
  Nat.not_le.2 (Nat.lt_of_le_of_lt h (Nat.pow_lt_pow_right (by decide) (Nat.add_lt_add_right hk s)))

/-- **`r * n < n` after rounding** for a 53-bit `r = M / 2^s < 1` and `n ≥ 1`: the exact product
is at least `n` units of `2^-s` below `n`, half a grid step is less than that. -/
theorem rneNat_mul_lt (M s n : Nat) (hM : M < 2 ^ 53) (hMs : M < 2 ^ s) (hs : s ≤ 1074)
    (hn1 : 1 ≤ n) : rneNat (M * n) s < n * 2 ^ s := by
  have hgap : M * n + n ≤ n * 2 ^ s := by
    have h1 : (M + 1) * n ≤ 2 ^ s * n := Nat.mul_le_mul_right _ hMs
    rwa [Nat.add_mul, Nat.one_mul, Nat.mul_comm (2 ^ s)] at h1
  rcases Nat.eq_zero_or_pos (dropBits (M * n) s) with hk | hk
  · rw [rneNat_exact hk]
    exact Nat.lt_of_lt_of_le (Nat.lt_add_of_pos_right hn1) hgap
  · -- `2^(52+k) ≤ M * n < 2^53 * n` with `k > 0` the number of dropped bits: half a grid step,
    -- `2^(k-1)`, is less than `n`
    have hhalf : 2 ^ (dropBits (M * n) s - 1) < n := by
      rw [dropBits_eq hs] at hk ⊢
      have h0 : M * n ≠ 0 := by
        intro h0
        rw [h0] at hk
        exact absurd hk (by decide)
      have hle : 53 + (bitlen (M * n) - 53 - 1) ≤ bitlen (M * n) - 1 := by omega
      have := Nat.lt_of_le_of_lt
        (Nat.le_trans (Nat.pow_le_pow_right (by decide) hle) (pow_bitlen_le h0))
        (Nat.mul_lt_mul_of_pos_right hM hn1)
      rw [Nat.pow_add] at this
      exact Nat.lt_of_mul_lt_mul_left this
    exact Nat.lt_of_le_of_lt (rneNat_le_add_half hk)
      (Nat.lt_of_lt_of_le (Nat.add_lt_add_left hhalf _) hgap)

theorem roundFin_nat (m s : Nat) (h : ¬ rneNat m s ≥ 2 ^ (1024 + s)) :
    roundFin (m : Int) s = .fin ((rneNat m s : Nat) : Int) s := by
  have hneg : ¬ ((m : Int) < 0) := Int.not_lt.2 (Int.natCast_nonneg m)
  simp only [roundFin, Int.natAbs_natCast, h, hneg, if_false]

/-- **rounding keeps a magnitude bound `2^k`, `k < 1024`, and the sign** -/
theorem roundFin_bound (m : Int) (s k : Nat) (hk : k < 1024) (h : m.natAbs ≤ 2 ^ (k + s)) :
    ∃ a : Int, roundFin m s = .fin a s ∧ a.natAbs ≤ 2 ^ (k + s) ∧ (0 ≤ m → 0 ≤ a) := by
  have hle := rneNat_le_pow (Nat.le_trans (Nat.le_add_left s k) (Nat.le_add_left _ _)) h
  unfold roundFin
  simp only
  rw [if_neg (no_overflow hk hle)]
  by_cases hneg : m < 0
  · rw [if_pos hneg]
    exact ⟨_, rfl, by rwa [Int.natAbs_neg, Int.natAbs_natCast],
      fun h0 => absurd hneg (Int.not_lt.2 h0)⟩
  · rw [if_neg hneg]
    exact ⟨_, rfl, by rwa [Int.natAbs_natCast], fun _ => Int.natCast_nonneg _⟩

end RootSim.Float
