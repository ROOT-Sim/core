import RootSim.Model.TimeWarpD
import RootSim.Proofs.TimeWarp
import RootSim.Proofs.SpecV2
/-! The invariant of the instrumented global Time Warp machine (`Model/TimeWarpG.lean`) under the
NON-STRICT contract `Spec.V2`:

* the content-level invariant of `Proofs/TimeWarp.lean` (I1 well-formed sorted histories, I2 counting) holds
  of the projection — I2 even at the level of TAGGED messages (content + creation step);
* the ghost creation order: every processed entry was created before it was processed, the entries of an LP
  were processed in the order in which they stand, everything pending was created in the past.

Everything but "sorted" is `CInv`, which does not depend on WHERE `exec` cuts a history: it is preserved by
`exec` for any cut (`CInv.exec`, about `TWD.execResult`), so it serves the machine of `Model/TimeWarpD.lean` too
(`Proofs/TimeWarpD.lean`). `GInv` is `CInv` plus "sorted".

From these, for every lower bound `g` of what is pending, the projection of the histories satisfies
`Spec.Hist` AND `Spec.Progress` (`GInv.hist`, `GInv.progress`, in `Proofs/TimeWarpGProgress.lean`): the
ingredient that `Hist` alone cannot give under V2. -/
namespace RootSim.TWG
open RootSim RootSim.Spec RootSim.TW List

variable {σ : Type}

@[simp] theorem evs_nil : evs [] = [] := rfl
@[simp] theorem evs_cons (u : TEntry) (l : List TEntry) : evs (u :: l) = u.ev :: evs l := rfl
theorem evs_append (a b : List TEntry) : evs (a ++ b) = evs a ++ evs b := List.map_append
theorem evs_tail (l : List TEntry) : evs l.tail = (evs l).tail := List.map_tail
theorem evs_getLast? (l : List TEntry) : (evs l).getLast? = l.getLast?.map TEntry.ev := List.getLast?_map
theorem mem_evs {x : Event} {l : List TEntry} : x ∈ evs l ↔ ∃ u ∈ l, u.ev = x := List.mem_map

@[simp] theorem msg_ev (u : TEntry) : u.msg.ev = u.ev := rfl
@[simp] theorem msg_cr (u : TEntry) : u.msg.cr = u.cr := rfl

theorem map_msg_ev (l : List TEntry) : (l.map TEntry.msg).map TMsg.ev = evs l := by
  simp [evs, List.map_map, Function.comp_def]

theorem toutsFrom_append (M : SimModel σ) (ℓ : Nat) (s : σ) (a b : List TEntry) :
    toutsFrom M ℓ s (a ++ b) = toutsFrom M ℓ s a ++ toutsFrom M ℓ (stFrom M ℓ s (evs a)) b := by
  induction a generalizing s with
  | nil => rfl
  | cons u a ih => simp only [List.cons_append, toutsFrom, evs_cons, stFrom, List.append_assoc, ih]

theorem touts_append (M : SimModel σ) (ℓ : Nat) (a b : List TEntry) :
    touts M ℓ (a ++ b) = touts M ℓ a ++ toutsFrom M ℓ (lpState M ℓ (evs a)) b :=
  toutsFrom_append M ℓ _ a b

theorem toutsFrom_ev (M : SimModel σ) (ℓ : Nat) (s : σ) (l : List TEntry) :
    (toutsFrom M ℓ s l).map TMsg.ev = outsFrom M ℓ s (evs l) := by
  induction l generalizing s with
  | nil => rfl
  | cons u l ih =>
    simp only [toutsFrom, evs_cons, outsFrom, List.map_append, List.map_map, ih]
    congr 1
    exact List.map_id _

theorem touts_ev (M : SimModel σ) (ℓ : Nat) (l : List TEntry) :
    (touts M ℓ l).map TMsg.ev = outs M ℓ (evs l) := toutsFrom_ev M ℓ _ l

theorem mem_toutsFrom (M : SimModel σ) (ℓ : Nat) {m : TMsg} (s : σ) (l : List TEntry)
    (h : m ∈ toutsFrom M ℓ s l) :
    ∃ P u S, l = P ++ u :: S ∧ m.cr = u.pr ∧ m.ev ∈ (M.handler ℓ (stFrom M ℓ s (evs P)) u.ev).2 := by
  induction l generalizing s with
  | nil => cases h
  | cons u l ih =>
    simp only [toutsFrom, List.mem_append, List.mem_map] at h
    rcases h with ⟨o, ho, rfl⟩ | h
    · exact ⟨[], u, l, rfl, rfl, ho⟩
    · obtain ⟨P, w, S, rfl, hc, hy⟩ := ih _ h
      exact ⟨u :: P, w, S, rfl, hc, hy⟩

theorem cr_of_mem_toutsFrom {M : SimModel σ} {ℓ : Nat} {m : TMsg} {s : σ} {l : List TEntry}
    (h : m ∈ toutsFrom M ℓ s l) : ∃ u ∈ l, m.cr = u.pr := by
  obtain ⟨P, u, S, hl, hc, _⟩ := mem_toutsFrom M ℓ s l h
  exact ⟨u, by rw [hl]; simp, hc⟩

theorem evs_take_keep (e : Event) (T : List TEntry) :
    evs (T.take (keepLen e T)) = (splitUndo e (evs T)).1 := by
  unfold evs keepLen
  rw [List.map_take]
  conv => lhs; rw [← splitUndo_append e (T.map TEntry.ev)]
  exact List.take_left' rfl

theorem evs_undoG (e : Event) (T : List TEntry) : evs (undoG e T) = undoOf e (evs T) := by
  unfold evs undoG keepLen undoOf
  rw [List.map_drop]
  conv => lhs; rw [← splitUndo_append e (T.map TEntry.ev)]
  exact List.drop_left' rfl

theorem evs_keepG (e : Event) (h : TEntry) (T : List TEntry) :
    evs (keepG e h T) = keepOf e h.ev (evs T) := by
  simp only [keepG, evs_cons, keepOf, evs_take_keep]

theorem keepG_undoG (e : Event) (h : TEntry) (T : List TEntry) : keepG e h T ++ undoG e T = h :: T := by
  simp [keepG, undoG, List.take_append_drop]

theorem take_undoG (e : Event) (T : List TEntry) : T.take (keepLen e T) ++ undoG e T = T :=
  List.take_append_drop _ _

/-- the messages of the non-`LP_INIT` entries of all LPs -/
def restAllT (n : Nat) (D : Nat → List TEntry) : List TMsg :=
  (List.range n).flatMap (fun ℓ => (D ℓ).tail.map TEntry.msg)

theorem restAllT_ev (n : Nat) (D : Nat → List TEntry) :
    (restAllT n D).map TMsg.ev = restAll n (fun ℓ => evs (D ℓ)) := by
  unfold restAllT restAll
  rw [List.map_flatMap]
  congr 1
  funext ℓ
  rw [map_msg_ev, evs_tail]

theorem toutsAll_ev (M : SimModel σ) (D : Nat → List TEntry) :
    (toutsAll M D).map TMsg.ev = outsAll M (fun ℓ => evs (D ℓ)) := by
  unfold toutsAll outsAll
  rw [List.map_flatMap]
  congr 1
  funext ℓ
  rw [touts_ev]

/-- the processed messages when LP `ℓ`, whose history is `h :: (Kp ++ W)`, undoes `W` and goes on with `E` -/
theorem count_restAllT_cut {n : Nat} {D : Nat → List TEntry} {ℓ : Nat} (hℓ : ℓ < n) {h : TEntry}
    {Kp W : List TEntry} (hpast : D ℓ = h :: (Kp ++ W)) (E : List TEntry) (x : TMsg) :
    (restAllT n (upd D ℓ (h :: Kp ++ E))).count x + (W.map TEntry.msg).count x =
      (restAllT n D).count x + (E.map TEntry.msg).count x := by
  have := add_flatMap_upd (additive_count x) (fun _ (l : List TEntry) => l.tail.map TEntry.msg) hℓ D
    (h :: Kp ++ E)
  unfold restAllT
  simp only [hpast, List.cons_append, List.tail_cons, List.map_append, List.count_append] at this ⊢
  omega

/-- the sent messages, likewise -/
theorem count_toutsAll_cut (M : SimModel σ) {D : Nat → List TEntry} {ℓ : Nat} (hℓ : ℓ < M.nLps)
    {h : TEntry} {Kp W : List TEntry} (hpast : D ℓ = h :: (Kp ++ W)) (E : List TEntry) (x : TMsg) :
    (toutsAll M (upd D ℓ (h :: Kp ++ E))).count x +
        (toutsFrom M ℓ (lpState M ℓ (evs (h :: Kp))) W).count x =
      (toutsAll M D).count x + (toutsFrom M ℓ (lpState M ℓ (evs (h :: Kp))) E).count x := by
  have := add_flatMap_upd (additive_count x) (touts M) hℓ D (h :: Kp ++ E)
  rw [hpast, ← List.cons_append, touts_append, touts_append, List.count_append, List.count_append] at this
  unfold toutsAll
  omega

theorem toutsFrom_ok {M : SimModel σ} (V : V2 M) {ℓ : Nat} {st : σ} {l : List TEntry} {y : TMsg}
    (h : y ∈ toutsFrom M ℓ st l) : y.ev.dest < M.nLps ∧ y.ev.type < LP_INIT := by
  obtain ⟨P, c, S, _, _, hy⟩ := mem_toutsFrom M ℓ st l h
  exact (V ℓ _ c.ev y.ev hy).2

/-- the part of the invariant that does not depend on WHERE `exec` cuts a history: well-formedness, the
counting invariant I2 for tagged messages, the ghost creation order. The invariants of the two machines repeat
these ten fields and add their own: `GInv` (below) adds `sorted`; `TWD.BInv` (`Proofs/TimeWarpD.lean`) adds
`antiCr`, `prUniq`, `antiFresh`. `GInv.core` / `BInv.core` forget the additions. -/
structure CInv (M : SimModel σ) (s : TWGState) : Prop where
  /-- LPs that do not exist have no history -/
  out    : ∀ ℓ, M.nLps ≤ ℓ → s.past ℓ = []
  /-- a history starts with the `LP_INIT` entry … -/
  head   : ∀ ℓ, ℓ < M.nLps → (s.past ℓ).head? = some (initEntry ℓ)
  /-- … and goes on with model events for this LP -/
  dest   : ∀ ℓ, ℓ < M.nLps → ∀ u ∈ (s.past ℓ).tail, u.ev.dest = ℓ ∧ u.ev.type < LP_INIT
  /-- messages and anti-messages are model events for existing LPs -/
  pendOk : ∀ x ∈ s.pending, x.ev.dest < M.nLps ∧ x.ev.type < LP_INIT
  antiOk : ∀ x ∈ s.antis, x.ev.dest < M.nLps ∧ x.ev.type < LP_INIT
  /-- I2 for tagged messages -/
  cnt    : ∀ x : TMsg, s.pending.count x + (restAllT M.nLps s.past).count x =
             (toutsAll M s.past).count x + s.antis.count x
  /-- everything pending was created in the past -/
  pendCr : ∀ x ∈ s.pending, x.cr < s.now
  /-- everything processed was processed in the past … -/
  prLt   : ∀ ℓ, ∀ u ∈ s.past ℓ, u.pr < s.now
  /-- … after it was created … -/
  crLt   : ∀ ℓ, ∀ u ∈ (s.past ℓ).tail, u.cr < u.pr
  /-- … and the entries of an LP stand in the order in which they were processed -/
  prInc  : ∀ ℓ, (s.past ℓ).Pairwise (fun a b => a.pr < b.pr)

structure GInv (M : SimModel σ) (s : TWGState) : Prop where
  out    : ∀ ℓ, M.nLps ≤ ℓ → s.past ℓ = []
  head   : ∀ ℓ, ℓ < M.nLps → (s.past ℓ).head? = some (initEntry ℓ)
  dest   : ∀ ℓ, ℓ < M.nLps → ∀ u ∈ (s.past ℓ).tail, u.ev.dest = ℓ ∧ u.ev.type < LP_INIT
  sorted : ∀ ℓ, ℓ < M.nLps → (evs (s.past ℓ).tail).Pairwise (fun a b => Event.before b a = false)
  pendOk : ∀ x ∈ s.pending, x.ev.dest < M.nLps ∧ x.ev.type < LP_INIT
  antiOk : ∀ x ∈ s.antis, x.ev.dest < M.nLps ∧ x.ev.type < LP_INIT
  /-- I2 for tagged messages -/
  cnt    : ∀ x : TMsg, s.pending.count x + (restAllT M.nLps s.past).count x =
             (toutsAll M s.past).count x + s.antis.count x
  /-- everything pending was created in the past -/
  pendCr : ∀ x ∈ s.pending, x.cr < s.now
  /-- everything processed was processed in the past … -/
  prLt   : ∀ ℓ, ∀ u ∈ s.past ℓ, u.pr < s.now
  /-- … after it was created … -/
  crLt   : ∀ ℓ, ∀ u ∈ (s.past ℓ).tail, u.cr < u.pr
  /-- … and the entries of an LP stand in the order in which they were processed -/
  prInc  : ∀ ℓ, (s.past ℓ).Pairwise (fun a b => a.pr < b.pr)

theorem GInv.core {M : SimModel σ} {s : TWGState} (I : GInv M s) : CInv M s :=
  { I with }

theorem forall_upd {P : Nat → List TEntry → Prop} {D : Nat → List TEntry} {ℓ : Nat} {v : List TEntry}
    (hv : P ℓ v) (hD : ∀ ℓ', ℓ' ≠ ℓ → P ℓ' (D ℓ')) : ∀ ℓ', P ℓ' (upd D ℓ v ℓ') := by
  intro ℓ'
  by_cases hne : ℓ' = ℓ
  · subst hne; rw [upd_same]; exact hv
  · rw [upd_other _ _ hne]; exact hD ℓ' hne

theorem init_past (M : SimModel σ) {ℓ : Nat} (hℓ : ℓ < M.nLps) : (init M).past ℓ = [initEntry ℓ] := by
  simp [init, initPast, hℓ]

theorem init_past_out (M : SimModel σ) {ℓ : Nat} (hℓ : M.nLps ≤ ℓ) : (init M).past ℓ = [] := by
  simp [init, initPast, Nat.not_lt.mpr hℓ]

theorem init_past_cases (M : SimModel σ) (ℓ : Nat) :
    (init M).past ℓ = [initEntry ℓ] ∨ (init M).past ℓ = [] := by
  by_cases h : ℓ < M.nLps
  · exact Or.inl (init_past M h)
  · exact Or.inr (init_past_out M (Nat.not_lt.mp h))

theorem mem_init_past {M : SimModel σ} {ℓ : Nat} {u : TEntry} (hu : u ∈ (init M).past ℓ) :
    u = initEntry ℓ := by
  rcases init_past_cases M ℓ with h | h <;> simp [h] at hu <;> exact hu

theorem init_past_tail (M : SimModel σ) (ℓ : Nat) : ((init M).past ℓ).tail = [] := by
  rcases init_past_cases M ℓ with h | h <;> rw [h] <;> rfl

theorem cinv_init {M : SimModel σ} (V : V2 M) : CInv M (init M) := by
  -- everything pending was scheduled by an `LP_INIT` invocation, at step 0
  have hpend : ∀ x ∈ (init M).pending, (x.ev.dest < M.nLps ∧ x.ev.type < LP_INIT) ∧ x.cr = 0 := by
    intro x hx
    obtain ⟨ℓ, _, hx⟩ := List.mem_flatMap.mp hx
    refine ⟨toutsFrom_ok V hx, ?_⟩
    obtain ⟨P, c, S, hl, hc, _⟩ := mem_toutsFrom M ℓ _ _ hx
    rw [hc, mem_init_past (ℓ := ℓ) (show c ∈ (init M).past ℓ by rw [show (init M).past ℓ = _ from hl]; simp)]
    rfl
  exact
  { out := fun ℓ hℓ => init_past_out M hℓ
    head := fun ℓ hℓ => by rw [init_past M hℓ]; rfl
    dest := fun ℓ _ u hu => by rw [init_past_tail] at hu; cases hu
    pendOk := fun x hx => (hpend x hx).1
    antiOk := fun x hx => by cases hx
    cnt := fun x => by
      have hr : restAllT M.nLps (init M).past = [] :=
        List.flatMap_eq_nil_iff.mpr (fun ℓ _ => by rw [init_past_tail]; rfl)
      rw [hr]; rfl
    pendCr := fun x hx => by rw [(hpend x hx).2]; exact Nat.one_pos
    prLt := fun ℓ u hu => by rw [mem_init_past hu]; exact Nat.one_pos
    crLt := fun ℓ u hu => by rw [init_past_tail] at hu; cases hu
    prInc := fun ℓ => by rcases init_past_cases M ℓ with h | h <;> rw [h] <;> simp }

theorem inv_init {M : SimModel σ} (V : V2 M) : GInv M (init M) :=
  { cinv_init V with sorted := fun ℓ _ => by rw [init_past_tail]; exact List.Pairwise.nil }

section steps
variable {M : SimModel σ} {s : TWGState}

theorem CInv.lt_of_past_ne_nil (I : CInv M s) {ℓ : Nat} (h : s.past ℓ ≠ []) : ℓ < M.nLps :=
  Nat.lt_of_not_le (fun hge => h (I.out ℓ hge))

theorem CInv.requeue (I : CInv M s) {ℓ : Nat} {u : TEntry} (hu : u ∈ (s.past ℓ).tail) :
    (u.msg.ev.dest < M.nLps ∧ u.msg.ev.type < LP_INIT) ∧ u.msg.cr < s.now := by
  have hℓ := I.lt_of_past_ne_nil (List.ne_nil_of_mem (List.mem_of_mem_tail hu))
  have hd := I.dest ℓ hℓ u hu
  exact ⟨⟨hd.1.symm ▸ hℓ, hd.2⟩, Nat.lt_trans (I.crLt ℓ u hu) (I.prLt ℓ u (List.mem_of_mem_tail hu))⟩

/-- what `exec` and `antiRollback` have in common: LP `ℓ` keeps a non-empty part `K` of its history and goes on
with the entries `E` (the new entry, or none); the bags and the clock change. `hE`: every new entry is a model
event for `ℓ`, created before it is processed, processed before the new clock, and after everything kept. -/
theorem CInv.update (I : CInv M s) {ℓ : Nat} (hℓ : ℓ < M.nLps) {K W E : List TEntry}
    (hpast : s.past ℓ = K ++ W) (hK : K ≠ []) {p a : List TMsg} {now' : Nat} (hnow : s.now ≤ now')
    (hE : ∀ u ∈ E, (u.ev.dest = ℓ ∧ u.ev.type < LP_INIT) ∧ u.cr < u.pr ∧ u.pr < now' ∧
      ∀ w ∈ K, w.pr < u.pr)
    (hEinc : E.Pairwise (fun a b => a.pr < b.pr))
    (hp : ∀ x ∈ p, (x.ev.dest < M.nLps ∧ x.ev.type < LP_INIT) ∧ x.cr < now')
    (ha : ∀ x ∈ a, x.ev.dest < M.nLps ∧ x.ev.type < LP_INIT)
    (hcnt : ∀ x : TMsg, p.count x + (restAllT M.nLps (upd s.past ℓ (K ++ E))).count x =
      (toutsAll M (upd s.past ℓ (K ++ E))).count x + a.count x) :
    CInv M { past := upd s.past ℓ (K ++ E), pending := p, antis := a, now := now' } := by
  obtain ⟨k0, Kt, rfl⟩ := List.exists_cons_of_ne_nil hK
  have hhd := I.head ℓ hℓ
  have hTd := I.dest ℓ hℓ
  have hTpr := I.prLt ℓ
  have hTcr := I.crLt ℓ
  have hTinc := I.prInc ℓ
  rw [hpast] at hhd hTd hTpr hTcr hTinc
  rw [List.cons_append, List.tail_cons] at hTd hTcr
  exact
  { out := forall_upd (P := fun ℓ' l => M.nLps ≤ ℓ' → l = []) (fun hge => absurd hℓ (Nat.not_lt.mpr hge))
      (fun ℓ' _ => I.out ℓ')
    head := forall_upd (P := fun ℓ' l => ℓ' < M.nLps → l.head? = some (initEntry ℓ')) (fun _ => hhd)
      (fun ℓ' _ => I.head ℓ')
    dest := by
      refine forall_upd (P := fun ℓ' l => ℓ' < M.nLps → ∀ u ∈ l.tail, u.ev.dest = ℓ' ∧ u.ev.type < LP_INIT)
        (fun _ u hu => ?_) (fun ℓ' _ => I.dest ℓ')
      rw [List.cons_append, List.tail_cons] at hu
      rcases List.mem_append.mp hu with hu | hu
      · exact hTd u (List.mem_append_left _ hu)
      · exact (hE u hu).1
    pendOk := fun x hx => (hp x hx).1
    antiOk := ha
    cnt := hcnt
    pendCr := fun x hx => (hp x hx).2
    prLt := by
      refine forall_upd (P := fun _ l => ∀ u ∈ l, u.pr < now') (fun u hu => ?_)
        (fun ℓ' _ u hu => Nat.lt_of_lt_of_le (I.prLt ℓ' u hu) hnow)
      rcases List.mem_append.mp hu with hu | hu
      · exact Nat.lt_of_lt_of_le (hTpr u (List.mem_append_left W hu)) hnow
      · exact (hE u hu).2.2.1
    crLt := by
      refine forall_upd (P := fun _ l => ∀ u ∈ l.tail, u.cr < u.pr) (fun u hu => ?_) (fun ℓ' _ => I.crLt ℓ')
      rw [List.cons_append, List.tail_cons] at hu
      rcases List.mem_append.mp hu with hu | hu
      · exact hTcr u (List.mem_append_left _ hu)
      · exact (hE u hu).2.1
    prInc := forall_upd (P := fun _ l => l.Pairwise (fun a b => a.pr < b.pr))
      (List.pairwise_append.mpr ⟨(List.pairwise_append.mp hTinc).1, hEinc,
        fun a ha b hb => (hE b hb).2.2.2 a ha⟩) (fun ℓ' _ => I.prInc ℓ') }

/-- `exec` with ANY cut `Kp ++ W` of the history after `LP_INIT`: `Kp` is kept, `W` undone -/
theorem CInv.exec (V : V2 M) (I : CInv M s) {ℓ : Nat} {m : TMsg} {h : TEntry} {Kp W : List TEntry}
    (hmem : m ∈ s.pending) (hdest : m.ev.dest = ℓ) (hℓ : ℓ < M.nLps) (htype : m.ev.type < LP_INIT)
    (hpast : s.past ℓ = h :: (Kp ++ W)) : CInv M (TWD.execResult M s ℓ m h Kp W) := by
  have hW : ∀ u ∈ W, u ∈ (s.past ℓ).tail := fun u hu => by
    rw [hpast]; exact List.mem_append_right _ hu
  refine I.update hℓ (K := h :: Kp) (W := W) hpast (List.cons_ne_nil _ _) (Nat.le_succ _) ?_
    (List.pairwise_singleton _ _) ?_ ?_ ?_
  · -- the new entry: created in the past, processed now, after everything kept
    intro u hu
    rw [List.mem_singleton.mp hu]
    exact ⟨⟨hdest, htype⟩, I.pendCr m hmem, Nat.lt_succ_self _,
      fun w hw => I.prLt ℓ w (by rw [hpast]; exact List.mem_append_left W hw)⟩
  · intro x hx
    simp only [List.mem_append, List.mem_map] at hx
    rcases hx with (hx | ⟨u, hu, rfl⟩) | ⟨o, ho, rfl⟩
    · exact ⟨I.pendOk x (List.mem_of_mem_erase hx),
        Nat.lt_succ_of_lt (I.pendCr x (List.mem_of_mem_erase hx))⟩
    · exact ⟨(I.requeue (hW u hu)).1, Nat.lt_succ_of_lt (I.requeue (hW u hu)).2⟩
    · exact ⟨(V ℓ _ m.ev o ho).2, Nat.lt_succ_self _⟩
  · intro x hx
    rcases List.mem_append.mp hx with hx | hx
    · exact I.antiOk x hx
    · exact toutsFrom_ok V hx
  · intro x
    have hc := I.cnt x
    have he := count_erase_add hmem x
    have hr := count_restAllT_cut (n := M.nLps) hℓ hpast [{ ev := m.ev, cr := m.cr, pr := s.now }] x
    have ho := count_toutsAll_cut M hℓ hpast [{ ev := m.ev, cr := m.cr, pr := s.now }] x
    simp only [toutsFrom, List.append_nil] at ho
    simp only [List.count_append]
    change _ + _ = _ + [m].count x at hr
    omega

theorem CInv.annihilate (I : CInv M s) {o : TMsg} (hp : o ∈ s.pending) (ha : o ∈ s.antis) :
    CInv M (annihilateResult s o) :=
  { I with
    pendOk := fun x hx => I.pendOk x (List.mem_of_mem_erase hx)
    antiOk := fun x hx => I.antiOk x (List.mem_of_mem_erase hx)
    pendCr := fun x hx => I.pendCr x (List.mem_of_mem_erase hx)
    cnt := fun x => by
      -- the same copy of `o` leaves both sides of the bag equation
      have hc := I.cnt x
      rw [← count_erase_add hp x, ← count_erase_add ha x, Nat.add_right_comm, ← Nat.add_assoc] at hc
      exact Nat.add_right_cancel hc }

theorem CInv.antiRollback (V : V2 M) (I : CInv M s) {ℓ : Nat} {o : TEntry} {K U : List TEntry}
    (ha : o.msg ∈ s.antis) (hpast : s.past ℓ = K ++ o :: U) (hK : K ≠ []) :
    CInv M (antiRollbackResult M s ℓ o K U) := by
  have hℓ : ℓ < M.nLps := I.lt_of_past_ne_nil (by rw [hpast]; simp)
  have hU : ∀ u ∈ U, u ∈ (s.past ℓ).tail := fun u hu => by
    rw [hpast, List.tail_append_of_ne_nil hK]
    exact List.mem_append_right _ (List.mem_cons_of_mem _ hu)
  have := I.update hℓ (E := []) hpast hK (p := s.pending ++ U.map TEntry.msg)
    (a := s.antis.erase o.msg ++ toutsFrom M ℓ (lpState M ℓ (evs K)) (o :: U)) (Nat.le_refl _)
    (fun _ h => nomatch h) List.Pairwise.nil ?_ ?_ ?_
  · rwa [List.append_nil] at this
  · intro x hx
    rcases List.mem_append.mp hx with hx | hx
    · exact ⟨I.pendOk x hx, I.pendCr x hx⟩
    · obtain ⟨u, hu, rfl⟩ := List.mem_map.mp hx
      exact I.requeue (hU u hu)
  · intro x hx
    rcases List.mem_append.mp hx with hx | hx
    · exact I.antiOk x (List.mem_of_mem_erase hx)
    · exact toutsFrom_ok V hx
  · intro x
    obtain ⟨k0, Kt, rfl⟩ := List.exists_cons_of_ne_nil hK
    have hc := I.cnt x
    have he := count_erase_add ha x
    have hr : _ + _ = _ + 0 := count_restAllT_cut (n := M.nLps) hℓ hpast [] x
    have ho : _ + _ = _ + 0 := count_toutsAll_cut M hℓ hpast [] x
    rw [List.map_cons, List.count_cons] at hr
    rw [List.count_singleton] at he
    simp only [List.count_append]
    omega

/-- the `exec` of this machine is the `exec` of `Model/TimeWarpD.lean` with the cut of the content rule -/
theorem execResult_eq_cut (M : SimModel σ) (s : TWGState) (ℓ : Nat) (m : TMsg) (h : TEntry)
    (T : List TEntry) :
    execResult M s ℓ m h T = TWD.execResult M s ℓ m h (T.take (keepLen m.ev T)) (undoG m.ev T) := rfl

theorem GInv.exec (V : V2 M) (I : GInv M s) {ℓ : Nat} {m : TMsg} {h : TEntry} {T : List TEntry}
    (hmem : m ∈ s.pending) (hdest : m.ev.dest = ℓ) (hℓ : ℓ < M.nLps) (htype : m.ev.type < LP_INIT)
    (hpast : s.past ℓ = h :: T) : GInv M (execResult M s ℓ m h T) := by
  have hTs := I.sorted ℓ hℓ
  rw [hpast, List.tail_cons] at hTs
  rw [execResult_eq_cut]
  refine { I.core.exec V hmem hdest hℓ htype (by rw [hpast, take_undoG]) with sorted := ?_ }
  refine forall_upd (P := fun ℓ' l => ℓ' < M.nLps → (evs l.tail).Pairwise _) (fun _ => ?_)
    (fun ℓ' _ => I.sorted ℓ')
  rw [List.cons_append, List.tail_cons, evs_append, evs_take_keep]
  exact sorted_keep_snoc hTs

theorem GInv.annihilate (I : GInv M s) {o : TMsg} (hp : o ∈ s.pending) (ha : o ∈ s.antis) :
    GInv M (annihilateResult s o) :=
  { I.core.annihilate hp ha with sorted := I.sorted }

theorem GInv.antiRollback (V : V2 M) (I : GInv M s) {ℓ : Nat} {o : TEntry} {K U : List TEntry}
    (ha : o.msg ∈ s.antis) (hpast : s.past ℓ = K ++ o :: U) (hK : K ≠ []) :
    GInv M (antiRollbackResult M s ℓ o K U) := by
  refine { I.core.antiRollback V ha hpast hK with sorted := ?_ }
  refine forall_upd (P := fun ℓ' l => ℓ' < M.nLps → (evs l.tail).Pairwise _) (fun hℓ => ?_)
    (fun ℓ' _ => I.sorted ℓ')
  have hTs := I.sorted ℓ hℓ
  rw [hpast, List.tail_append_of_ne_nil hK, evs_append] at hTs
  exact (List.pairwise_append.mp hTs).1

theorem GInv.step (V : V2 M) (I : GInv M s) {s' : TWGState} (h : Step M s s') : GInv M s' := by
  cases h with
  | exec ℓ e h T hmem hdest hℓ htype hpast => exact I.exec V hmem hdest hℓ htype hpast
  | annihilate o hp ha => exact I.annihilate hp ha
  | antiRollback ℓ o K U ha hpast hK => exact I.antiRollback V ha hpast hK

end steps

theorem reachable_ginv {M : SimModel σ} (V : V2 M) {s : TWGState} (hr : Reachable M s) : GInv M s := by
  induction hr with
  | init => exact inv_init V
  | step _ hs ih => exact ih.step V hs

/-! ### the executable step functions perform exactly the steps of the relation -/

theorem exec?_sound {M : SimModel σ} {s s' : TWGState} {ℓ : Nat} {m : TMsg}
    (h : exec? M s ℓ m = some s') : Step M s s' := by
  unfold exec? at h
  split at h
  · rename_i hc
    split at h
    · cases h
    · rename_i hd T hpast
      cases h
      exact Step.exec s ℓ m hd T hc.1 hc.2.1 hc.2.2.1 hc.2.2.2 hpast
  · cases h

theorem annihilate?_sound {M : SimModel σ} {s s' : TWGState} {o : TMsg}
    (h : annihilate? s o = some s') : Step M s s' := by
  unfold annihilate? at h
  split at h
  · rename_i hc
    cases h
    exact Step.annihilate s o hc.1 hc.2
  · cases h

theorem antiRollback?_sound {M : SimModel σ} {s s' : TWGState} {ℓ i : Nat}
    (h : antiRollback? M s ℓ i = some s') : Step M s s' := by
  unfold antiRollback? at h
  split at h
  · cases h
  · rename_i o ho
    split at h
    · rename_i hc
      cases h
      obtain ⟨hsplit, hne⟩ := split_of_getElem? ho hc.1
      exact Step.antiRollback s ℓ o _ _ hc.2 hsplit hne
    · cases h

theorem step?_sound {M : SimModel σ} {s s' : TWGState} {a : Action} (h : step? M s a = some s') :
    Step M s s' := by
  cases a with
  | exec ℓ e c => exact exec?_sound h
  | annihilate e c => exact annihilate?_sound h
  | antiRollback ℓ i => exact antiRollback?_sound h

theorem step?_complete {M : SimModel σ} {s s' : TWGState} (h : Step M s s') :
    ∃ a, step? M s a = some s' := by
  cases h with
  | exec ℓ m hd T hmem hdest hℓ htype hpast =>
    refine ⟨.exec ℓ m.ev m.cr, ?_⟩
    simp only [step?, exec?, hmem, hdest, hℓ, htype, and_self, if_true, hpast]
  | annihilate o hp ha =>
    refine ⟨.annihilate o.ev o.cr, ?_⟩
    simp only [step?, annihilate?, hp, ha, and_self, if_true]
  | antiRollback ℓ o K U ha hpast hK =>
    refine ⟨.antiRollback ℓ K.length, ?_⟩
    obtain ⟨hget, htake, hdrop⟩ := getElem?_of_split K o U
    rw [← hpast] at hget htake hdrop
    simp only [step?, antiRollback?, hget, List.length_pos_iff.mpr hK, ha, and_self, if_true, htake,
      hdrop]

theorem run?_reachable {M : SimModel σ} (as : List Action) {s s' : TWGState}
    (hr : Reachable M s) (h : run? M s as = some s') : Reachable M s' := by
  induction as generalizing s with
  | nil => cases h; exact hr
  | cons a as ih =>
    unfold run? at h
    split at h
    · cases h
    · rename_i s1 hs1
      exact ih (Reachable.step hr (step?_sound hs1)) h

theorem lowerBound_sound {s : TWGState} {g : Nat} (h : lowerBound s g = true) :
    (∀ x ∈ s.pending, g ≤ x.ev.t) ∧ (∀ x ∈ s.antis, g ≤ x.ev.t) := by
  unfold lowerBound at h
  simp only [Bool.and_eq_true, List.all_eq_true, decide_eq_true_eq] at h
  exact h

end RootSim.TWG
