import RootSim.Model.RandGamma
import RootSim.Proofs.RandApi
/-!
Helper lemmas for the rejection branch of `Gamma` (`Model/RandGamma.lean`): magnitude bounds that
survive the concrete rounding of `*`, `+`, `-`, `/`, and what the two loops return (`Ret`).
-/
namespace RootSim.Rand
open RootSim.Float

/-- finite and `|v| ≤ 2^k` -/
def FinAbsLe (k : Nat) : FVal → Prop
  | .fin m s => m.natAbs ≤ 2 ^ (k + s)
  | _ => False

theorem finAbsLe_mono {i j : Nat} {v : FVal} (h : FinAbsLe i v) (hij : i ≤ j) : FinAbsLe j v := by
  cases v with
  | fin m s => exact Nat.le_trans h (Nat.pow_le_pow_right (by decide) (Nat.add_le_add_right hij s))
  | inf n => exact h
  | nan => exact h

theorem FinAbsLe.exists {k : Nat} {v : FVal} (h : FinAbsLe k v) :
    ∃ (m : Int) (s : Nat), v = .fin m s ∧ m.natAbs ≤ 2 ^ (k + s) := by
  cases v with
  | fin m s => exact ⟨m, s, rfl, h⟩
  | inf n => exact h.elim
  | nan => exact h.elim

theorem finAbsLe_roundFin {m : Int} {s k : Nat} (hk : k < 1024) (h : m.natAbs ≤ 2 ^ (k + s)) :
    FinAbsLe k (roundFin m s) := by
  obtain ⟨c, hc, hb, _⟩ := roundFin_bound m s k hk h
  rw [hc]
  exact hb

theorem mul_absLe {x y : FVal} {i j : Nat} (hx : FinAbsLe i x) (hy : FinAbsLe j y) (hij : i + j < 1024) :
    FinAbsLe (i + j) (FVal.mul x y) := by
  obtain ⟨a, s, rfl, hx⟩ := hx.exists
  obtain ⟨b, t, rfl, hy⟩ := hy.exists
  have h : (a * b).natAbs ≤ 2 ^ (i + j + (s + t)) := by
    rw [Int.natAbs_mul, Nat.add_add_add_comm, Nat.pow_add]
    exact Nat.mul_le_mul hx hy
  exact finAbsLe_roundFin hij h

/-- rescaling `a / 2^s` to the common scale `s + t` of a sum keeps a bound `2^i ≤ 2^M` -/
theorem natAbs_scale_le {a : Int} {i s M : Nat} (t : Nat) (ha : a.natAbs ≤ 2 ^ (i + s)) (hi : i ≤ M) :
    (a * 2 ^ t).natAbs ≤ 2 ^ (M + (s + t)) := by
  rw [Int.natAbs_mul, Int.natAbs_pow, ← Nat.add_assoc, Nat.pow_add _ _ t]
  exact Nat.mul_le_mul (Nat.le_trans ha (Nat.pow_le_pow_right (by decide) (Nat.add_le_add_right hi s)))
    (Nat.le_refl _)

theorem add_absLe {x y : FVal} {i j : Nat} (hx : FinAbsLe i x) (hy : FinAbsLe j y) (hij : max i j + 1 < 1024) :
    FinAbsLe (max i j + 1) (FVal.add x y) := by
  obtain ⟨a, s, rfl, hx⟩ := hx.exists
  obtain ⟨b, t, rfl, hy⟩ := hy.exists
  have h : (a * 2 ^ t + b * 2 ^ s).natAbs ≤ 2 ^ (max i j + 1 + (s + t)) := by
    have h1 := natAbs_scale_le t hx (Nat.le_max_left i j)
    have h2 := natAbs_scale_le s hy (Nat.le_max_right i j)
    rw [Nat.add_comm t s] at h2
    rw [Nat.add_right_comm, Nat.pow_succ, Nat.mul_two]
    exact Nat.le_trans (Int.natAbs_add_le _ _) (Nat.add_le_add h1 h2)
  exact finAbsLe_roundFin hij h

theorem roundFin_small (m : Nat) (h : m < 2 ^ 53) : roundFin (m : Int) 0 = .fin (m : Int) 0 := by
  have e : rneNat m 0 = m := rneNat_exact (Nat.le_zero.1 (dropBits_le (j := 0) (by decide) h))
  have hno : ¬ rneNat m 0 ≥ 2 ^ (1024 + 0) := by
    rw [e]
    exact no_overflow (k := 53) (s := 0) (by decide) (Nat.le_of_lt h)
  rw [roundFin_nat m 0 hno, e]

theorem sqArg_lt {ia : Nat} (h32 : ia < 2 ^ 32) : 2 * (ia - 1) + 1 < 2 ^ 33 := by omega

/-- `2.0 * am + 1.0` is exact for `ia < 2^32` -/
theorem gammaSqArg_eq (ia : Nat) (h32 : ia < 2 ^ 32) :
    gammaSqArg (gammaAm ia) = .fin ((2 * (ia - 1) + 1 : Nat) : Int) 0 := by
  have hlt : 2 * (ia - 1) + 1 < 2 ^ 53 := Nat.lt_trans (sqArg_lt h32) (by decide)
  show FVal.add (roundFin ((2 * (ia - 1) : Nat) : Int) 0) FVal.one = _
  rw [roundFin_small _ (Nat.lt_of_succ_lt hlt)]
  simp only [FVal.add, FVal.one]
  rw [Int.pow_zero, Int.mul_one, Int.mul_one]
  exact roundFin_small (2 * (ia - 1) + 1) hlt

theorem gammaAm_absLe (ia : Nat) (h32 : ia < 2 ^ 32) : FinAbsLe 32 (gammaAm ia) := by
  show ((ia - 1 : Nat) : Int).natAbs ≤ 2 ^ (32 + 0)
  rw [Int.natAbs_natCast]
  exact Nat.le_trans (Nat.sub_le _ _) (Nat.le_of_lt h32)

/-- `sqrt(2.0 * am + 1.0)` is finite and at most `2^33` in magnitude -/
theorem gammaSqrt_absLe (L : Libm) (hL : LibmLaws2 L) (ia : Nat) (h32 : ia < 2 ^ 32) :
    FinAbsLe 33 (L.sqrt (gammaSqArg (gammaAm ia))) := by
  rw [gammaSqArg_eq ia h32]
  obtain ⟨a, t, h, _, h2⟩ := hL.sqrt_ge_one (2 * (ia - 1) + 1) 0 (Nat.le_add_left _ _)
  rw [h]
  show (a : Int).natAbs ≤ 2 ^ (33 + t)
  rw [Int.natAbs_natCast, Nat.pow_add]
  rw [Nat.pow_zero, Nat.mul_one] at h2
  exact Nat.le_trans h2 (Nat.mul_le_mul_right _ (Nat.le_of_lt (sqArg_lt h32)))

theorem natAbs_sub_le {a : Int} {P : Nat} (h0 : 0 ≤ a) (h : a.natAbs ≤ 2 * P) :
    (a - (P : Int)).natAbs ≤ P := by omega

/-- `v2 = 2.0 * Random() - 1.0` is finite and `|v2| ≤ 1` -/
theorem gammaV2_absLe (r : FVal) (hr : RandVal r) : FinAbsLe 0 (gammaV2 r) := by
  obtain ⟨M, s, rfl, _, hM, _⟩ := randVal_repr hr
  -- `2 r` is in `[0, 2]`
  have h2 : ((2 : Int) * (M : Int)).natAbs ≤ 2 ^ (1 + s) := by
    rw [Int.natAbs_mul, Int.natAbs_natCast, Nat.pow_add]
    exact Nat.mul_le_mul (Nat.le_refl 2) (Nat.le_of_lt hM)
  obtain ⟨a, ha, hab, hpos⟩ := roundFin_bound (2 * (M : Int)) s 1 (by decide) h2
  -- so `2 r - 1` is in `[-1, 1]`
  have h3 : (a * 2 ^ 0 - 1 * 2 ^ s).natAbs ≤ 2 ^ (0 + s) := by
    rw [Int.pow_zero, Int.mul_one, Int.one_mul, Nat.zero_add, show (2 : Int) ^ s = ((2 ^ s : Nat) : Int) from
      (Int.natCast_pow 2 s).symm]
    rw [Nat.pow_add] at hab
    exact natAbs_sub_le (hpos (Int.mul_nonneg (by decide) (Int.natCast_nonneg M))) hab
  show FinAbsLe 0 (FVal.sub (roundFin (2 * (M : Int)) (0 + s)) FVal.one)
  rw [Nat.zero_add, ha]
  exact finAbsLe_roundFin (by decide) h3
/-- **`a / b` for `|a| ≤ 2^i`, `|b| ≥ 2^-j`** is finite and at most `2^(i+j+1)` in magnitude -/
theorem divFin_absLe (a : Int) (s : Nat) (b : Int) (t i j : Nat) (ha : a.natAbs ≤ 2 ^ (i + s))
    (hb : 2 ^ t ≤ b.natAbs * 2 ^ j) (hij : i + j + 1 < 1024) : FinAbsLe (i + j + 1) (FVal.divFin a s b t) := by
  -- abbreviations of the `let`s of `divFin`
  generalize hp : (bitlen (b.natAbs * 2 ^ s) + 55) - bitlen (a.natAbs * 2 ^ t) = p
  generalize hq : a.natAbs * 2 ^ t * 2 ^ p / (b.natAbs * 2 ^ s) = q
  generalize hst : (if a.natAbs * 2 ^ t * 2 ^ p % (b.natAbs * 2 ^ s) = 0 then 0 else 1 : Nat) = st
  -- the quotient `q = ⌊n 2^p / d⌋` is at most `2^(i+j+p)` since `n ≤ 2^(i+j) d`
  have hq' : q ≤ 2 ^ (i + j + p) := by
    rw [← hq]
    refine Nat.div_le_of_le_mul ?_
    calc a.natAbs * 2 ^ t * 2 ^ p ≤ 2 ^ (i + s) * (b.natAbs * 2 ^ j) * 2 ^ p :=
          Nat.mul_le_mul_right _ (Nat.mul_le_mul ha hb)
      _ = b.natAbs * 2 ^ s * 2 ^ (i + j + p) := by
          rw [Nat.pow_add, Nat.pow_add, Nat.pow_add]
          simp only [Nat.mul_assoc, Nat.mul_comm, Nat.mul_left_comm]
  have hm : 2 * q + st ≤ 2 ^ (i + j + 1 + (p + 1)) := by
    have hst1 : st ≤ 1 := by
      rw [← hst]; split
      · exact Nat.zero_le _
      · exact Nat.le_refl _
    -- `2 q + st ≤ 2 · 2^P + 1 ≤ 4 · 2^P` with `P = i + j + p`
    rw [Nat.add_right_comm (i + j) 1, ← Nat.add_assoc, Nat.pow_succ', Nat.pow_succ',
      Nat.two_mul (2 * 2 ^ (i + j + p))]
    exact Nat.add_le_add (Nat.mul_le_mul_left 2 hq')
      (Nat.le_trans hst1 (Nat.mul_pos (by decide) (Nat.two_pow_pos _)))
  have hfin : ∀ m : Int, m.natAbs = 2 * q + st → FinAbsLe (i + j + 1) (roundFin m (p + 1)) :=
    fun m hmabs => finAbsLe_roundFin hij (hmabs ▸ hm)
  simp only [FVal.divFin, hp, hq, hst]
  split
  · exact hfin _ (by rw [Int.natAbs_neg]; exact Int.natAbs_natCast _)
  · exact hfin _ (Int.natAbs_natCast _)
/-- the values of `Random()` other than `0.0` are at least `2^-64` -/
theorem randVal_nonzero_ge {v1 : FVal} (h : RandVal v1) (hz : v1.isZero = false) :
    ∃ (M s : Nat), v1 = .fin (M : Int) s ∧ M ≠ 0 ∧ 2 ^ s ≤ M * 2 ^ 64 := by
  cases h with
  | zero => exact absurd hz (by decide)
  | pos M s h52 h53 hs53 hs116 =>
    refine ⟨M, s, rfl, Nat.ne_of_gt (Nat.lt_of_lt_of_le (Nat.two_pow_pos 52) h52), ?_⟩
    calc 2 ^ s ≤ 2 ^ (52 + 64) := Nat.pow_le_pow_right (by decide) hs116
      _ = 2 ^ 52 * 2 ^ 64 := Nat.pow_add 2 52 64
      _ ≤ M * 2 ^ 64 := Nat.mul_le_mul_right _ h52

/-- `y = v2 / v1` for `|v2| ≤ 1` and a non-zero value `v1` of `Random()`: `|y| ≤ 2^65` -/
theorem gammaY_absLe {v1 v2 : FVal} (h1 : RandVal v1) (hz : v1.isZero = false) (h2 : FinAbsLe 0 v2) :
    FinAbsLe 65 (gammaY v1 v2) := by
  obtain ⟨M, s, rfl, hM, hge⟩ := randVal_nonzero_ge h1 hz
  obtain ⟨a, t, rfl, h2⟩ := h2.exists
  have hne : ¬ ((M : Int) = 0) := Int.natCast_ne_zero.2 hM
  simp only [gammaY, FVal.div, hne, if_false]
  exact divFin_absLe a t (M : Int) s 0 64 h2 (by rwa [Int.natAbs_natCast]) (by decide)

/-- finite, `0 ≤ v ≤ 2^k` -/
def FinNonnegLe (k : Nat) : FVal → Prop
  | .fin m s => 0 ≤ m ∧ m.natAbs ≤ 2 ^ (k + s)
  | _ => False

theorem finNonneg_of_le {k : Nat} {v : FVal} (h : FinNonnegLe k v) : FVal.FinNonneg v := by
  cases v with
  | fin m s => exact h.1
  | inf n => exact h.elim
  | nan => exact h.elim

theorem nonneg_of_not_lt {k : Nat} {x : FVal} (h : FinAbsLe k x) (hlt : FVal.lt x FVal.zero = false) :
    FinNonnegLe k x := by
  cases x with
  | fin m s =>
    refine ⟨?_, h⟩
    simp only [FVal.lt, FVal.zero, FVal.gt, decide_eq_false_iff_not] at hlt
    have hp : (0 : Int) < 2 ^ 0 := by decide
    simp at hlt
    exact hlt
  | inf n => exact h.elim
  | nan => exact h.elim

/-- **`x = sqrt(2 am + 1) * y + am` is finite, `|x| ≤ 2^100`**, when `v1 ≠ 0` -/
theorem gammaX_absLe (L : Libm) (hL : LibmLaws2 L) (ia : Nat) (h32 : ia < 2 ^ 32) {v1 v2 : FVal}
    (h1 : RandVal v1) (hz : v1.isZero = false) (h2 : FinAbsLe 0 v2) :
    FinAbsLe 100 (FVal.add (FVal.mul (L.sqrt (gammaSqArg (gammaAm ia))) (gammaY v1 v2)) (gammaAm ia)) := by
  have hs := mul_absLe (gammaSqrt_absLe L hL ia h32) (gammaY_absLe h1 hz h2) (by decide)
  have := add_absLe hs (gammaAm_absLe ia h32) (by decide)
  exact finAbsLe_mono this (by decide)

variable {f : BitsFn} {L : Libm}

/-- what the inner loop delivers: values of `Random()` / of `2 Random() - 1`; `v1 ≠ 0` on the
repaired code -/
def InnerOk (fixed : Bool) (o : Option (FVal × FVal)) : Prop :=
  ∀ v1 v2, o = some (v1, v2) → RandVal v1 ∧ FinAbsLe 0 v2 ∧ (fixed = true → v1.isZero = false)

/-- `k ≤ fi` passes of the inner loop make `2 k` draws -/
theorem gammaInner_ret (hf : GoodBits f) (fixed : Bool) (fi : Nat) (g : Rng) :
    Ret f (gammaInner f fixed fi g) g (fun ok d => d = 2 * ok.2 ∧ ok.2 ≤ fi ∧ InnerOk fixed ok.1) := by
  induction fi generalizing g with
  | zero => exact .ok ⟨rfl, Nat.le_refl _, fun _ _ h => nomatch h⟩
  | succ fi ih =>
    refine (random_ret hf g).bind ?_
    rintro v1 d ⟨rfl, hv1⟩
    refine (random_ret hf _).bind ?_
    rintro r d ⟨rfl, hr⟩
    by_cases hc : gammaInnerCond fixed v1 (gammaV2 r) = true
    · simp only [hc, if_true]
      refine (ih _).bind ?_
      rintro ⟨o, k⟩ d ⟨rfl, hk, hok⟩
      exact .ok ⟨by simp only; omega, Nat.succ_le_succ hk, hok⟩
    · simp only [hc]
      refine .ok ⟨rfl, Nat.succ_le_succ (Nat.zero_le _), ?_⟩
      intro a b hab
      cases hab
      refine ⟨hv1, gammaV2_absLe r hr, ?_⟩
      intro hfx
      subst hfx
      simp only [gammaInnerCond, Bool.true_and, Bool.or_eq_true, not_or] at hc
      simpa using hc.1

/-- what one pass of the outer loop guarantees -/
def StepOk (fixed : Bool) (st : GammaStep) : Prop :=
  (fixed = true → st.divZero = false) ∧
  (st.divZero = false → ∀ x, st.out = .ret x → FinNonnegLe 100 x)

theorem gammaBigIter_ret (hf : GoodBits f) (hL : LibmLaws2 L) (fixed : Bool)
    {ia : Nat} (h32 : ia < 2 ^ 32) (fi : Nat) (g : Rng) :
    Ret f (gammaBigIter f L fixed (gammaAm ia) fi g) g
      (fun st d => d = st.draws ∧ st.draws ≤ 2 * fi + 1 ∧ StepOk fixed st) := by
  refine (gammaInner_ret hf fixed fi g).bind ?_
  rintro ⟨o, k⟩ d ⟨rfl, hk, hok⟩
  have hk1 : 2 * k + 1 ≤ 2 * fi + 1 := Nat.succ_le_succ (Nat.mul_le_mul_left 2 hk)
  have hk0 : 2 * k ≤ 2 * fi + 1 := Nat.le_of_succ_le hk1
  cases o with
  | none => exact .ok ⟨rfl, hk0, fun _ => rfl, fun _ x hx => nomatch hx⟩
  | some p =>
    obtain ⟨v1, v2⟩ := p
    obtain ⟨hv1, hv2, hfz⟩ := hok v1 v2 rfl
    -- the value of `x` when it is returned
    have hret : v1.isZero = false → FVal.lt (FVal.add (FVal.mul (L.sqrt (gammaSqArg (gammaAm ia)))
          (gammaY v1 v2)) (gammaAm ia)) FVal.zero = false →
        FinNonnegLe 100 (FVal.add (FVal.mul (L.sqrt (gammaSqArg (gammaAm ia))) (gammaY v1 v2))
          (gammaAm ia)) :=
      fun hz hlt => nonneg_of_not_lt (gammaX_absLe L hL ia h32 hv1 hz hv2) hlt
    simp only
    generalize FVal.add (FVal.mul (L.sqrt (gammaSqArg (gammaAm ia))) (gammaY v1 v2)) (gammaAm ia) = x
      at hret
    by_cases hlt : FVal.lt x FVal.zero = true
    · rw [if_pos hlt]
      exact .ok ⟨rfl, hk0, hfz, fun _ x hx => nomatch hx⟩
    · rw [if_neg hlt]
      refine (random_ret hf _).bind ?_
      rintro r d ⟨rfl, _⟩
      simp only
      split
      · exact .ok ⟨rfl, hk1, hfz, fun _ x hx => nomatch hx⟩
      · refine .ok ⟨rfl, hk1, hfz, fun hz y hy => ?_⟩
        cases hy
        exact hret hz (Bool.not_eq_true _ ▸ hlt)

/-- what the whole function guarantees -/
def ResOk (fixed : Bool) (r : GammaRes) : Prop :=
  (fixed = true → r.divZero = false) ∧
  (r.divZero = false → ∀ x, r.value = some x → FinNonnegLe 100 x)

theorem gammaBigLoop_ret (hf : GoodBits f) (hL : LibmLaws2 L) (fixed : Bool)
    {ia : Nat} (h32 : ia < 2 ^ 32) (fi fo : Nat) (g : Rng) :
    Ret f (gammaBigLoop f L fixed (gammaAm ia) fi fo g) g
      (fun r d => d = r.draws ∧ r.draws ≤ (2 * fi + 1) * fo ∧ ResOk fixed r) := by
  induction fo generalizing g with
  | zero => exact .ok ⟨rfl, Nat.le_refl _, fun _ => rfl, fun _ x hx => nomatch hx⟩
  | succ fo ih =>
    have hmul : (2 * fi + 1) * (fo + 1) = (2 * fi + 1) * fo + (2 * fi + 1) := Nat.mul_succ _ _
    refine (gammaBigIter_ret hf hL fixed h32 fi g).bind ?_
    rintro ⟨out, draws, dz⟩ d ⟨rfl, hd, hok⟩
    simp only at hd
    have hd1 : d ≤ (2 * fi + 1) * (fo + 1) := by
      rw [hmul]
      exact Nat.le_trans hd (Nat.le_add_left _ _)
    cases out with
    | ret x =>
      exact .ok ⟨rfl, hd1, hok.1, fun hz y hy => hok.2 hz y (by cases hy; rfl)⟩
    | stuck => exact .ok ⟨rfl, hd1, hok.1, fun _ x hx => nomatch hx⟩
    | again =>
      refine (ih _).bind ?_
      rintro r d ⟨rfl, hd2, hok2⟩
      have hd3 : d + r.draws ≤ (2 * fi + 1) * (fo + 1) := by
        rw [hmul, Nat.add_comm]
        exact Nat.add_le_add hd2 hd
      refine .ok ⟨rfl, hd3, fun hfx => ?_, fun hz x hx => ?_⟩
      · have a := hok.1 hfx
        have b := hok2.1 hfx
        simp only at a
        simp only [a, b, Bool.or_self]
      · simp only [Bool.or_eq_false_iff] at hz
        exact hok2.2 hz.2 x hx

end RootSim.Rand
