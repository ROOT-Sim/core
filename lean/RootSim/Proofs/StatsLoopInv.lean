import RootSim.Proofs.StatsLoopAbs
/-! The loop model keeps the invariant of `Proofs/StatsLoopAbs.lean`; what follows at the barrier. -/
namespace RootSim.StatsLoop

/-! ## Positions and phases -/

/-- an idle thread has not joined round `R`, or is through with it -/
theorem code_idle {R : Nat} {th : Th} (h : th.tphase = 0) (hc : code R th ≠ 17) :
    th.nphase = 0 ∧ ((th.records + th.discarded = R ∧ code R th = 16) ∨
      (th.records + th.discarded + 1 = R ∧ code R th = 0)) := by
  unfold code at hc ⊢
  rw [h] at hc ⊢
  rcases codeAt_cases hc with ⟨h1, h2, h3⟩ | ⟨_, h2, _⟩ | ⟨h1, h2, h3⟩
  · rcases pos_idle th.nphase with hp | ⟨hp, hn⟩
    · omega
    · exact ⟨hn, .inr ⟨h1, h3.trans hp⟩⟩
  · rcases pos_idle th.nphase with hp | ⟨hp, _⟩ <;> omega
  · exact ⟨(pos_eq_zero h2).1, .inl ⟨h1, h3⟩⟩

theorem code_16 {R : Nat} {th : Th} (h : code R th = 16) :
    th.records + th.discarded = R ∧ pos th.nphase th.tphase = 0 := by
  unfold code at h
  rcases codeAt_cases (h ▸ (by decide : (16 : Nat) ≠ 17)) with ⟨_, h2, h3⟩ | ⟨_, _, h3⟩ | ⟨h1, h2, _⟩
  · omega
  · omega
  · exact ⟨h1, h2⟩

theorem code_shift (R : Nat) (th : Th) (h : code R th = 16) : code (R + 1) th = 0 := by
  obtain ⟨ht, hp⟩ := code_16 h
  rw [code, codeAt_in (by omega), hp]
  rfl

theorem ite_cases {α : Type} {c : Prop} [Decidable c] {x y z : α} (h : (if c then x else y) = z) :
    (c ∧ x = z) ∨ (¬ c ∧ y = z) := by
  by_cases hc : c
  · exact .inl ⟨hc, (if_pos hc).symm.trans h⟩
  · exact .inr ⟨hc, (if_neg hc).symm.trans h⟩

theorem Move.cast {n a b a' b' : Nat} {s s' : Ab} {v : Bool} (ha : a' = a) (hb : b' = b) (hm : Move n a b s s' v) :
    Move n a' b' s s' v := ha ▸ hb ▸ hm

/-- A row of an A-D reduction (`nphase` 0 or 4), given what `gvt_thread_phase_run` does there: under the guard `g`
nothing moves; otherwise the thread goes on, into the next node phase when the reduction is over (`v1`). -/
theorem reduction_row {cfg : Cfg} {sh sh' sh1 : Sh} {th th' th1 : Th} {v v1 : Bool} {g : Prop} [Decidable g]
    (hrun : nodePhaseRun cfg sh th = (v, sh', th')) (hnp : th.nphase = 0 ∨ th.nphase = 4)
    (hthr : threadPhaseRun cfg sh th = if g then (false, sh, th) else (v1, sh1, th1)) :
    (g ∧ (v, sh', th') = (false, sh, th)) ∨
    (¬ g ∧ (v, sh', th') = (false, sh1, if v1 then { th1 with tphase := 1, nphase := th.nphase + 1 } else th1)) := by
  by_cases hg : g
  · rw [if_pos hg] at hthr
    rcases hnp with h | h <;> simp only [nodePhaseRun, h, hthr] at hrun <;> exact .inl ⟨hg, hrun.symm⟩
  · rw [if_neg hg] at hthr
    rcases hnp with h | h <;> cases v1 <;> simp only [nodePhaseRun, h, hthr] at hrun ⊢ <;> exact .inr ⟨hg, hrun.symm⟩

/-- **One call of `gvt_node_phase_run` is a `Move`** between the positions before and after. In each row the
positions are what `codeAt_in`/`codeAt_out` compute from the phases. -/
theorem node_move (cfg : Cfg) (R : Nat) (sh : Sh) (th : Th) (ht : th.tphase ≠ 0) (ha : code R th ≠ 17)
    (v : Bool) (sh' : Sh) (th' : Th) (hrun : nodePhaseRun cfg sh th = (v, sh', th')) :
    Move cfg.n (code R th) (codeAt R th'.nphase th'.tphase (th.records + th.discarded + if v then 1 else 0))
      (absSh sh) (absSh sh') v := by
  obtain ⟨pc, tp, np, rec, bat, dis⟩ := th
  dsimp only [code] at ht ha ⊢
  rcases codeAt_cases ha with ⟨hin, hp, -⟩ | ⟨hout, hp, -⟩ | ⟨-, hp, -⟩
  · -- positions 1..14, row by row of `pos`
    revert ht hrun hp
    unfold pos
    split <;> intro ht hrun hp
    case h_1 => exact absurd rfl ht  -- row `(0,0)`
    case h_2 | h_9 =>  -- rows `(0,1)`, `(4,1)`: thread phase A
      rcases reduction_row hrun (by simp) (g := sh.cA ≠ 0) rfl with ⟨hg, h⟩ | ⟨hg, h⟩ <;> cases h
      · exact .cast (codeAt_in hin) (codeAt_in hin) (.stay _ _)
      · refine .cast (codeAt_in hin) (codeAt_in hin) (.ab _ (absSh sh) ?_ (Decidable.of_not_not hg))
        decide
    case h_3 | h_10 =>  -- B
      rcases reduction_row hrun (by simp) (g := sh.cB ≠ cfg.n) rfl with ⟨hg, h⟩ | ⟨hg, h⟩ <;> cases h
      · exact .cast (codeAt_in hin) (codeAt_in hin) (.stay _ _)
      · refine .cast (codeAt_in hin) (codeAt_in hin) (.bc _ (absSh sh) ?_ (Decidable.of_not_not hg))
        decide
    case h_4 | h_11 =>  -- C
      rcases reduction_row hrun (by simp) (g := sh.cA ≠ cfg.n) rfl with ⟨hg, h⟩ | ⟨hg, h⟩ <;> cases h
      · exact .cast (codeAt_in hin) (codeAt_in hin) (.stay _ _)
      · refine .cast (codeAt_in hin) (codeAt_in hin) (.cd _ (absSh sh) ?_ (Decidable.of_not_not hg))
        decide
    case h_5 | h_12 =>  -- D; `(nphase + 1, 1)` is the position after the reduction
      rcases reduction_row hrun (by simp) (g := sh.cB ≠ 0) rfl with ⟨hg, h⟩ | ⟨hg, h⟩ <;> cases h
      · exact .cast (codeAt_in hin) (codeAt_in hin) (.stay _ _)
      · refine .cast (codeAt_in hin) (codeAt_in hin) (.de _ (absSh sh) ?_ (Decidable.of_not_not hg))
        decide
    case h_6 =>  -- `node_sent_reduce`
      simp only [nodePhaseRun] at hrun
      rcases ite_cases hrun with ⟨hg, h⟩ | ⟨hg, h⟩
      · cases h
        exact .cast (codeAt_in hin) (codeAt_in hin) (.stay _ _)
      · rcases ite_cases h with ⟨hg2, h⟩ | ⟨hg2, h⟩ <;> cases h
        · exact .cast (codeAt_in hin) (codeAt_in hin) (.sent (absSh sh) (Decidable.of_not_not hg) hg2)
        · exact .cast (codeAt_in hin) (codeAt_in hin)
            (.sentLast (absSh sh) (Decidable.of_not_not hg) (Decidable.of_not_not hg2))
    case h_7 =>  -- `node_sent_reduce_wait`
      cases hrun
      exact .cast (codeAt_in hin) (codeAt_in hin) (.scatter (absSh sh))
    case h_8 =>  -- `node_sent_wait`
      simp only [nodePhaseRun] at hrun
      rcases ite_cases hrun with ⟨hg, h⟩ | ⟨hg, h⟩ <;> cases h
      · exact .cast (codeAt_in hin) (codeAt_in hin) (.stay _ _)
      · exact .cast (codeAt_in hin) (codeAt_in hin) (.recvd (absSh sh) (Decidable.of_not_not hg))
    case h_13 =>  -- `node_min_reduce`
      simp only [nodePhaseRun] at hrun
      rcases ite_cases hrun with ⟨hg, h⟩ | ⟨hg, h⟩ <;> cases h
      · exact .cast (codeAt_in hin) (codeAt_in hin) (.minLater (absSh sh) hg)
      · exact .cast (codeAt_in hin) (codeAt_in hin) (.minFirst (absSh sh) (Decidable.of_not_not hg))
    case h_14 =>  -- `node_min_reduce_wait`
      simp only [nodePhaseRun] at hrun
      rcases ite_cases hrun with ⟨hg, h⟩ | ⟨hg, h⟩ <;> cases h
      · exact .cast (codeAt_in hin) (codeAt_in hin) (.stay _ _)
      · exact .cast (codeAt_in hin) (codeAt_out hin) (.reduced (absSh sh) (Decidable.of_not_not hg))
    case h_15 =>  -- `node_min_wait`
      simp only [nodePhaseRun] at hrun
      rcases ite_cases hrun with ⟨hg, h⟩ | ⟨hg, h⟩ <;> cases h
      · exact .cast (codeAt_in hin) (codeAt_in hin) (.stay _ _)
      · exact .cast (codeAt_in hin) (codeAt_out hin) (.released (absSh sh) (Decidable.of_not_not hg))
    all_goals exact absurd hp (by decide)
  · -- position 15: `node_done`
    obtain ⟨rfl, rfl⟩ := pos_eq_15 hp
    cases hrun
    exact .cast (codeAt_out hout) (codeAt_out hout) (.done (absSh sh))
  · exact absurd (pos_eq_zero hp).2 ht

/-! ## One call of `gvt_phase_run` -/

theorem gvtPhaseRun_busy {cfg : Cfg} {i : Nat} {sh : Sh} {th : Th} (ht : th.tphase ≠ 0) :
    gvtPhaseRun cfg i sh th = nodePhaseRun cfg sh th := if_pos ht

/-- thread 0, idle, finds the period over and no round in progress: it starts one -/
theorem gvtPhaseRun_start {cfg : Cfg} {sh : Sh} {th : Th} (ht : th.tphase = 0)
    (hper : cfg.period < sh.clock + 1 - sh.timer) (hgn : sh.gvtNodes = 0) :
    gvtPhaseRun cfg 0 sh th =
      (false, { sh with clock := sh.clock + 1, timer := sh.clock + 1, gvtNodes := sh.gvtNodes + 1,
                        started := sh.started + 1 }, { th with tphase := 1 }) := by
  by_cases hb : sh.cB = 0 <;> simp [gvtPhaseRun, ht, hper, hgn, hb]

/-- any other call of an idle thread at most joins the round it sees in progress (`c_b ≠ 0`) -/
theorem gvtPhaseRun_idle {cfg : Cfg} {i : Nat} {sh : Sh} {th : Th} (ht : th.tphase = 0)
    (hn : ¬ (i = 0 ∧ cfg.period < sh.clock + 1 - sh.timer ∧ sh.gvtNodes = 0)) :
    (gvtPhaseRun cfg i sh th).1 = false ∧ absSh (gvtPhaseRun cfg i sh th).2.1 = absSh sh ∧
    (gvtPhaseRun cfg i sh th).2.2 = if sh.cB ≠ 0 then { th with tphase := 1 } else th := by
  by_cases hi0 : i = 0
  · have hc : ¬ (cfg.period < sh.clock + 1 - sh.timer ∧ sh.gvtNodes = 0) := fun h => hn ⟨hi0, h⟩
    simp [gvtPhaseRun, ht, hi0, hc, absSh]
  · simp [gvtPhaseRun, ht, hi0]

theorem threadPhaseRun_counts (cfg : Cfg) (sh : Sh) (th : Th) :
    (threadPhaseRun cfg sh th).2.2.records = th.records ∧ (threadPhaseRun cfg sh th).2.2.discarded = th.discarded := by
  unfold threadPhaseRun
  split <;> (try split) <;> simp

theorem nodePhaseRun_counts (cfg : Cfg) (sh : Sh) (th : Th) :
    (nodePhaseRun cfg sh th).2.2.records = th.records ∧ (nodePhaseRun cfg sh th).2.2.discarded = th.discarded := by
  have ht := threadPhaseRun_counts cfg sh th
  unfold nodePhaseRun
  split
  all_goals first
    | (split <;> rename_i heq <;> rw [heq] at ht <;> simpa using ht)
    | ((repeat' split) <;> simp)

/-- `gvt_phase_run` does not touch the statistics -/
theorem gvtPhaseRun_counts (cfg : Cfg) (i : Nat) (sh : Sh) (th : Th) :
    (gvtPhaseRun cfg i sh th).2.2.records = th.records ∧ (gvtPhaseRun cfg i sh th).2.2.discarded = th.discarded := by
  unfold gvtPhaseRun
  split
  · exact nodePhaseRun_counts cfg sh th
  · by_cases hb : sh.cB = 0 <;> by_cases hi : i = 0 <;>
      by_cases hc : cfg.period < sh.clock + 1 - sh.timer ∧ sh.gvtNodes = 0 <;> simp [hb, hi, hc]

theorem AInv_idle (n : Nat) (c : Nat → Nat) (s : Ab) (h : AInv n c s) (hg : s.gn = 0) :
    Win .idle c ∧ Stage.idle.Holds n c s := by
  obtain ⟨-, σ, hW, hσ⟩ := h
  cases σ
  case idle => exact ⟨hW, hσ⟩
  all_goals count_arith

/-- thread 0 starts a round: everybody was through with the previous one and now stands at 0, the starter at 1 -/
theorem AInv_start (n : Nat) (c : Nat → Nat) (s : Ab) (h : AInv n c s) (hg : s.gn = 0) (hn : n ≠ 0) :
    AInv n (upd (fun k => if k = 0 then n else 0) 0 1) { s with gn := s.gn + 1, st := s.st + 1 } := by
  have hσ := (AInv_idle n c s h hg).2
  have hst := h.1
  refine ⟨by count_arith, .a1, fun k hk => ⟨Nat.zero_le _, Nat.le_of_not_lt fun h2 => hk ?_⟩, by count_arith⟩
  have h0 : ¬ k = 0 := fun e => by subst e; exact absurd h2 (by decide)
  have h1 : ¬ 1 = k := fun e => by subst e; exact absurd h2 (by decide)
  simp [upd, h0, h1, Ne.symm h0]

/-- **One call of `gvt_phase_run` keeps the invariant**, whatever is done with the returned value besides
counting it (`th''` = the thread afterwards: same phases as the call left them, one more value received
iff one was returned). -/
theorem phase_inv (cfg : Cfg) (i : Nat) (sh : Sh) (ths : List Th) (th : Th) (hi : ths[i]? = some th)
    (hlen : ths.length = cfg.n) (hA : AInv cfg.n (cnt sh.started ths) (absSh sh))
    (v : Bool) (sh' : Sh) (th' : Th) (hrun : gvtPhaseRun cfg i sh th = (v, sh', th')) (th'' : Th)
    (h1 : th''.tphase = th'.tphase) (h2 : th''.nphase = th'.nphase)
    (h3 : th''.records + th''.discarded = th.records + th.discarded + if v then 1 else 0) :
    AInv cfg.n (cnt sh'.started (ths.set i th'')) (absSh sh') := by
  have hpos := cnt_pos sh.started ths i th hi
  have hbad : code sh.started th ≠ 17 := by
    obtain ⟨-, σ, hW, -⟩ := hA
    intro e; rw [e] at hpos
    have := hW 17 hpos
    cases σ <;> exact absurd this.2 (by decide)
  have hcode : ∀ R, code R th'' = codeAt R th'.nphase th'.tphase (th.records + th.discarded + if v then 1 else 0) :=
    fun R => by rw [code, h1, h2, h3]
  by_cases ht : th.tphase = 0
  · obtain ⟨hp0, hp⟩ := code_idle ht hbad
    by_cases hstart : i = 0 ∧ cfg.period < sh.clock + 1 - sh.timer ∧ sh.gvtNodes = 0
    · -- thread 0 starts a round: everybody stands at 16, that is at 0 of the new round
      obtain ⟨rfl, hper, hgn⟩ := hstart
      rw [gvtPhaseRun_start ht hper hgn] at hrun
      cases hrun
      have hall : ∀ t ∈ ths, code sh.started t = 16 :=
        cnt_all _ _ _ (hlen ▸ (AInv_idle _ _ _ hA hgn).2.1)
      have hall' : ∀ t ∈ ths, code (sh.started + 1) t = 0 := fun t ht => code_shift _ _ (hall t ht)
      have hth'' : code (sh.started + 1) th'' = 1 := by
        rw [hcode]
        simp only [hp0, Bool.false_eq_true, if_false, Nat.add_zero]
        exact codeAt_in (congrArg (· + 1) (code_16 (hall th (List.mem_of_getElem? hi))).1)
      have hn : cfg.n ≠ 0 := fun e => by
        rw [← hlen, List.length_eq_zero_iff] at e; rw [e] at hi; cases hi
      show AInv cfg.n (cnt (sh.started + 1) (ths.set 0 th'')) _
      rw [cnt_set _ _ _ _ _ hi, hall' th (List.mem_of_getElem? hi), hth'', funext (cnt_const _ _ _ hall'), hlen]
      exact AInv_start _ _ _ hA hgn hn
    · -- any other call of an idle thread
      obtain ⟨r1, r3, r4⟩ := gvtPhaseRun_idle (cfg := cfg) ht hstart
      rw [hrun] at r1 r3 r4
      subst r1 r4
      rw [r3, show sh'.started = sh.started from congrArg Ab.st r3, cnt_set _ _ _ _ _ hi, hcode]
      by_cases hb : sh.cB = 0
      · rw [if_neg (not_not_intro hb)]
        exact AInv_move _ _ _ _ _ _ _ (.stay _ _) hpos hA
      · simp only [if_pos hb, hp0, Bool.false_eq_true, if_false, Nat.add_zero]
        rcases hp with ⟨htot, hc⟩ | ⟨htot, hc⟩
        · exact AInv_move _ _ _ _ _ _ _ (.cast hc (codeAt_out htot) (.joinLate _ hb)) hpos hA
        · exact AInv_move _ _ _ _ _ _ _ (.cast hc (codeAt_in htot) (.join _ hb)) hpos hA
  · -- inside a round
    rw [gvtPhaseRun_busy ht] at hrun
    have hm := node_move cfg sh.started sh th ht hbad v sh' th' hrun
    rw [show sh'.started = sh.started from hm.st_eq, cnt_set _ _ _ _ _ hi, hcode]
    exact AInv_move _ _ _ _ _ _ _ hm hpos hA

/-! ## The invariant of the loop model -/

structure GInv (cfg : Cfg) (st : St) : Prop where
  len : st.ths.length = cfg.n
  counts : AInv cfg.n (cnt st.sh.started st.ths) (absSh st.sh)
  /-- a thread reaches the barrier idle -/
  idle : ∀ th ∈ st.ths, th.pc = .barrier → th.tphase = 0
  /-- the repaired flush loop drops nothing -/
  kept : cfg.fix6 = true → ∀ th ∈ st.ths, th.discarded = 0

theorem GInv_init (cfg : Cfg) : GInv cfg (init cfg) := by
  have hthr : ∀ th ∈ (init cfg).ths, th = {} := fun th hm => List.eq_of_mem_replicate hm
  have hall : ∀ th ∈ (init cfg).ths, code 0 th = 16 := fun th hm => by rw [hthr th hm]; rfl
  have hl : (init cfg).ths.length = cfg.n := List.length_replicate
  have e : ∀ j, cnt 0 (init cfg).ths j = if j = 16 then cfg.n else 0 := fun j => by
    rw [cnt_const 0 _ 16 hall, hl]
  refine ⟨hl, ⟨rfl, .idle, fun k hk => ?_, ?_⟩, fun th hm => ?_, fun _ th hm => ?_⟩
  · have : k = 16 := Classical.byContradiction fun h => hk (by rw [show (init cfg).sh.started = 0 from rfl, e, if_neg h])
    subst this; exact ⟨Nat.le_refl _, Nat.le_refl _⟩
  · exact ⟨by rw [show (init cfg).sh.started = 0 from rfl, e, if_pos rfl], rfl, rfl, rfl, rfl, rfl, rfl⟩
  · rw [hthr th hm]; intro h; cases h
  · rw [hthr th hm]

theorem GInv.set {cfg : Cfg} {st : St} (h : GInv cfg st) {i : Nat} {th th' : Th} (hi : st.ths[i]? = some th) {sh' : Sh}
    (hc : AInv cfg.n (cnt sh'.started (st.ths.set i th')) (absSh sh'))
    (hpc : th'.pc = .barrier → th'.tphase = 0) (hk : cfg.fix6 = true → th'.discarded = th.discarded) :
    GInv cfg { sh := sh', ths := st.ths.set i th' } where
  len := (List.length_set ..).trans h.len
  counts := hc
  idle t ht := (List.mem_or_eq_of_mem_set ht).elim (h.idle t) fun e => e ▸ hpc
  kept hf t ht := (List.mem_or_eq_of_mem_set ht).elim (h.kept hf t) fun e =>
    e ▸ (hk hf).trans (h.kept hf th (List.mem_of_getElem? hi))

/-- `a` has the phases of `b` and has received `k` values more -/
structure Th.Follows (a b : Th) (k : Nat) : Prop where
  tphase : a.tphase = b.tphase
  nphase : a.nphase = b.nphase
  total : a.records + a.discarded = b.records + b.discarded + k

/-- a step of thread `i` that calls nothing: phases, statistics and the shared variables `absSh` speaks about stay -/
theorem GInv_pc {cfg : Cfg} {st : St} {i : Nat} {th th' : Th} {sh' : Sh} (h : GInv cfg st) (hi : st.ths[i]? = some th)
    (hs : absSh sh' = absSh st.sh) (same : th'.Follows th 0) (hdis : th'.discarded = th.discarded)
    (hpc : th'.pc = .barrier → th.tphase = 0) :
    GInv cfg { sh := sh', ths := st.ths.set i th' } := by
  refine h.set hi ?_ (fun e => same.tphase ▸ hpc e) fun _ => hdis
  have hcode : code st.sh.started th' = code st.sh.started th := by
    rw [code, code, same.tphase, same.nphase, same.total, Nat.add_zero]
  rw [hs, show sh'.started = st.sh.started from congrArg Ab.st hs, cnt_set _ _ _ _ _ hi, hcode,
    upd_self _ _ (cnt_pos _ _ _ _ hi)]
  exact h.counts

/-- a step of thread `i` that calls `gvt_phase_run` (result `v`, `sh'`, `th'`) and counts the value if one was returned -/
theorem GInv_phase {cfg : Cfg} {st : St} {i : Nat} {th th' th'' : Th} {v : Bool} {sh' sh'' : Sh} (h : GInv cfg st)
    (hi : st.ths[i]? = some th) (hrun : gvtPhaseRun cfg i st.sh th = (v, sh', th'))
    (hs : absSh sh'' = absSh sh') (same : th''.Follows th' (if v then 1 else 0))
    (hpc : th''.pc ≠ .barrier) (hdis : cfg.fix6 = true → th''.discarded = th'.discarded) :
    GInv cfg { sh := sh'', ths := st.ths.set i th'' } := by
  obtain ⟨c1, c2⟩ := gvtPhaseRun_counts cfg i st.sh th
  rw [hrun] at c1 c2
  have h3 := same.total
  rw [c1, c2] at h3
  refine h.set hi ?_ (fun e => absurd e hpc) fun hf => (hdis hf).trans c2
  rw [hs, show sh''.started = sh'.started from congrArg Ab.st hs]
  exact phase_inv cfg i st.sh st.ths th hi h.len h.counts v sh' th' hrun th'' same.tphase same.nphase h3

/-- **Every atomic block keeps the invariant.** -/
theorem GInv_act (cfg : Cfg) (st : St) (i : Nat) (h : GInv cfg st) : GInv cfg (act cfg st i) := by
  unfold act
  split
  · exact h
  · rename_i th hi
    split
    · -- loopTop
      exact GInv_pc h hi (hs := rfl) (same := ⟨rfl, rfl, rfl⟩) (hdis := rfl) (hpc := by split <;> simp)
    · -- batch
      refine GInv_pc h hi (hs := ?_) (same := ⟨rfl, rfl, rfl⟩) (hdis := rfl) (hpc := by simp)
      split <;> rfl
    · -- gvtCall
      split
      · rename_i sh' th' heq
        exact GInv_phase h hi heq (hs := rfl) (same := ⟨rfl, rfl, rfl⟩) (hpc := by simp) (hdis := fun _ => rfl)
      · -- a value was returned: `termination_on_gvt` may vote, `stats_on_gvt` records
        rename_i sh' th' heq
        refine GInv_phase h hi heq (hs := ?_) (same := ⟨rfl, rfl, ?_⟩) (hpc := by simp) (hdis := fun _ => rfl)
        · split <;> rfl
        · simp only [if_true]; omega
    · -- flushTop
      refine GInv_pc h hi (hs := rfl) (same := ⟨rfl, rfl, rfl⟩) (hdis := rfl) (hpc := ?_)
      split
      · simp
      · rename_i ht; intro _; simpa using ht
    · -- flushCall: the value is recorded or dropped, according to `fix6`
      split
      rename_i v sh' th' heq
      refine GInv_phase h hi heq (hs := rfl) (same := ⟨rfl, rfl, ?_⟩) (hpc := by simp) (hdis := ?_)
      · cases v <;> cases cfg.fix6 <;> simp <;> omega
      · intro hf; simp [hf]
    · exact h

theorem GInv_settle (cfg : Cfg) (st : St) (i : Nat) (h : GInv cfg st) : GInv cfg (settle cfg st i) := by
  unfold settle
  split
  · simp only []
    split
    · exact GInv_act _ _ _ (GInv_act _ _ _ h)
    · exact GInv_act _ _ _ h
  · exact GInv_act _ _ _ h
  · exact h

theorem GInv_grant (cfg : Cfg) (st : St) (i : Nat) (h : GInv cfg st) : GInv cfg (grant cfg st i) :=
  GInv_settle _ _ _ (GInv_act _ _ _ h)

theorem GInv_foldl {cfg : Cfg} {f : St → Nat → St} (hf : ∀ st i, GInv cfg st → GInv cfg (f st i)) (l : List Nat)
    (st : St) (h : GInv cfg st) : GInv cfg (l.foldl f st) := by
  induction l generalizing st with
  | nil => exact h
  | cons i l ih => exact ih _ (hf st i h)

/-- every state of every execution, at both granularities -/
theorem reachable_fine (cfg : Cfg) (sched : List Nat) : GInv cfg (runFine cfg (init cfg) sched) :=
  GInv_foldl (GInv_act cfg) _ _ (GInv_init cfg)

theorem reachable_hook (cfg : Cfg) (sched : List Nat) : GInv cfg (runHook cfg (initHook cfg) sched) :=
  GInv_foldl (GInv_grant cfg) _ _ (GInv_foldl (GInv_settle cfg) _ _ (GInv_init cfg))

/-! ## At the barrier -/

theorem sameCount_of_all (st : St) (r : Nat) (h : ∀ th ∈ st.ths, th.records = r) : sameCount st = true := by
  unfold sameCount
  split
  · rfl
  · rename_i th rest heq
    apply List.all_eq_true.mpr
    intro t ht
    have h1 := h th (by rw [heq]; simp)
    have h2 := h t (by rw [heq]; simp [ht])
    simp [h1, h2]

/-- **When every thread stands at the barrier of `gvt_msg_drain`, every thread has received the value of
every round** (in its worker loop or in its flush loop), and every round that was started is over. -/
theorem GInv_final (cfg : Cfg) (st : St) (h : GInv cfg st) (hd : allDone st = true) :
    (∀ th ∈ st.ths, th.records + th.discarded = st.sh.completed) ∧ st.sh.started = st.sh.completed := by
  obtain ⟨hl, ⟨hst, σ, hW, hσ⟩, hb, _⟩ := h
  -- all threads are idle: nobody stands inside a round
  have hz : ∀ k, 1 ≤ k → k ≤ 15 → cnt st.sh.started st.ths k = 0 := by
    intro k h1 h2
    refine List.countP_eq_zero.mpr fun th hm => ?_
    have hidle : th.tphase = 0 := hb th hm (by simpa using List.all_eq_true.mp hd th hm)
    by_cases hc : code st.sh.started th = 17
    · simp only [hc, beq_iff_eq]; omega
    · rcases (code_idle hidle hc).2 with ⟨_, e⟩ | ⟨_, e⟩ <;> simp only [e, beq_iff_eq] <;> omega
  cases σ
  case idle =>
    have hcs : st.sh.started = st.sh.completed := by
      have : (absSh st.sh).st = (absSh st.sh).cp + 0 := hσ.2.2.2.2.2.1 ▸ hst
      exact this
    have hall := cnt_all _ _ _ (hσ.1.trans hl.symm)
    exact ⟨fun th hm => hcs ▸ (code_16 (hall th hm)).1, hcs⟩
  -- every other stage has a thread inside the round
  all_goals
    simp only [Stage.Holds, hz, Nat.reduceLeDiff] at hσ
    omega

/-- with the repaired flush loop nothing is dropped, so every thread holds one record per round -/
theorem GInv_final_fixed (cfg : Cfg) (st : St) (h : GInv cfg st) (hfix : cfg.fix6 = true) (hd : allDone st = true) :
    (∀ th ∈ st.ths, th.records = st.sh.completed) ∧ st.sh.started = st.sh.completed ∧ sameCount st = true := by
  obtain ⟨hall, hcs⟩ := GInv_final cfg st h hd
  have hrec : ∀ th ∈ st.ths, th.records = st.sh.completed := fun th hm => by
    have := hall th hm
    rw [h.kept hfix th hm] at this
    exact this
  exact ⟨hrec, hcs, sameCount_of_all _ _ hrec⟩

end RootSim.StatsLoop
