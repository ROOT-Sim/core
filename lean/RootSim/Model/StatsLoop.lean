/-
How many times does each thread call `stats_on_gvt`?

Model of the part of the runtime that decides it, for a single node (`n_nodes = 1`, `no_mpi.c`):
* the worker loop of `parallel_thread_run` (`src/parallel/parallel.c`): loop test
  `termination_cant_end()`, a batch of 64 `process_msg()`, one `gvt_phase_run()` call whose non-negative
  result is handed to `termination_on_gvt` and `stats_on_gvt`;
* `gvt_phase_run`, `gvt_node_phase_run`, `gvt_thread_phase_run` (`src/gvt/gvt.c`) with their shared
  counters `c_a c_b c_c c_d`, `gvt_nodes`, `total_msg_received`, and the timer test of thread 0;
* `termination_on_gvt` / `RootsimStop` (`src/gvt/termination.c`) as far as `thr_to_end` and
  `nodes_to_end` are concerned;
* the flush loop at the head of `gvt_msg_drain`, which completes a pending round and, on the pinned tree,
  *discards* its value (finding F6); on the repaired tree (`Cfg.fix6 = true`) it hands the value to
  `stats_on_gvt` like the worker loop does.

Everything else (event processing, the GVT value itself, the two extra drain rounds, which never reach
`stats_on_gvt`) is abstracted: a thread "votes" when it receives its `voteAt`-th value, and calls
`RootsimStop()` from an event handler in its `stopBatch`-th batch.

One `act` is one atomic block of one thread; blocks are small enough that every interleaving of
blocks is an execution of the real program (each block contains at most one access to a shared
variable that another thread may be waiting on, or is a sequence that the other threads do not
interrupt in the chosen schedule). A `grant` is the coarser unit between two `VERIF_YIELD` points
(`VP_WORKER_LOOP`, `VP_GVT_PHASE`), which the harness can replay on the real code.
-/
namespace RootSim.StatsLoop

/-- where a thread is in `parallel_thread_run` / `gvt_msg_drain` -/
inductive Pc where
  | loopTop    -- about to evaluate `termination_cant_end()`
  | batch      -- test passed, at `VERIF_YIELD(VP_WORKER_LOOP)`: about to run 64 × `process_msg()`
  | gvtCall    -- at `VERIF_YIELD(VP_GVT_PHASE)` of the call in the worker loop
  | flushTop   -- in `gvt_msg_drain`: about to test `thread_phase != thread_phase_idle`
  | flushCall  -- at `VERIF_YIELD(VP_GVT_PHASE)` of a call in the flush loop (value discarded / recorded: `Cfg.fix6`)
  | barrier    -- reached `sync_thread_barrier()` in `gvt_msg_drain`
deriving DecidableEq, Repr

structure Th where
  pc : Pc := .loopTop
  tphase : Nat := 0      -- `enum thread_phase`: 0 idle, 1 A, 2 B, 3 C, 4 D
  nphase : Nat := 0      -- `enum node_phase`: 0 redux_first .. 8 done
  records : Nat := 0     -- calls of `stats_on_gvt`: values returned inside the worker loop (+ flush loop if `fix6`)
  batches : Nat := 0
  discarded : Nat := 0   -- values returned to the flush loop and dropped (always 0 if `fix6`)
deriving DecidableEq, Repr

structure Sh where
  cA : Nat := 0
  cB : Nat := 0
  cC : Nat := 0
  cD : Nat := 0
  gvtNodes : Nat := 0
  totalRecv : Int := 0       -- `total_msg_received`
  nodesToEnd : Int := 1      -- `nodes_to_end` (n_nodes = 1)
  thrToEnd : Nat             -- `thr_to_end`
  timer : Nat := 1           -- `gvt_timer = timer_new()` in `gvt_global_init`
  clock : Nat := 1           -- the harness clock: one tick per `timer_new()` call
  /-- ghost (never read by a transition): GVT rounds started by thread 0 (`gvt_nodes` raised) -/
  started : Nat := 0
  /-- ghost (never read by a transition): GVT rounds every thread has been through
  (`gvt_nodes` lowered by the last thread leaving `node_done`) -/
  completed : Nat := 0
deriving DecidableEq, Repr

structure Cfg where
  n : Nat                    -- `global_config.n_threads`
  period : Nat               -- `global_config.gvt_period`
  stopBatch : Nat → Nat      -- thread `i` calls `RootsimStop()` in its `stopBatch i`-th batch (0: never)
  voteAt : Nat → Nat         -- `termination_on_gvt` of thread `i` votes at its `voteAt i`-th value (0: never)
  /-- The variant of `gvt_msg_drain`. `false` = the pinned tree: the flush loop drops the value returned by
  `gvt_phase_run()`. `true` = the repaired tree (`repo_patches/f6_flush_round_record.diff`):
  `if(flushed_gvt >= 0.0) stats_on_gvt(flushed_gvt);` - only `stats_on_gvt`, not `termination_on_gvt`. -/
  fix6 : Bool := false

structure St where
  sh : Sh
  ths : List Th
deriving DecidableEq, Repr

def init (cfg : Cfg) : St := { sh := { thrToEnd := cfg.n }, ths := List.replicate cfg.n {} }

/-- `gvt_thread_phase_run` -/
def threadPhaseRun (cfg : Cfg) (sh : Sh) (th : Th) : Bool × Sh × Th :=
  match th.tphase with
  | 1 => if sh.cA ≠ 0 then (false, sh, th)
         else (false, { sh with cB := sh.cB + 1 }, { th with tphase := 2 })
  | 2 => if sh.cB ≠ cfg.n then (false, sh, th)
         else (false, { sh with cA := sh.cA + 1 }, { th with tphase := 3 })
  | 3 => if sh.cA ≠ cfg.n then (false, sh, th)
         else (false, { sh with cB := sh.cB - 1 }, { th with tphase := 4 })
  | 4 => if sh.cB ≠ 0 then (false, sh, th)
         else (true, { sh with cA := sh.cA - 1 }, { th with tphase := 0 })
  | _ => (false, sh, th)

/-- `gvt_node_phase_run` with `n_nodes = 1` and the `no_mpi.c` collectives (complete at once, no
remote messages: `remote_msg_to_receive = 0`, `remote_msg_received[] = 0`) -/
def nodePhaseRun (cfg : Cfg) (sh : Sh) (th : Th) : Bool × Sh × Th :=
  match th.nphase with
  | 0 | 4 =>
    match threadPhaseRun cfg sh th with
    | (false, sh', th') => (false, sh', th')
    | (true, sh', th') => (false, sh', { th' with tphase := 1, nphase := th.nphase + 1 })
  | 1 =>
    if sh.cA ≠ 0 then (false, sh, th)
    else
      let sh' := { sh with totalRecv := sh.totalRecv + 1, cC := sh.cC + 1 }
      if sh.cC ≠ cfg.n - 1 then (false, sh', { th with nphase := 3 })
      else (false, sh', { th with nphase := 2 })
  | 2 => (false, { sh with totalRecv := sh.totalRecv - (cfg.n : Int) }, { th with nphase := 3 })
  | 3 => if sh.totalRecv ≠ 0 then (false, sh, th) else (false, sh, { th with nphase := 4 })
  | 5 =>
    if sh.cD ≠ 0 then (false, { sh with cD := sh.cD + 1 }, { th with nphase := 7 })
    else (false, { sh with cD := sh.cD + 1 }, { th with nphase := 6 })
  | 6 =>
    if sh.cD ≠ cfg.n then (false, sh, th)
    else (true, { sh with cC := sh.cC - cfg.n }, { th with nphase := 8 })
  | 7 => if sh.cC ≠ 0 then (false, sh, th) else (true, sh, { th with nphase := 8 })
  | 8 =>
    (false, { sh with cD := sh.cD - 1, gvtNodes := if sh.cD = 1 then sh.gvtNodes - 1 else sh.gvtNodes,
                      completed := if sh.cD = 1 then sh.completed + 1 else sh.completed },
     { th with nphase := 0, tphase := 0 })
  | _ => (false, sh, th)

/-- `gvt_phase_run` on thread `i`; the Boolean is "a GVT value (`>= 0`) was returned" -/
def gvtPhaseRun (cfg : Cfg) (i : Nat) (sh : Sh) (th : Th) : Bool × Sh × Th :=
  if th.tphase ≠ 0 then nodePhaseRun cfg sh th
  else
    let th1 := if sh.cB ≠ 0 then { th with tphase := 1 } else th
    if i = 0 then
      let t := sh.clock + 1
      let sh1 := { sh with clock := t }
      if cfg.period < t - sh.timer ∧ sh.gvtNodes = 0 then
        (false, { sh1 with timer := t, gvtNodes := sh.gvtNodes + 1, started := sh.started + 1 }, { th1 with tphase := 1 })
      else (false, sh1, th1)
    else (false, sh, th1)

/-- one atomic block of thread `i` -/
def act (cfg : Cfg) (st : St) (i : Nat) : St :=
  match st.ths[i]? with
  | none => st
  | some th =>
    match th.pc with
    | .loopTop =>
      { st with ths := st.ths.set i { th with pc := if st.sh.nodesToEnd > 0 then .batch else .flushTop } }
    | .batch =>
      let b := th.batches + 1
      -- RootsimStop(): n_nodes + 1 termination control messages
      let sh' := if cfg.stopBatch i = b then { st.sh with nodesToEnd := st.sh.nodesToEnd - 2 } else st.sh
      { sh := sh', ths := st.ths.set i { th with batches := b, pc := .gvtCall } }
    | .gvtCall =>
      match gvtPhaseRun cfg i st.sh th with
      | (false, sh', th') => { sh := sh', ths := st.ths.set i { th' with pc := .loopTop } }
      | (true, sh', th') =>
        -- termination_on_gvt, then stats_on_gvt
        let k := th'.records + 1
        let sh'' := if cfg.voteAt i = k then
            { sh' with thrToEnd := sh'.thrToEnd - 1,
                       nodesToEnd := if sh'.thrToEnd = 1 then sh'.nodesToEnd - 1 else sh'.nodesToEnd }
          else sh'
        { sh := sh'', ths := st.ths.set i { th' with records := k, pc := .loopTop } }
    | .flushTop =>
      { st with ths := st.ths.set i { th with pc := if th.tphase ≠ 0 then .flushCall else .barrier } }
    | .flushCall =>
      match gvtPhaseRun cfg i st.sh th with
      | (v, sh', th') =>
        { sh := sh', ths := st.ths.set i { th' with discarded := th'.discarded + (if v && !cfg.fix6 then 1 else 0),
                                                     records := th'.records + (if v && cfg.fix6 then 1 else 0),
                                                     pc := .flushTop } }
    | .barrier => st

def pcOf (st : St) (i : Nat) : Option Pc := (st.ths[i]?).map (fun th => th.pc)

/-- run thread `i` on until it stands at a yield point (`batch`, `gvtCall`, `flushCall`) or the barrier -/
def settle (cfg : Cfg) (st : St) (i : Nat) : St :=
  match pcOf st i with
  | some Pc.loopTop =>
    let s2 := act cfg st i
    match pcOf s2 i with
    | some Pc.flushTop => act cfg s2 i
    | _ => s2
  | some Pc.flushTop => act cfg st i
  | _ => st

/-- thread `i` proceeds from the yield point it stands at to its next one -/
def grant (cfg : Cfg) (st : St) (i : Nat) : St := settle cfg (act cfg st i) i

def runFine (cfg : Cfg) (st : St) (sched : List Nat) : St := sched.foldl (act cfg) st
def runHook (cfg : Cfg) (st : St) (sched : List Nat) : St := sched.foldl (grant cfg) st

/-- every thread reaches its first `VERIF_YIELD(VP_WORKER_LOOP)` (or the barrier) on its own -/
def initHook (cfg : Cfg) : St := (List.range cfg.n).foldl (settle cfg) (init cfg)

/-- all threads have left the worker loop and the flush loop of `gvt_msg_drain` and stand at its barrier,
which then releases them: `parallel_thread_run` returns on every thread -/
def allDone (st : St) : Bool := st.ths.all (fun th => th.pc == .barrier)

/-- **The execution returns**: under the fine-grained schedule `sched` every thread gets through the flush
loop of `gvt_msg_drain` to the barrier. Executions that end in the shutdown deadlock F1 (an idle thread
waits in the barrier for a thread that spins in a round the idle one never joins) do not satisfy it. -/
def Returns (cfg : Cfg) (sched : List Nat) : Prop := allDone (runFine cfg (init cfg) sched) = true

/-- the same at yield-point granularity (the schedules the harness replays on the real threads) -/
def ReturnsHook (cfg : Cfg) (sched : List Nat) : Prop := allDone (runHook cfg (initHook cfg) sched) = true

instance (cfg : Cfg) (sched : List Nat) : Decidable (Returns cfg sched) := by unfold Returns; infer_instance
instance (cfg : Cfg) (sched : List Nat) : Decidable (ReturnsHook cfg sched) := by unfold ReturnsHook; infer_instance
def recordCounts (st : St) : List Nat := st.ths.map (·.records)
def sameCount (st : St) : Bool :=
  match st.ths with
  | [] => true
  | th :: rest => rest.all (fun t => t.records == th.records)

end RootSim.StatsLoop
