/-!
# Model of `sync_thread_barrier` (`src/core/sync.c`)

```c
bool sync_thread_barrier(void) {
    static __thread unsigned phase;  static atomic_uint cs[2];
    atomic_uint *c = cs + (phase & 1U);
    if(phase & 2U) { l = fetch_add(c, -1) == 1;  do { r = load(c); } while(r); }
    else           { l = !fetch_add(c, 1);       do { r = load(c); } while(r != n_threads); }
    phase = (phase + 1) & 3U;  return l; }
```

Interleaving transition system, one step per shared-memory access, sequentially consistent
(the `memory_order_*` annotations are NOT modelled):

* `enter i`  — thread `i` executes its `atomic_fetch_add` (and computes `l`);
* inside the spin loop thread `i` executes one `atomic_load`; if the loop guard lets it through it does
  `phase++` and returns `l` (`exit i`), otherwise nothing changes (it spins); `step i` is whichever of
  the two applies to the thread.

The thread-local `phase` is `uses % 4` where `uses` counts the completed calls of the thread, so
counter index = `uses % 2` (`phase & 1`) and the direction is *down* iff `uses % 4 ≥ 2` (`phase & 2`).
The counters are C `unsigned` (32 bit): `fetch_add(c, -1)` is addition of `2^32 - 1` modulo `2^32`.
`flags` is ghost state: the leader result the thread obtained in each use it has entered so far.
-/
namespace RootSim.Barrier

/-- `UINT_MAX + 1` -/
@[reducible] def W : Nat := 4294967296

/-- one participating thread -/
structure Th where
  /-- number of completed calls; `phase = uses % 4` -/
  uses  : Nat
  /-- `false`: outside the barrier (next access is the `fetch_add` of use `uses`);
      `true`: inside the spin loop of use `uses` -/
  spin  : Bool
  /-- the local variable `l` of the call in progress -/
  l     : Bool
  /-- ghost: leader flags obtained in uses `0, 1, …` (one entry per executed `fetch_add`) -/
  flags : List Bool
deriving Repr, DecidableEq

structure St where
  /-- `global_config.n_threads` as read by the spin loop -/
  n   : Nat
  ths : List Th
  /-- `cs[0]`, `cs[1]` -/
  c0  : Nat
  c1  : Nat
deriving Repr, DecidableEq

/-- `!(phase & 2)`: use `k` counts upwards -/
def up (k : Nat) : Bool := k % 4 < 2

/-- `cs[phase & 1]` -/
def ctr (s : St) (k : Nat) : Nat := if k % 2 = 0 then s.c0 else s.c1

def setCtr (s : St) (k : Nat) (v : Nat) : St :=
  if k % 2 = 0 then { s with c0 := v } else { s with c1 := v }

/-- `atomic_fetch_add` on an `atomic_uint`: new value (wraps modulo `2^32`) -/
def fetchAdd (c d : Nat) : Nat := (c + d) % W

/-- value stored by the `fetch_add` of use `k` when the counter held `old` -/
def newCtr (k old : Nat) : Nat := if up k then fetchAdd old 1 else fetchAdd old (W - 1)

/-- `l` computed from the value returned by the `fetch_add` of use `k` -/
def leadOf (k old : Nat) : Bool := if up k then old == 0 else old == 1

/-- thread `i` performs the `atomic_fetch_add` of its current use -/
def enter (s : St) (i : Nat) : Option St :=
  match s.ths[i]? with
  | some t =>
    if t.spin then none else
      let old := ctr s t.uses
      let l := leadOf t.uses old
      some { (setCtr s t.uses (newCtr t.uses old)) with
             ths := s.ths.set i { t with spin := true, l := l, flags := t.flags ++ [l] } }
  | none => none

/-- the loop guard evaluated on the value `r` just loaded: leave the loop? -/
def exitOk (s : St) (t : Th) : Bool :=
  if up t.uses then ctr s t.uses == s.n else ctr s t.uses == 0

/-- thread `i` loads the counter, sees the exit condition, does `phase++` and returns `l` -/
def exit (s : St) (i : Nat) : Option St :=
  match s.ths[i]? with
  | some t =>
    if t.spin && exitOk s t then
      some { s with ths := s.ths.set i { t with uses := t.uses + 1, spin := false } }
    else none
  | none => none

/-- One scheduled step of thread `i` (what happens between two yield points of the real code):
the `fetch_add` if the thread is outside, otherwise one iteration of the spin loop
(leaving when the guard allows, a stutter step otherwise). `none`: no such thread. -/
def step (s : St) (i : Nat) : Option St :=
  match s.ths[i]? with
  | some t =>
    if t.spin then (if exitOk s t then exit s i else some s) else enter s i
  | none => none

/-- all threads outside, no use yet, both counters zero (static initialisation) -/
def init (N : Nat) : St :=
  { n := N, ths := List.replicate N { uses := 0, spin := false, l := false, flags := [] }, c0 := 0, c1 := 0 }

/-- has the thread executed the `fetch_add` of use `m`? -/
def entered (m : Nat) (t : Th) : Bool := (t.uses == m && t.spin) || t.uses > m

/-- number of threads that have entered use `m` -/
def cnt (s : St) (m : Nat) : Nat := s.ths.countP (entered m)

/-- has the thread returned from use `m`? -/
def passed (m : Nat) (t : Th) : Bool := t.uses > m

/-- ghost: was the thread told "leader" in use `k`? -/
def ledIn (k : Nat) (t : Th) : Bool := t.flags[k]? == some true

/-- number of threads that were handed `true` in use `k` (so far) -/
def leadCnt (s : St) (k : Nat) : Nat := s.ths.countP (ledIn k)

end RootSim.Barrier
