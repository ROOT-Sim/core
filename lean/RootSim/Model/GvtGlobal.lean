/-!
# Abstract node-granularity model of ONE round of the asynchronous GVT algorithm
(`src/gvt/gvt.c` `gvt_phase_run` / `gvt_node_phase_run`, `src/gvt/gvt.h` colour stamping; property C04,
composition of the thread level, the node-level counting and the final `MPI_Iallreduce(MIN)`)

`K = nodes.length` nodes (any `K`), arbitrary interleaving of atomic steps, any number of messages.
A node is what the two lower layers leave of it:

* `pend`  : time stamps of everything queued or buffered at the node (all thread queues, MPI receive side);
* `cur`   : time stamp of the event being processed (`process_msg` in progress), if any;
* `acc`   : `gvt_accumulator` (`none` = `SIMTIME_MAX`). It is lowered by EVERY extraction
            (`gvt_on_msg_extraction`, unconditionally, as in C), reset to `SIMTIME_MAX` ONLY by
            `gvt_start_processing` (step `join`) and — this is essential, see `needs_accumulator_across_flip` in
            `Props/C04Global.lean` — NOT at the colour flip, so that it covers both thread-level reductions;
* `colour`: `gvt_phase`;
* `stage` : `idle` (before `gvt_start_processing`), `joined` (`node_phase_redux_first` running),
            `flipped` (`gvt_phase ^= 1` done; `node_sent_reduce … node_sent_wait`: counting),
            `passed` (`node_phase_redux_second` running), `reported m` (`mpi_reduce_min(reducing_p)` called with `m`).

In flight: `flight : List Msg`, a message carries the colour stamped by `gvt_remote_msg_send` /
`gvt_remote_anti_msg_send`, its destination node and its time stamp. There are NO ghost fields.

Time stamps are `Nat` keys; a *value* of the reduction is `Option Nat` with `none = SIMTIME_MAX` (an empty node
reports `SIMTIME_MAX`), see `omin`, `lmin`.

## Facts imported from the two lower layers as step guards / step values

1. `join` requires `cur = none`: `gvt_start_processing` is called from `gvt_phase_run`, never from inside
   `process_msg` (the coupling `start needs cur = none` of `Model/Gvt.lean`; `Props/C04.lean` shows it is essential
   at the thread level, `C04.Global.needs_join_between_events` shows it at this level).
2. `pass k` (leaving `node_sent_wait`) has the guard established by `C04.Node.old_colour_drained`
   (`Props/C04Node.lean`): every node has flipped its colour, and no message of the old colour addressed to `k`
   is in flight (received-but-unpolled messages of that theorem are already in `pend k` here).
3. `report k` yields `m = min(acc, min pend, cur)` evaluated atomically: this is what `C04.read_value`,
   `C04.cut_safe`, `C04.reported_safe` (`Props/C04.lean`) prove about the value of the second thread-level
   reduction (`reducing_p[rid] = min(gvt_accumulator, msg_queue_time_peek())` reduced over the threads is a
   lower bound of everything queued / being processed on the node and of everything extracted since the
   accumulators were reset, from the moment all threads left phase A). The node level is collapsed to that instant.
4. `emitLocal` / `emitRemote` require `cur = some c` and `c ≤ x`: everything a node creates while processing the
   event `c` — forward sends, events re-queued by a rollback, anti-messages — has a time stamp `≥ c`
   (C01/C05 side: a straggler `c` undoes only events `≥ c`, whose outputs are `≥` them).
5. `gvt s` is the `MPI_Iallreduce(MIN)` over the reported values (`mpi_reduce_min`), assumed exact.

Not modelled: thread granularity inside a node (lower layers), 32-bit counters (C04Node), memory orders.
-/
namespace RootSim.GvtGlobal

/-! ## values with `none = SIMTIME_MAX` -/

/-- C `min` on values, `none = SIMTIME_MAX` is the neutral element -/
def omin : Option Nat → Option Nat → Option Nat
  | none, b => b
  | some a, none => some a
  | some a, some b => some (min a b)

/-- `msg_queue_time_peek` over everything queued at the node: lowest time stamp, `SIMTIME_MAX` if empty -/
def lmin : List Nat → Option Nat
  | [] => none
  | x :: l => omin (some x) (lmin l)

/-- stage of a node inside the round; `reported m`: the node handed `m` to the min all-reduce -/
inductive Stage where
  | idle | joined | flipped | passed
  | reported (m : Option Nat)
deriving DecidableEq, Repr

/-- the colour has been flipped (`node_phase > node_phase_redux_first`) -/
def Stage.hasFlipped : Stage → Bool
  | .idle | .joined => false
  | _ => true

/-- the node left `node_sent_wait` -/
def Stage.hasPassed : Stage → Bool
  | .passed | .reported _ => true
  | _ => false

def Stage.isReported : Stage → Bool
  | .reported _ => true
  | _ => false

/-- the value handed to the all-reduce (`SIMTIME_MAX` placeholder before) -/
def Stage.value : Stage → Option Nat
  | .reported m => m
  | _ => none

structure Node where
  /-- time stamps of everything queued or buffered at the node -/
  pend   : List Nat := []
  /-- event being processed -/
  cur    : Option Nat := none
  /-- `gvt_accumulator`, `none = SIMTIME_MAX` -/
  acc    : Option Nat := none
  /-- `gvt_phase` -/
  colour : Bool := false
  stage  : Stage := .idle
deriving DecidableEq, Repr

/-- a remote message in flight: colour stamped at the sender, destination node, time stamp -/
structure Msg where
  colour : Bool
  dest   : Nat
  ts     : Nat
deriving DecidableEq, Repr

structure St where
  nodes  : List Node
  flight : List Msg := []
deriving DecidableEq, Repr

/-- replace node `k` and the in-flight list -/
def upd (s : St) (k : Nat) (nd : Node) (fl : List Msg) : St := ⟨s.nodes.set k nd, fl⟩

/-- what the node would report now: `min(gvt_accumulator, msg_queue_time_peek(), current event)`;
after the report, the reported value -/
def floor (nd : Node) : Option Nat :=
  match nd.stage with
  | .reported m => m
  | _ => omin nd.acc (omin (lmin nd.pend) nd.cur)

/-! ## steps -/

/-- `msg_queue_extract` + `gvt_on_msg_extraction(e)`: start processing a queued event -/
def beginProcess (s : St) (k e : Nat) : Option St :=
  match s.nodes[k]? with
  | none => none
  | some nd =>
    if e ∈ nd.pend ∧ nd.cur = none then
      some (upd s k { nd with pend := nd.pend.erase e, cur := some e, acc := omin nd.acc (some e) } s.flight)
    else none

/-- while processing `c`: a message / re-queued event with time stamp `x ≥ c` for an LP of the same node -/
def emitLocal (s : St) (k x : Nat) : Option St :=
  match s.nodes[k]? with
  | none => none
  | some nd =>
    match nd.cur with
    | none => none
    | some c => if c ≤ x then some (upd s k { nd with pend := x :: nd.pend } s.flight) else none

/-- while processing `c`: a message / anti-message with time stamp `x ≥ c` for node `d`, stamped with the
sender's current colour (`gvt_remote_msg_send`, `gvt_remote_anti_msg_send`) -/
def emitRemote (s : St) (k d x : Nat) : Option St :=
  match s.nodes[k]? with
  | none => none
  | some nd =>
    match nd.cur with
    | none => none
    | some c =>
      if c ≤ x ∧ d < s.nodes.length then some (upd s k nd (s.flight ++ [⟨nd.colour, d, x⟩])) else none

/-- `process_msg` returns -/
def endProcess (s : St) (k : Nat) : Option St :=
  match s.nodes[k]? with
  | none => none
  | some nd =>
    match nd.cur with
    | none => none
    | some _ => some (upd s k { nd with cur := none } s.flight)

/-- in-flight message `i` arrives at its destination (`mpi_remote_msg_handle` → `msg_queue_insert`) -/
def deliver (s : St) (i : Nat) : Option St :=
  match s.flight[i]? with
  | none => none
  | some m =>
    match s.nodes[m.dest]? with
    | none => none
    | some nd => some (upd s m.dest { nd with pend := m.ts :: nd.pend } (s.flight.eraseIdx i))

/-- `gvt_start_processing`: `gvt_accumulator = SIMTIME_MAX`, first reduction starts; only between two events -/
def join (s : St) (k : Nat) : Option St :=
  match s.nodes[k]? with
  | none => none
  | some nd =>
    if nd.stage = .idle ∧ nd.cur = none then some (upd s k { nd with stage := .joined, acc := none } s.flight)
    else none

/-- end of the first reduction: `gvt_phase ^= !node_phase; ++node_phase` (the accumulator is NOT touched) -/
def flip (s : St) (k : Nat) : Option St :=
  match s.nodes[k]? with
  | none => none
  | some nd =>
    if nd.stage = .joined then some (upd s k { nd with stage := .flipped, colour := !nd.colour } s.flight)
    else none

/-- the guard of `pass k` (from `C04.Node.old_colour_drained`): every node has flipped and no message of the
old colour (`!colour k`, as `k` has flipped) addressed to `k` is in flight -/
def passGuard (s : St) (k : Nat) (nd : Node) : Prop :=
  (∀ n ∈ s.nodes, n.stage.hasFlipped = true) ∧ ∀ m ∈ s.flight, m.dest = k → m.colour = nd.colour

instance (s : St) (k : Nat) (nd : Node) : Decidable (passGuard s k nd) := by
  unfold passGuard; exact inferInstance

/-- leaving `node_sent_wait` (`total_msg_received` read as 0): second reduction starts -/
def pass (s : St) (k : Nat) : Option St :=
  match s.nodes[k]? with
  | none => none
  | some nd =>
    if nd.stage = .flipped ∧ passGuard s k nd then some (upd s k { nd with stage := .passed } s.flight)
    else none

/-- end of the second reduction: `mpi_reduce_min` is called with `min(acc, min pend, cur)` -/
def report (s : St) (k : Nat) : Option St :=
  match s.nodes[k]? with
  | none => none
  | some nd =>
    if nd.stage = .passed then some (upd s k { nd with stage := .reported (floor nd) } s.flight)
    else none

inductive Action where
  | beginProcess (k e : Nat)
  | emitLocal (k x : Nat)
  | emitRemote (k d x : Nat)
  | endProcess (k : Nat)
  | deliver (i : Nat)
  | join (k : Nat)
  | flip (k : Nat)
  | pass (k : Nat)
  | report (k : Nat)
deriving DecidableEq, Repr

/-- process / emit / deliver: the steps of the simulation proper (no GVT stage changes) -/
def Action.isWork : Action → Bool
  | .join _ | .flip _ | .pass _ | .report _ => false
  | _ => true

/-- one atomic step of the system -/
def step (s : St) : Action → Option St
  | .beginProcess k e => beginProcess s k e
  | .emitLocal k x => emitLocal s k x
  | .emitRemote k d x => emitRemote s k d x
  | .endProcess k => endProcess s k
  | .deliver i => deliver s i
  | .join k => join s k
  | .flip k => flip s k
  | .pass k => pass s k
  | .report k => report s k

/-- run a schedule; `none` as soon as one action is not enabled -/
def run (s : St) : List Action → Option St
  | [] => some s
  | a :: as => match step s a with
    | none => none
    | some s' => run s' as

/-- the step relation (same transitions as `step`, see `Proofs/GvtGlobal.lean` `step_iff`) -/
inductive Step (s : St) : St → Prop where
  | beginProcess (k e : Nat) (nd : Node) (hk : s.nodes[k]? = some nd) (he : e ∈ nd.pend) (hc : nd.cur = none) :
      Step s (upd s k { nd with pend := nd.pend.erase e, cur := some e, acc := omin nd.acc (some e) } s.flight)
  | emitLocal (k x c : Nat) (nd : Node) (hk : s.nodes[k]? = some nd) (hc : nd.cur = some c) (hx : c ≤ x) :
      Step s (upd s k { nd with pend := x :: nd.pend } s.flight)
  | emitRemote (k d x c : Nat) (nd : Node) (hk : s.nodes[k]? = some nd) (hc : nd.cur = some c) (hx : c ≤ x)
      (hd : d < s.nodes.length) :
      Step s (upd s k nd (s.flight ++ [⟨nd.colour, d, x⟩]))
  | endProcess (k c : Nat) (nd : Node) (hk : s.nodes[k]? = some nd) (hc : nd.cur = some c) :
      Step s (upd s k { nd with cur := none } s.flight)
  | deliver (i : Nat) (m : Msg) (nd : Node) (hi : s.flight[i]? = some m) (hk : s.nodes[m.dest]? = some nd) :
      Step s (upd s m.dest { nd with pend := m.ts :: nd.pend } (s.flight.eraseIdx i))
  | join (k : Nat) (nd : Node) (hk : s.nodes[k]? = some nd) (hs : nd.stage = .idle) (hc : nd.cur = none) :
      Step s (upd s k { nd with stage := .joined, acc := none } s.flight)
  | flip (k : Nat) (nd : Node) (hk : s.nodes[k]? = some nd) (hs : nd.stage = .joined) :
      Step s (upd s k { nd with stage := .flipped, colour := !nd.colour } s.flight)
  | pass (k : Nat) (nd : Node) (hk : s.nodes[k]? = some nd) (hs : nd.stage = .flipped) (hg : passGuard s k nd) :
      Step s (upd s k { nd with stage := .passed } s.flight)
  | report (k : Nat) (nd : Node) (hk : s.nodes[k]? = some nd) (hs : nd.stage = .passed) :
      Step s (upd s k { nd with stage := .reported (floor nd) } s.flight)

/-- reachability by `Step` -/
inductive Reach (s0 : St) : St → Prop where
  | refl : Reach s0 s0
  | step {s s' : St} : Reach s0 s → Step s s' → Reach s0 s'

/-! ## the round -/

/-- start of a round whose old colour is `old`: every node idle with colour `old`; every message in flight has
colour `old` (what the previous round leaves, see `round_end_is_round_start`) and a valid destination.
Nothing is assumed about `pend`, `cur` (events may be in progress) and `acc` (stale). -/
def RoundStart (old : Bool) (s : St) : Prop :=
  (∀ nd ∈ s.nodes, nd.stage = .idle ∧ nd.colour = old) ∧
  ∀ m ∈ s.flight, m.colour = old ∧ m.dest < s.nodes.length

instance (old : Bool) (s : St) : Decidable (RoundStart old s) := by
  unfold RoundStart; exact inferInstance

/-- every node has handed its value to the all-reduce -/
def AllReported (s : St) : Prop := ∀ nd ∈ s.nodes, nd.stage.isReported = true

instance (s : St) : Decidable (AllReported s) := by
  unfold AllReported; exact inferInstance

/-- `min` over a list of values -/
def ominL : List (Option Nat) → Option Nat
  | [] => none
  | a :: l => omin a (ominL l)

/-- result of `MPI_Iallreduce(MIN)` over the reported values; the GVT of the round once `AllReported` -/
def gvt (s : St) : Option Nat := ominL (s.nodes.map (·.stage.value))

/-- the hint's `G`: min over the nodes of what they reported / would report now -/
def G (s : St) : Option Nat := ominL (s.nodes.map floor)

/-- `v ≤ x` for a value `v` (`SIMTIME_MAX` is above every time stamp) -/
def OLe (v : Option Nat) (x : Nat) : Prop := ∃ y, v = some y ∧ y ≤ x

/-- `g ≤ v` for a value `v` (everything is below `SIMTIME_MAX`) -/
def Le (g : Nat) (v : Option Nat) : Prop := ∀ y, v = some y → g ≤ y

instance (v : Option Nat) (x : Nat) : Decidable (OLe v x) :=
  match v with
  | none => isFalse (by rintro ⟨y, h, _⟩; cases h)
  | some y => if h : y ≤ x then isTrue ⟨y, rfl, h⟩ else isFalse (by rintro ⟨z, hz, hle⟩; cases hz; exact h hle)

/-- the value `v` is a lower bound of every time stamp present in `s`: every `pend`, every `cur`, and EVERY
message in flight -/
def LowerBound (v : Option Nat) (s : St) : Prop :=
  (∀ nd ∈ s.nodes, (∀ x ∈ nd.pend, OLe v x) ∧ ∀ c, nd.cur = some c → OLe v c) ∧
  ∀ m ∈ s.flight, OLe v m.ts

instance (v : Option Nat) (s : St) : Decidable (LowerBound v s) := by
  unfold LowerBound
  have : ∀ nd : Node, Decidable (∀ c, nd.cur = some c → OLe v c) := fun nd =>
    match h : nd.cur with
    | none => isTrue (by intro c hc; cases hc)
    | some c => if hc : OLe v c then isTrue (by intro c' h'; cases h'; exact hc)
                else isFalse (fun hh => hc (hh c rfl))
  exact inferInstance

/-- the state the next round starts from: same queues / messages / colours, all stages `idle` -/
def nextRound (s : St) : St := { s with nodes := s.nodes.map fun nd => { nd with stage := .idle } }

/-! ## the three mutants used by the counter-examples -/

/-- `pass` WITHOUT the counting guard (a node starts its second reduction as soon as it has flipped) -/
def passUnguarded (s : St) (k : Nat) : Option St :=
  match s.nodes[k]? with
  | none => none
  | some nd => if nd.stage = .flipped then some (upd s k { nd with stage := .passed } s.flight) else none

/-- `flip` that ALSO resets the accumulator (as if each reduction started with `gvt_start_processing`) -/
def flipReset (s : St) (k : Nat) : Option St :=
  match s.nodes[k]? with
  | none => none
  | some nd =>
    if nd.stage = .joined then
      some (upd s k { nd with stage := .flipped, colour := !nd.colour, acc := none } s.flight)
    else none

/-- `join` WITHOUT the guard `cur = none` (round joined in the middle of an event) -/
def joinBusy (s : St) (k : Nat) : Option St :=
  match s.nodes[k]? with
  | none => none
  | some nd => if nd.stage = .idle then some (upd s k { nd with stage := .joined, acc := none } s.flight) else none

inductive Variant where
  | real | noCounting | resetAtFlip | joinBusy
deriving DecidableEq, Repr

def stepV (v : Variant) (s : St) (a : Action) : Option St :=
  match v, a with
  | .noCounting, .pass k => passUnguarded s k
  | .resetAtFlip, .flip k => flipReset s k
  | .joinBusy, .join k => joinBusy s k
  | _, a => step s a

def runV (v : Variant) (s : St) : List Action → Option St
  | [] => some s
  | a :: as => match stepV v s a with
    | none => none
    | some s' => runV v s' as

end RootSim.GvtGlobal
