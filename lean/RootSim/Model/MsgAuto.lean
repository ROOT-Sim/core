/-!
# The per-message automaton of local cancellation (C06)

One LOCAL message (sender LP and receiver LP on the same rank, possibly on different threads) is
touched by the following code (`src/lp/process.c` unless noted), each line being ONE atomic action on
the message (sequentially consistent interleaving; `memory_order_relaxed` is not modelled):

| action        | code                                                                                   |
|---------------|----------------------------------------------------------------------------------------|
| `alloc`       | `msg_allocator_pack` in `ScheduleNewEvent`                                             |
| `sendLocal`   | `atomic_store(&msg->flags, 0); msg_queue_insert(msg); array_push(p_msgs, mark_sent)`  |
| `pop`         | `msg_queue_extract()` returns the message (receiver thread)                            |
| `flagProcess` | `flags = atomic_fetch_add(&msg->flags, MSG_FLAG_PROCESSED)` in `process_msg` + branch  |
| `forward`     | `common_msg_process; array_push(p_msgs, msg)` (the event is dispatched forward)        |
| `antiLocal`   | sender rollback, `send_anti_messages`: `f = fetch_add(&msg->flags, MSG_FLAG_ANTI)`     |
| `antiInsert`  | … `if(f & MSG_FLAG_PROCESSED) msg_queue_insert(msg)` (the re-inserted "anti copy")     |
| `unprocess`   | receiver rollback, `send_anti_messages`: `f = fetch_add(&msg->flags, -PROCESSED)`      |
| `requeue`     | … `if(!(f & MSG_FLAG_ANTI)) msg_queue_insert(msg)`                                     |
| `antiFree`    | `handle_anti_msg`: `msg_allocator_free(msg)`                                           |
| `commit`      | ENVIRONMENT: GVT passes `dest_t` (C04): from now on neither side rolls back across it  |
| `fossilFree`  | `fossil_lp_collect` (`gvt/fossil.c`): `msg_allocator_free` of a past received entry    |
| `senderDrop`  | the sender's history entry disappears (sender fossil / `process_lp_fini`: skipped)     |
| `shutdown`    | ENVIRONMENT: all threads passed the last barrier: no processing/rollback any more      |
| `finiEntry`   | `process_lp_fini`: `if(!(flags & MSG_FLAG_ANTI)) msg_allocator_free(msg)`              |
| `queueFini`   | `msg_queue_fini` (`datatypes/msg_queue.c`): frees a message still queued (after `lp_fini`) |

WHEN the sender cancels and WHEN the receiver rolls back / fossil collects / shuts down is completely
nondeterministic (every action whose guard holds may fire), which over-approximates every cascade of
rollbacks. Guards only express *sequential* facts (a thread executes one thing at a time: the receiver
cannot pop a copy while it is between `flagProcess` and `forward` of this message) and the two
environment hypotheses named above (`commit`, `shutdown`).

The flag word is modelled with its real arithmetic (`uint32_t`, wrap-around), NOT as two booleans.
-/
namespace RootSim.MsgAuto

@[reducible] def W32 : Nat := 4294967296
@[reducible] def ANTI : Nat := 1
@[reducible] def PROCESSED : Nat := 2

/-- allocation state of the buffer -/
inductive Life | fresh | packed | live | freed | dfreed
deriving DecidableEq, Repr

/-- what the receiver thread is doing with this message right now -/
inductive RPc
  | idle      -- nothing
  | hand      -- popped from the queue, `fetch_add(PROCESSED)` not yet executed
  | proc      -- `fetch_add` returned clean flags: straggler handling + forward processing in progress
  | antiRb    -- `fetch_add` returned ANTI|PROCESSED: rolling back to before the message (`match_anti_msg`)
  | antiFree  -- about to `msg_allocator_free` in `handle_anti_msg`
deriving DecidableEq, Repr

/-- who released the buffer -/
inductive FreedBy | none | anti | fossil | fini | qfini
deriving DecidableEq, Repr

structure LState where
  life      : Life := .fresh
  /-- value of the `flags` word -/
  flags     : Nat := 0
  /-- copies in the receiver's buffer + heap -/
  qc        : Nat := 0
  /-- the sender's `p_msgs` holds a (tagged) pointer that a sender rollback would still use -/
  sref      : Bool := false
  /-- sender is between its `fetch_add(ANTI)` (PROCESSED seen) and the `msg_queue_insert` -/
  spend     : Bool := false
  rpc       : RPc := .idle
  /-- receiver is between its `fetch_add(-PROCESSED)` (ANTI clear) and the `msg_queue_insert` -/
  rpend     : Bool := false
  /-- the receiver's `p_msgs` holds the message (it is "processed") -/
  inHist    : Bool := false
  committed : Bool := false
  down      : Bool := false
  /-- the C code would have executed undefined/unintended behaviour on this message: use after free,
  `match_anti_msg` running off the array, the remote-anti path taken for a local message, a message
  processed while already marked processed -/
  err       : Bool := false
  -- ghost history
  /-- the sender has executed its `fetch_add(ANTI)` -/
  cancelled : Bool := false
  /-- … and saw PROCESSED set -/
  cproc     : Bool := false
  /-- the receiver has seen ANTI in a `fetch_add` result -/
  obs       : Bool := false
  /-- a forward dispatch happened after the receiver had seen ANTI -/
  fwdAfterObs : Bool := false
  /-- forward dispatches after the cancel (saturating at 2) -/
  fwdAfterAnti : Nat := 0
  /-- `unprocess` actions after the cancel (saturating at 2) -/
  unpAfter  : Nat := 0
  freedBy   : FreedBy := .none
deriving BEq, ReflBEq, LawfulBEq, Repr

inductive LAct
  | alloc | sendLocal | pop | flagProcess | forward | antiLocal | antiInsert | unprocess | requeue
  | antiFree | commit | fossilFree | senderDrop | shutdown | finiEntry | queueFini
deriving DecidableEq, Repr

def LAct.all : List LAct :=
  [.alloc, .sendLocal, .pop, .flagProcess, .forward, .antiLocal, .antiInsert, .unprocess, .requeue,
   .antiFree, .commit, .fossilFree, .senderDrop, .shutdown, .finiEntry, .queueFini]

/-- environment actions (the rest is executed by the runtime as soon as the owning thread proceeds) -/
def LAct.isEnv : LAct → Bool
  | .antiLocal | .unprocess | .commit | .senderDrop | .shutdown | .alloc | .sendLocal => true
  | _ => false

def sat2 (n : Nat) : Nat := if n < 2 then n + 1 else 2

/-- `msg_allocator_free(msg)` -/
def release (s : LState) (by_ : FreedBy) : LState :=
  if s.life = .live then { s with life := .freed, freedBy := by_ } else { s with life := .dfreed }

/-- any access to the message's memory: undefined behaviour unless the buffer is live -/
def touch (s : LState) : LState := if s.life = .live then s else { s with err := true }

/-- `atomic_fetch_add` on the `uint32_t` flag word -/
def addFlags (f d : Nat) : Nat := (f + d) % W32

/-- The transition function; `none` = the action is not enabled in `s`. -/
def lstep (s : LState) : LAct → Option LState
  | .alloc => if s.life = .fresh then some { s with life := .packed } else none
  | .sendLocal =>
    if s.life = .packed then some { s with life := .live, flags := 0, qc := s.qc + 1, sref := true } else none
  | .pop =>
    if 0 < s.qc ∧ s.rpc = .idle ∧ ¬ s.down then some { (touch s) with qc := s.qc - 1, rpc := .hand } else none
  | .flagProcess =>
    if s.rpc = .hand then
      let prev := s.flags
      let s1 := { (touch s) with flags := addFlags s.flags PROCESSED }
      if prev % 2 = 1 then
        -- `handle_anti_msg(lp, msg, prev)`
        let s2 := { s1 with obs := true }
        if prev = ANTI + PROCESSED then
          -- `match_anti_msg` searches `p_msgs` for the message: it must be there
          some (if s.inHist then { s2 with rpc := .antiRb } else { s2 with rpc := .antiFree, err := true })
        else if prev = ANTI then some { s2 with rpc := .antiFree }
        else some { s2 with rpc := .antiFree, err := true }   -- `prev > 3`: `handle_remote_anti_msg`
      else
        -- normal processing; a local message must arrive with clean flags
        some { s1 with rpc := .proc, err := s1.err || (prev != 0) }
    else none
  | .forward =>
    if s.rpc = .proc then
      some { (touch s) with rpc := .idle, inHist := true, err := (touch s).err || s.inHist,
                            fwdAfterObs := s.fwdAfterObs || s.obs,
                            fwdAfterAnti := if s.cancelled then sat2 s.fwdAfterAnti else s.fwdAfterAnti }
    else none
  | .antiLocal =>
    if s.sref ∧ ¬ s.committed ∧ ¬ s.down then
      let prev := s.flags
      some { (touch s) with flags := addFlags s.flags ANTI, sref := false, cancelled := true,
                            cproc := prev / 2 % 2 = 1, spend := prev / 2 % 2 = 1,
                            err := (touch s).err || s.cancelled }
    else none
  | .antiInsert => if s.spend then some { (touch s) with spend := false, qc := s.qc + 1 } else none
  | .unprocess =>
    if s.inHist ∧ ¬ s.committed ∧ ¬ s.down ∧ (s.rpc = .idle ∨ s.rpc = .antiRb) then
      let prev := s.flags
      some { (touch s) with flags := addFlags s.flags (W32 - PROCESSED), inHist := false,
                            rpend := prev % 2 = 0,
                            rpc := if s.rpc = .antiRb then .antiFree else s.rpc,
                            unpAfter := if s.cancelled then sat2 s.unpAfter else s.unpAfter }
    else none
  | .requeue => if s.rpend then some { (touch s) with rpend := false, qc := s.qc + 1 } else none
  | .antiFree => if s.rpc = .antiFree then some { (release s .anti) with rpc := .idle } else none
  | .commit =>
    if s.life = .live ∧ s.qc = 0 ∧ s.rpc = .idle ∧ ¬ s.spend ∧ ¬ s.rpend ∧ ¬ s.committed ∧ ¬ s.down then
      some { s with committed := true }
    else none
  | .fossilFree =>
    if s.inHist ∧ s.committed ∧ s.rpc = .idle ∧ ¬ s.down then some { (release s .fossil) with inHist := false }
    else none
  | .senderDrop => if s.sref then some { s with sref := false } else none
  | .shutdown =>
    if (s.life = .live ∨ s.life = .freed) ∧ s.rpc = .idle ∧ ¬ s.spend ∧ ¬ s.rpend ∧ ¬ s.down then
      some { s with down := true }
    else none
  | .finiEntry =>
    if s.down ∧ s.inHist then
      let s1 := { (touch s) with inHist := false }
      some (if s.flags % 2 = 0 then release s1 .fini else s1)
    else none
  | .queueFini =>
    -- `worker_thread_fini`: `lp_fini()` (all `process_lp_fini` of the thread) runs BEFORE `msg_queue_fini()`
    -- on the same (receiver) thread, so the history entry is gone when the queue is finalised
    if s.down ∧ 0 < s.qc ∧ ¬ s.inHist then some { (release s .qfini) with qc := s.qc - 1 } else none

/-- run a sequence of actions; `none` as soon as one is not enabled -/
def lrun (s : LState) : List LAct → Option LState
  | [] => some s
  | a :: as => match lstep s a with
    | some s' => lrun s' as
    | none => none

def LState.init : LState := {}

/-- successors of a state -/
def succs (s : LState) : List LState := LAct.all.filterMap (lstep s)

/-- breadth-first closure with fuel, de-duplicating by an integer `code` of the states (fast in the
kernel; states are rebuilt from their code by `decode` so that the kernel works on fully evaluated
records). Used only to *produce* the candidate invariant: the theorems check that the produced set is
closed under the step function, they do not trust this function nor the injectivity of `code`. -/
def bfsBy {σ : Type} (code : σ → Nat) (decode : Nat → σ) (succs : σ → List σ) :
    Nat → List Nat → List Nat → List Nat
  | 0, codes, _ => codes
  | fuel+1, codes, frontier =>
    let r := (frontier.flatMap (fun c => (succs (decode c)).map code)).foldl
      (fun (acc : List Nat × List Nat) c => if acc.1.contains c then acc else (c :: acc.1, c :: acc.2))
      (codes, [])
    if r.2.isEmpty then codes else bfsBy code decode succs fuel r.1 r.2

/-- `cs.map decode` is closed under `succs`: every successor is `decode c'` for the `c' ∈ cs` equal to its code
(the codes are compared first because comparing two numbers is cheap for the kernel, with `Nat.beq` one
step, and comparing two records is not) -/
def closedBy {σ : Type} [BEq σ] (code : σ → Nat) (decode : Nat → σ) (succs : σ → List σ) (cs : List Nat) : Bool :=
  cs.all fun c => (succs (decode c)).all fun s' => cs.any fun c' => Nat.beq c' (code s') && decode c' == s'

theorem closedBy_spec {σ : Type} [BEq σ] [LawfulBEq σ] {code : σ → Nat} {decode : Nat → σ} {succs : σ → List σ}
    {cs : List Nat} (h : closedBy code decode succs cs = true) {s s' : σ} (hs : s ∈ cs.map decode)
    (hs' : s' ∈ succs s) : s' ∈ cs.map decode := by
  obtain ⟨c, hc, rfl⟩ := List.mem_map.mp hs
  simp only [closedBy, List.all_eq_true, List.any_eq_true, Bool.and_eq_true, beq_iff_eq] at h
  obtain ⟨c', hc', -, h2⟩ := h c hc s' hs'
  exact List.mem_map.mpr ⟨c', hc', h2⟩

def b2n (b : Bool) : Nat := if b then 1 else 0
def Life.code : Life → Nat | .fresh => 0 | .packed => 1 | .live => 2 | .freed => 3 | .dfreed => 4
def RPc.code : RPc → Nat | .idle => 0 | .hand => 1 | .proc => 2 | .antiRb => 3 | .antiFree => 4
def FreedBy.code : FreedBy → Nat | .none => 0 | .anti => 1 | .fossil => 2 | .fini => 3 | .qfini => 4
/-- mixed-radix packing of a list of small numbers (base 8) -/
def pack (l : List Nat) : Nat := l.foldl (fun acc x => acc * 8 + x) 0

def Life.ofCode : Nat → Life | 0 => .fresh | 1 => .packed | 2 => .live | 3 => .freed | _ => .dfreed
def RPc.ofCode : Nat → RPc | 0 => .idle | 1 => .hand | 2 => .proc | 3 => .antiRb | _ => .antiFree
def FreedBy.ofCode : Nat → FreedBy | 0 => .none | 1 => .anti | 2 => .fossil | 3 => .fini | _ => .qfini
/-- digit `i` (from the right) of a packed number -/
def dig (n i : Nat) : Nat := n / 8 ^ i % 8

def LState.code (s : LState) : Nat :=
  pack [s.life.code, s.flags, s.qc, b2n s.sref, b2n s.spend, s.rpc.code, b2n s.rpend, b2n s.inHist,
        b2n s.committed, b2n s.down, b2n s.err, b2n s.cancelled, b2n s.cproc, b2n s.obs, b2n s.fwdAfterObs,
        s.fwdAfterAnti, s.unpAfter, s.freedBy.code]

def LState.decode (n : Nat) : LState :=
  { life := .ofCode (dig n 17), flags := dig n 16, qc := dig n 15, sref := dig n 14 == 1, spend := dig n 13 == 1,
    rpc := .ofCode (dig n 12), rpend := dig n 11 == 1, inHist := dig n 10 == 1, committed := dig n 9 == 1,
    down := dig n 8 == 1, err := dig n 7 == 1, cancelled := dig n 6 == 1, cproc := dig n 5 == 1,
    obs := dig n 4 == 1, fwdAfterObs := dig n 3 == 1, fwdAfterAnti := dig n 2, unpAfter := dig n 1,
    freedBy := .ofCode (dig n 0) }

end RootSim.MsgAuto
