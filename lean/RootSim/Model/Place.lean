/-
Model of LP placement and routing of ROOT-Sim/core:

* `src/lp/lp.h`  : the macros `lid_to_nid`, `lid_to_rid`
* `src/lp/lp.c`  : the macro `partition_start`, `lp_global_init` (node range + thread clamp),
                   the range computation of `lp_init`
* users          : `msg_queue_insert` (routes with `lid_to_rid`), `ScheduleNewEvent` (`lid_to_nid`),
                   `parallel_simulation` (starts `global_config.n_threads` workers *after* the clamp)

Two models are given.

1. The **Nat model** (`lidToNid`, `lidToRid`, `partStart`, `nodeFirst`, `threadFirst`, …): unbounded
   arithmetic, the two `while` loops of `partition_start` as structural / well-founded recursion with
   NO fuel.  The up-loop `while(part_fnc(_g) < part_id) ++_g;` does not terminate for an arbitrary
   `part_fnc`; the definition therefore takes the *proof* that the loop condition becomes false
   somewhere above every index (`CanExit`) — that is the exact termination condition of the C loop over
   unbounded integers.  Division by `part_cnt`, `global_config.lps`, `n_lps_node` is guarded by
   positivity proofs; the `…?` wrappers perform the checks at run time and return the explicit error
   `Err.divByZero` (no `x / 0 = 0` totalisation reaches a theorem).

2. The **fixed-width model** (`…U64`): every operation typed as clang's AST shows for the macro
   expansions in `lp.c` (`clang-14 -Xclang -ast-dump` of wrappers around the real macros):
   * `lid_to_nid(g)` = `(int)((uint64)g * (uint64)(int)n_nodes / lps)`; inside `partition_start` it
     is compared with `(int)(nid + 1)` as **signed 32 bit**;
   * `lid_to_rid(g)` = `(unsigned)((g - lid_node_first) * (uint64)(unsigned)n_threads / n_lps_node)`;
     compared with `(unsigned)(rid + 1)` as **unsigned 32 bit**;
   * `_g` is `lp_id_t` = `uint64_t`: `(uint64)part_id * tot / (uint64)part_cnt + start`, `--_g`,
     `++_g` wrap modulo 2^64.
   The up-loop over `uint64_t` lives in a finite cyclic state space: it scans `g, …, 2^64-1, 0, …,
   g-1` and, if the condition is true everywhere, loops forever: `Err.nonterm`.
-/
namespace RootSim.Place

/-- explicit error results of the placement code -/
inductive Err where
  /-- a division by `part_cnt`, `global_config.lps`, `n_lps_node` or `n_threads` that is zero (SIGFPE) -/
  | divByZero
  /-- `lp_global_init` clamped `n_threads` to 0: `parallel_simulation` starts no worker on this rank -/
  | noThreads
  /-- the `while(part_fnc(_g) < part_id) ++_g;` loop never exits (all 2^64 indexes scanned) -/
  | nonterm
deriving Repr, DecidableEq

def Err.str : Err → String
  | .divByZero => "err:divByZero"
  | .noThreads => "err:noThreads"
  | .nonterm => "err:nonterm"

/-! ## Nat model -/

/-- `lid_to_nid(lp_id)` = `lp_id * n_nodes / global_config.lps` (lp.h) -/
def lidToNid (lps n lp : Nat) : Nat := lp * n / lps

/-- `lid_to_rid(lp_id)` = `(lp_id - lid_node_first) * global_config.n_threads / n_lps_node` (lp.h) -/
def lidToRid (first m t lp : Nat) : Nat := (lp - first) * t / m

/-- first loop of `partition_start`: `while(_g > start_i && COND(_g)) --_g;`
(`c g` is the typed comparison `part_fnc(_g) >= part_id`) -/
def loopDownB (c : Nat → Bool) (start : Nat) : Nat → Nat
  | 0 => 0
  | g + 1 => if start < g + 1 && c (g + 1) then loopDownB c start g else g + 1

/-- exact termination condition of the second loop of `partition_start` over unbounded integers:
above every index there is one where `part_fnc(_g) < part_id` is false -/
def CanExit (fnc : Nat → Nat) (p : Nat) : Prop := ∀ g, ∃ b, g ≤ b ∧ p ≤ fnc b

theorem exists_least {P : Nat → Prop} (h : ∃ b, P b) : ∃ b, P b ∧ ∀ c, P c → b ≤ c := by
  obtain ⟨b, hb⟩ := h
  induction b using Nat.strongRecOn with
  | _ b ih =>
    by_cases hx : ∃ c, c < b ∧ P c
    · obtain ⟨c, hc, hp⟩ := hx
      exact ih c hc hp
    · refine ⟨b, hb, fun c hc => ?_⟩
      apply Nat.le_of_not_lt
      intro hlt
      exact hx ⟨c, hlt, hc⟩

open Classical in
/-- termination measure of `loopUp` (proof-only): distance from `g` to the first exit index -/
noncomputable def exitDist (fnc : Nat → Nat) (p g : Nat) : Nat :=
  if h : ∃ b, g ≤ b ∧ p ≤ fnc b then (exists_least h).choose - g else 0

theorem exit_next {fnc : Nat → Nat} {p g : Nat} (h : ∃ b, g ≤ b ∧ p ≤ fnc b) (hlt : fnc g < p) :
    ∃ b, g + 1 ≤ b ∧ p ≤ fnc b := by
  obtain ⟨b, hb, hp⟩ := h
  exact ⟨b, Nat.lt_of_le_of_ne hb (by rintro rfl; exact Nat.not_le_of_lt hlt hp), hp⟩

theorem exitDist_dec (fnc : Nat → Nat) (p g : Nat) (h : ∃ b, g ≤ b ∧ p ≤ fnc b) (hlt : fnc g < p) :
    exitDist fnc p (g + 1) < exitDist fnc p g := by
  have h' := exit_next h hlt
  unfold exitDist
  rw [dif_pos h, dif_pos h']
  have s := (exists_least h).choose_spec
  have s' := (exists_least h').choose_spec
  generalize (exists_least h).choose = b at s
  generalize (exists_least h').choose = b' at s'
  -- the first exit `b` from `g` is not `g` itself, so it is an exit from `g + 1` and the first such is `b' ≤ b`
  have hgb : g < b := Nat.lt_of_le_of_ne s.1.1 (by rintro rfl; exact Nat.not_le_of_lt hlt s.1.2)
  exact Nat.lt_of_lt_of_le (Nat.sub_succ_lt_self b' g s'.1.1) (Nat.sub_le_sub_right (s'.2 b ⟨hgb, s.1.2⟩) g)

/-- second loop of `partition_start`: `while(part_fnc(_g) < part_id) ++_g;` — well-founded
recursion, no fuel; `h` is the reason why the C loop terminates from `g`. -/
def loopUp (fnc : Nat → Nat) (p g : Nat) (h : ∃ b, g ≤ b ∧ p ≤ fnc b) : Nat :=
  if hlt : fnc g < p then loopUp fnc p (g + 1) (exit_next h hlt) else g
termination_by exitDist fnc p g
decreasing_by exact exitDist_dec fnc p g h hlt

/-- The macro `partition_start(part_id, part_cnt, part_fnc, start_i, tot_i)` of lp.c:
```
lp_id_t _g = part_id * tot_i / part_cnt + start_i;
while(_g > start_i && part_fnc(_g) >= part_id) --_g;
while(part_fnc(_g) < part_id) ++_g;
_g
```
`hc` guards the division, `hx` is the termination condition of the second loop. -/
def partStart (partId partCnt : Nat) (fnc : Nat → Nat) (start tot : Nat)
    (_hc : 0 < partCnt) (hx : CanExit fnc partId) : Nat :=
  let g0 := partId * tot / partCnt + start
  let g1 := loopDownB (fun g => decide (partId ≤ fnc g)) start g0
  loopUp fnc partId g1 (hx g1)

theorem lidToRid_canExit {m t : Nat} (first : Nat) (hm : 0 < m) (ht : 0 < t) (p : Nat) :
    CanExit (lidToRid first m t) p := by
  intro g
  refine ⟨g + first + p * m, Nat.le_trans (Nat.le_add_right g first) (Nat.le_add_right _ _), ?_⟩
  unfold lidToRid
  rw [Nat.le_div_iff_mul_le hm, Nat.add_right_comm, Nat.add_sub_cancel]
  exact Nat.le_trans (Nat.le_add_left _ g) (Nat.le_mul_of_pos_right _ ht)

theorem lidToNid_canExit {lps n : Nat} (hl : 0 < lps) (hn : 0 < n) (p : Nat) :
    CanExit (lidToNid lps n) p :=
  lidToRid_canExit 0 hl hn p

/-- `partition_start(k, n_nodes, lid_to_nid, 0, global_config.lps)`; `lp_global_init` uses it with
`k = nid` (→ `lid_node_first`) and `k = nid + 1`. -/
def nodeFirst (lps n : Nat) (hl : 0 < lps) (hn : 0 < n) (k : Nat) : Nat :=
  partStart k n (lidToNid lps n) 0 lps hn (lidToNid_canExit hl hn k)

/-- `n_lps_node = partition_start(nid + 1, …) - lid_node_first` -/
def nLpsNode (lps n : Nat) (hl : 0 < lps) (hn : 0 < n) (k : Nat) : Nat :=
  nodeFirst lps n hl hn (k + 1) - nodeFirst lps n hl hn k

/-- the clamp of `lp_global_init`: `if(n_lps_node < n_threads) n_threads = n_lps_node;` -/
def clampThreads (t m : Nat) : Nat := if m < t then m else t

/-- `partition_start(r, global_config.n_threads, lid_to_rid, lid_node_first, n_lps_node)`; `lp_init`
uses it with `r = rid` (→ `lid_thread_first`) and `r = rid + 1` (→ `lid_thread_end`). -/
def threadFirst (first m t : Nat) (hm : 0 < m) (ht : 0 < t) (r : Nat) : Nat :=
  partStart r t (lidToRid first m t) first m ht (lidToRid_canExit first hm ht r)

/-- `lid_thread_end` -/
def threadEnd (first m t : Nat) (hm : 0 < m) (ht : 0 < t) (r : Nat) : Nat :=
  threadFirst first m t hm ht (r + 1)

/-- the per-rank globals written by `lp_global_init`:
`lid_node_first`, `n_lps_node`, `global_config.n_threads` (after the clamp) -/
structure NodeCfg where
  first : Nat
  m : Nat
  t : Nat
deriving Repr, DecidableEq

/-- `lp_global_init()` on rank `k` of `n` with `lps` LPs and `t` requested threads.
`RootsimInit` rejects `lps = 0` and MPI gives `n ≥ 1`; otherwise SIGFPE. -/
def lpGlobalInit? (lps n t k : Nat) : Except Err NodeCfg :=
  if h : 0 < lps ∧ 0 < n then
    let m := nLpsNode lps n h.1 h.2 k
    .ok { first := nodeFirst lps n h.1 h.2 k, m := m, t := clampThreads t m }
  else .error .divByZero

/-- range computation of `lp_init()` on thread `r`: `(lid_thread_first, lid_thread_end)`.
`rid * n_lps_node / n_threads` divides by `n_threads`, `lid_to_rid` divides by `n_lps_node`. -/
def lpInit? (c : NodeCfg) (r : Nat) : Except Err (Nat × Nat) :=
  if h : 0 < c.m ∧ 0 < c.t then
    .ok (threadFirst c.first c.m c.t h.1 h.2 r, threadEnd c.first c.m c.t h.1 h.2 r)
  else .error .divByZero

/-- `lid_to_nid` as used by `ScheduleNewEvent` -/
def lidToNid? (lps n lp : Nat) : Except Err Nat :=
  if 0 < lps then .ok (lidToNid lps n lp) else .error .divByZero

/-- `lid_to_rid` as used by `msg_queue_insert` on a rank with globals `c` -/
def lidToRid? (c : NodeCfg) (lp : Nat) : Except Err Nat :=
  if 0 < c.m then .ok (lidToRid c.first c.m c.t lp) else .error .divByZero

/-- What rank `k` does in `parallel_simulation`: `lp_global_init`, then one worker per
`global_config.n_threads` (clamped), each running `lp_init` (and later `lp_fini`) over its range.
Result: the list, indexed by `rid`, of the ranges `[lid_thread_first, lid_thread_end)`.
With `n_lps_node = 0` the clamp gives 0 threads: `thrs[0]`, no `thread_start`, the rank never reaches
`mpi_node_barrier` — `Err.noThreads` (finding F9). -/
def nodeWorkers? (lps n t k : Nat) : Except Err (List (Nat × Nat)) :=
  match lpGlobalInit? lps n t k with
  | .error e => .error e
  | .ok c =>
    if h : 0 < c.m ∧ 0 < c.t then
      .ok ((List.range c.t).map fun r =>
        (threadFirst c.first c.m c.t h.1 h.2 r, threadEnd c.first c.m c.t h.1 h.2 r))
    else if c.t = 0 then .error .noThreads
    else .error .divByZero

/-- `(k, r)` owns `lp`: rank `k` starts a worker `r` whose `lp_init` / `lp_fini` loops (and hence
`process_msg`, which only sees queue `r` of rank `k`) range over an interval containing `lp`. -/
def Owner (lps n t k r lp : Nat) : Prop :=
  ∃ ws, nodeWorkers? lps n t k = .ok ws ∧ ∃ rg, ws[r]? = some rg ∧ rg.1 ≤ lp ∧ lp < rg.2

/-- what the runtime computes to deliver an event to `lp`: `lid_to_nid` in `ScheduleNewEvent`, then
`lid_to_rid` in `msg_queue_insert` on the destination rank (with that rank's globals). -/
def route (lps n t lp : Nat) : Except Err (Nat × Nat) :=
  match lidToNid? lps n lp with
  | .error e => .error e
  | .ok k =>
    match lpGlobalInit? lps n t k with
    | .error e => .error e
    | .ok c =>
      match lidToRid? c lp with
      | .error e => .error e
      | .ok r => .ok (k, r)

/-! ## Fixed-width model -/

/-- value of a `uint64_t` expression -/
def wrap64 (x : Nat) : Nat := x % 2 ^ 64
/-- value of an `unsigned` expression -/
def wrap32 (x : Nat) : Nat := x % 2 ^ 32

/-- `(uint64_t)(int)x` for the 32-bit pattern `x`: sign extension -/
def sext32 (x : Nat) : Nat :=
  let y := x % 2 ^ 32
  if y < 2 ^ 31 then y else y + (2 ^ 64 - 2 ^ 32)

/-- `(int)x` for a `uint64_t` (gcc/clang: reduce modulo 2^32 into the signed range) -/
def toI32 (x : Nat) : Int :=
  let y : Nat := x % 2 ^ 32
  if y < 2 ^ 31 then Int.ofNat y else Int.ofNat y - 2 ^ 32

/-- `lid_to_nid(lp)` typed: `(nid_t)((lp) * (uint64_t)n_nodes / global_config.lps)`;
`n` is the 32-bit pattern of the `int n_nodes`. Caller guards `lps ≠ 0`. -/
def lidToNidU64 (lps n lp : Nat) : Int :=
  toI32 (wrap64 (wrap64 lp * sext32 n) / wrap64 lps)

/-- `lid_to_rid(lp)` typed:
`(rid_t)(((lp) - lid_node_first) * (uint64_t)global_config.n_threads / n_lps_node)`.
Caller guards `m ≠ 0`. -/
def lidToRidU64 (first m t lp : Nat) : Nat :=
  wrap32 (wrap64 (wrap64 (wrap64 lp + 2 ^ 64 - wrap64 first) * wrap32 t) / wrap64 m)

/-- scan `g, g+1, …, lim-1` while `c` holds: first index where it fails, `none` if `lim` is reached -/
def scanUp (c : Nat → Bool) (lim g : Nat) : Option Nat :=
  if g < lim then (if c g then scanUp c lim (g + 1) else some g) else none
termination_by lim - g

/-- second loop of `partition_start` over `uint64_t`: `while(COND(_g)) ++_g;` with wrap-around.
Scans `g … 2^64-1`, then `0 … g-1`; if `COND` holds on all 2^64 values the C loop never exits. -/
def loopUpU64 (c : Nat → Bool) (g : Nat) : Except Err Nat :=
  match scanUp c (2 ^ 64) g with
  | some r => .ok r
  | none =>
    match scanUp c g 0 with
    | some r => .ok r
    | none => .error .nonterm

/-- `partition_start` typed. `p` is the value of `(part_id)` in its own type (compared with
`part_fnc(_g)` in that type: both `int` for nodes, both `unsigned` for threads), `pid64`/`cnt64` are
`(uint64_t)(part_id)` / `(uint64_t)(part_cnt)` as converted for the initial guess. -/
def partStartU64 (p : Int) (pid64 cnt64 : Nat) (fnc : Nat → Int) (start tot : Nat) : Except Err Nat :=
  if cnt64 = 0 then .error .divByZero
  else
    let g0 := wrap64 (wrap64 (pid64 * wrap64 tot) / cnt64 + wrap64 start)
    let g1 := loopDownB (fun g => decide (p ≤ fnc g)) (wrap64 start) g0
    loopUpU64 (fun g => decide (fnc g < p)) g1

/-- `partition_start(k, n_nodes, lid_to_nid, 0, global_config.lps)` typed; `k`, `n` are the 32-bit
patterns of the `int`s `nid` / `nid + 1` and `n_nodes`. -/
def nodeFirstU64 (lps n k : Nat) : Except Err Nat :=
  if wrap64 lps = 0 then .error .divByZero
  else partStartU64 (toI32 k) (sext32 k) (sext32 n) (lidToNidU64 lps n) 0 lps

/-- `lp_global_init` typed (the `unsigned` assignment `n_threads = n_lps_node` truncates) -/
def lpGlobalInitU64 (lps n t k : Nat) : Except Err NodeCfg :=
  match nodeFirstU64 lps n k with
  | .error e => .error e
  | .ok first =>
    match nodeFirstU64 lps n (k + 1) with
    | .error e => .error e
    | .ok e =>
      let m := wrap64 (e + 2 ^ 64 - first)
      .ok { first := first, m := m, t := if m < wrap32 t then wrap32 m else wrap32 t }

/-- `partition_start(r, global_config.n_threads, lid_to_rid, lid_node_first, n_lps_node)` typed;
`r` is the value of the `unsigned` `rid` / `rid + 1`. -/
def threadFirstU64 (first m t r : Nat) : Except Err Nat :=
  if wrap32 t = 0 ∨ wrap64 m = 0 then .error .divByZero
  else partStartU64 (Int.ofNat (wrap32 r)) (wrap32 r) (wrap32 t)
    (fun g => Int.ofNat (lidToRidU64 first m t g)) first m

/-- range computation of `lp_init` typed -/
def lpInitU64 (c : NodeCfg) (r : Nat) : Except Err (Nat × Nat) :=
  match threadFirstU64 c.first c.m c.t r with
  | .error e => .error e
  | .ok a =>
    match threadFirstU64 c.first c.m c.t (r + 1) with
    | .error e => .error e
    | .ok b => .ok (a, b)

def lidToNidU64? (lps n lp : Nat) : Except Err Int :=
  if wrap64 lps = 0 then .error .divByZero else .ok (lidToNidU64 lps n lp)

def lidToRidU64? (c : NodeCfg) (lp : Nat) : Except Err Nat :=
  if wrap64 c.m = 0 then .error .divByZero else .ok (lidToRidU64 c.first c.m c.t lp)

end RootSim.Place
