import RootSim.Model.TimeWarp
/-!
# The global Time Warp machine with a GHOST CREATION ORDER (identity-respecting cancellation)

`Model/TimeWarp.lean` identifies messages by CONTENT: an anti-message may meet any message of equal content.
Under the strict contract `Spec.V2s` this over-approximation is harmless (`Props/C01Glue.lean`). Under the
runtime's real contract `Spec.V2` it is NOT: an event may schedule an incomparable simultaneous event, a
chain of such events can produce a DESCENDANT of a message that has the content of the message itself, and
the content-level machine may cancel the descendant instead of the message, which leaves a self-justifying
cycle of processed events (`Props/C01GlueV2.lean: tw_V2_counterexample`). The code never does this: it
matches an anti-message with its message by pointer (local, `MSG_FLAG_ANTI` on the shared `struct lp_msg`)
or by `(m_id, m_seq)` (remote; `handle_remote_anti_msg`, `check_early_anti_messages` of `src/lp/process.c`).

This file is the same transition system, instrumented with real time:

* a global step counter `now` (incremented by every `exec`);
* every message carries `cr`, the step of the handler invocation that created it (`LP_INIT`: step 0);
* every processed entry carries `cr` of its message and `pr`, the step at which it was processed;
* the anti-message for a message carries the message's content AND its `cr`; `annihilate` / `antiRollback`
  need an anti-message that is EQUAL to the message, tag included.

Two messages with equal content created by the SAME invocation remain interchangeable (coarser than the
code's pointers / ids, finer than content): every behaviour of the code is a behaviour of this machine, and
every behaviour of this machine is one of the content-level machine (`Proofs/TimeWarpGProj.lean: proj_reachable`).
Erasing the tags gives the state of `Model/TimeWarp.lean` (`TWG.proj`).
-/
namespace RootSim

/-- a message: content + the step at which it was created -/
structure TMsg where
  ev : Event
  cr : Nat
deriving Repr, DecidableEq

/-- a processed entry: content + creation step of its message + the step at which it was processed -/
structure TEntry where
  ev : Event
  cr : Nat
  pr : Nat
deriving Repr, DecidableEq

/-- the message an entry was made from (what is re-queued when the entry is undone) -/
def TEntry.msg (u : TEntry) : TMsg := { ev := u.ev, cr := u.cr }

structure TWGState where
  past    : Nat → List TEntry
  pending : List TMsg
  antis   : List TMsg
  /-- the next step number -/
  now     : Nat

namespace TWG
open RootSim.Spec RootSim.TW

variable {σ : Type}

/-- the contents of a list of entries -/
def evs (l : List TEntry) : List Event := l.map TEntry.ev

/-- the messages scheduled by LP `ℓ` while processing the entries `l` from state `s`, each tagged with the
step of the invocation that scheduled it -/
def toutsFrom (M : SimModel σ) (ℓ : Nat) : σ → List TEntry → List TMsg
  | _, [] => []
  | s, u :: l =>
    (M.handler ℓ s u.ev).2.map (fun o => { ev := o, cr := u.pr }) ++
      toutsFrom M ℓ (M.handler ℓ s u.ev).1 l

def touts (M : SimModel σ) (ℓ : Nat) (l : List TEntry) : List TMsg := toutsFrom M ℓ (M.init ℓ) l

def toutsAll (M : SimModel σ) (D : Nat → List TEntry) : List TMsg :=
  (List.range M.nLps).flatMap (fun ℓ => touts M ℓ (D ℓ))

/-- the `LP_INIT` entry: created and processed at step 0 -/
def initEntry (ℓ : Nat) : TEntry := { ev := initEv ℓ, cr := 0, pr := 0 }

def initPast (M : SimModel σ) : Nat → List TEntry := fun ℓ => if ℓ < M.nLps then [initEntry ℓ] else []

def init (M : SimModel σ) : TWGState :=
  { past := initPast M, pending := toutsAll M (initPast M), antis := [], now := 1 }

/-- number of entries `match_straggler_msg` keeps (`TW.splitUndo` on the contents) -/
def keepLen (e : Event) (T : List TEntry) : Nat := (splitUndo e (evs T)).1.length

def keepG (e : Event) (h : TEntry) (T : List TEntry) : List TEntry := h :: T.take (keepLen e T)

def undoG (e : Event) (T : List TEntry) : List TEntry := T.drop (keepLen e T)

/-- `exec ℓ m` on a state whose LP `ℓ` has the history `h :: T` (cf. `TW.execResult`): the new entry is
processed at step `now`, what it schedules is created at step `now`; the undone entries are re-queued with
their creation steps, the anti-messages carry the steps of the undone invocations -/
def execResult (M : SimModel σ) (s : TWGState) (ℓ : Nat) (m : TMsg) (h : TEntry) (T : List TEntry) :
    TWGState :=
  { past    := upd s.past ℓ (keepG m.ev h T ++ [{ ev := m.ev, cr := m.cr, pr := s.now }])
    pending := s.pending.erase m ++ (undoG m.ev T).map TEntry.msg ++
                 (M.handler ℓ (lpState M ℓ (evs (keepG m.ev h T))) m.ev).2.map
                   (fun o => { ev := o, cr := s.now })
    antis   := s.antis ++ toutsFrom M ℓ (lpState M ℓ (evs (keepG m.ev h T))) (undoG m.ev T)
    now     := s.now + 1 }

def annihilateResult (s : TWGState) (m : TMsg) : TWGState :=
  { s with pending := s.pending.erase m, antis := s.antis.erase m }

/-- `antiRollback ℓ o` on a state whose LP `ℓ` has the history `K ++ o :: U` (cf. `TW.antiRollbackResult`) -/
def antiRollbackResult (M : SimModel σ) (s : TWGState) (ℓ : Nat) (o : TEntry) (K U : List TEntry) :
    TWGState :=
  { s with
    past    := upd s.past ℓ K
    pending := s.pending ++ U.map TEntry.msg
    antis   := s.antis.erase o.msg ++ toutsFrom M ℓ (lpState M ℓ (evs K)) (o :: U) }

inductive Step (M : SimModel σ) : TWGState → TWGState → Prop
  | exec (s : TWGState) (ℓ : Nat) (m : TMsg) (h : TEntry) (T : List TEntry)
      (hmem : m ∈ s.pending) (hdest : m.ev.dest = ℓ) (hℓ : ℓ < M.nLps) (htype : m.ev.type < LP_INIT)
      (hpast : s.past ℓ = h :: T) :
      Step M s (execResult M s ℓ m h T)
  | annihilate (s : TWGState) (m : TMsg) (hp : m ∈ s.pending) (ha : m ∈ s.antis) :
      Step M s (annihilateResult s m)
  /-- the anti-message of the processed entry `o` itself (same content, same creation step) -/
  | antiRollback (s : TWGState) (ℓ : Nat) (o : TEntry) (K U : List TEntry)
      (ha : o.msg ∈ s.antis) (hpast : s.past ℓ = K ++ o :: U) (hK : K ≠ []) :
      Step M s (antiRollbackResult M s ℓ o K U)

inductive Reachable (M : SimModel σ) : TWGState → Prop
  | init : Reachable M (init M)
  | step {s s' : TWGState} : Reachable M s → Step M s s' → Reachable M s'

/-- erase the ghost fields: the state of the content-level machine -/
def proj (s : TWGState) : TWState :=
  { past := fun ℓ => evs (s.past ℓ), pending := s.pending.map TMsg.ev, antis := s.antis.map TMsg.ev }

/-! ### Executable step functions -/

def exec? (M : SimModel σ) (s : TWGState) (ℓ : Nat) (m : TMsg) : Option TWGState :=
  if m ∈ s.pending ∧ m.ev.dest = ℓ ∧ ℓ < M.nLps ∧ m.ev.type < LP_INIT then
    match s.past ℓ with
    | [] => none
    | h :: T => some (execResult M s ℓ m h T)
  else none

def annihilate? (s : TWGState) (m : TMsg) : Option TWGState :=
  if m ∈ s.pending ∧ m ∈ s.antis then some (annihilateResult s m) else none

def antiRollback? (M : SimModel σ) (s : TWGState) (ℓ i : Nat) : Option TWGState :=
  match (s.past ℓ)[i]? with
  | none => none
  | some o =>
    if 0 < i ∧ o.msg ∈ s.antis then
      some (antiRollbackResult M s ℓ o ((s.past ℓ).take i) ((s.past ℓ).drop (i + 1)))
    else none

/-- the actions, as data (a message is named by content and creation step) -/
inductive Action where
  | exec (ℓ : Nat) (e : Event) (cr : Nat)
  | annihilate (e : Event) (cr : Nat)
  | antiRollback (ℓ i : Nat)
deriving Repr, DecidableEq

def step? (M : SimModel σ) (s : TWGState) : Action → Option TWGState
  | .exec ℓ e c => exec? M s ℓ { ev := e, cr := c }
  | .annihilate e c => annihilate? s { ev := e, cr := c }
  | .antiRollback ℓ i => antiRollback? M s ℓ i

def run? (M : SimModel σ) : TWGState → List Action → Option TWGState
  | s, [] => some s
  | s, a :: as => match step? M s a with
    | none => none
    | some s' => run? M s' as

/-- a lower bound of the time stamps of everything pending and of all anti-messages -/
def lowerBound (s : TWGState) (g : Nat) : Bool :=
  s.pending.all (fun x => decide (g ≤ x.ev.t)) && s.antis.all (fun x => decide (g ≤ x.ev.t))

end TWG
end RootSim
