/-!
# Model of the thread level of the GVT reduction (`src/gvt/gvt.c`, property C04)

`gvt_thread_phase_run` (phases A, B, C, D with the shared counters `c_a`, `c_b`),
`gvt_start_processing`, `gvt_on_msg_extraction`, and the abstract view of the per-thread message
queue that `msg_queue_time_peek` / `msg_queue_extract` / `msg_queue_insert` give
(`src/datatypes/msg_queue.c`): `pending` is everything that has been inserted for the thread and
not yet extracted (public buffer + private heap; `msg_queue_time_peek` first moves the buffer into
the heap, so it sees all of it — that the concrete queue implements this is property C15).

`N` worker threads (`N = ths.length`, any `N`). Every step performs at most one access to shared
memory, steps of different threads interleave arbitrarily; the C11 `memory_order` annotations
are NOT modelled (sequentially consistent interleaving of the individual atomic accesses).
The message steps (`extract`, `emit`, `finish`) may happen at any time on any thread regardless of
its phase — an over-approximation of the worker loop, which interleaves 64 `process_msg` calls with
one `gvt_phase_run` call. The only coupling kept is the one the code really has: `gvt_phase_run` is
never called from inside `process_msg`, so a thread *starts* a round only between two messages
(`cur = none`).

Time stamps are keys (`Model/Msg.lean`): `Nat`, `SIMTIME_MAX ↦ INF`.
Ghost fields (`rd`, `wr`, `last`, `log`) do not influence the non-ghost fields.
-/
namespace RootSim.Gvt

/-- key of `SIMTIME_MAX` -/
def INF : Nat := 0x7FEFFFFFFFFFFFFF
/-- 2^32: `c_a`, `c_b` are `_Atomic rid_t` (= `unsigned`) -/
def W32 : Nat := 4294967296

/-- `enum thread_phase` -/
inductive Phase where
  | idle | A | B | C | D
deriving DecidableEq, Repr

/-- per-thread state -/
structure Th where
  /-- `thread_phase` -/
  phase   : Phase := .idle
  /-- `gvt_accumulator` -/
  acc     : Nat := 0
  /-- time stamps of the messages queued for this thread (buffer + heap) -/
  pending : List Nat := []
  /-- time stamp of the message being processed (extracted, accumulator already lowered) -/
  cur     : Option Nat := none
  /-- `reducing_p[rid]` -/
  r       : Nat := 0
  /-- ghost: number of completed rounds (phase-D steps) -/
  rd      : Nat := 0
  /-- ghost: number of phase-C steps (writes of `reducing_p[rid]`) -/
  wr      : Nat := 0
deriving DecidableEq, Repr

structure St where
  ths  : List Th
  /-- `c_a` -/
  ca   : Nat := 0
  /-- `c_b` -/
  cb   : Nat := 0
  /-- ghost: the value most recently read by a thread leaving phase D -/
  last : Nat := 0
  /-- ghost: every `(round, value)` read so far, newest first -/
  log  : List (Nat × Nat) := []
deriving DecidableEq, Repr

def St.init (n : Nat) : St := { ths := List.replicate n {} }

/-- fold of C's `min` macro over a non-empty array: `gvt_node_reduce` (and the heap minimum) -/
def minL : List Nat → Nat
  | [] => INF
  | x :: xs => xs.foldl min x

/-- `msg_queue_time_peek()`: lowest queued time stamp, `SIMTIME_MAX` if nothing is queued -/
def peek (p : List Nat) : Nat := minL p

/-- `gvt_node_reduce()` over the `reducing_p` slots of all threads: the value a thread reads when
it leaves phase D (thread-level view) -/
def gmin (s : St) : Nat := minL (s.ths.map (·.r))

inductive Act where
  /-- `gvt_start_processing()`: `idle → A`, `gvt_accumulator = SIMTIME_MAX`. In `gvt_phase_run` an
      idle thread does this when it sees `c_b ≠ 0`; thread 0 also when the timer fires. -/
  | start (i : Nat)
  | phaseA (i : Nat)
  | phaseB (i : Nat)
  | phaseC (i : Nat)
  | phaseD (i : Nat)
  /-- `msg_queue_extract` + `gvt_on_msg_extraction`: take the `k`-th queued message -/
  | extract (i k : Nat)
  /-- `msg_queue_insert` by thread `i` into the queue of thread `u` of a message with time stamp `x`
      (new event, re-queued event after a rollback, or anti-message) -/
  | emit (i u x : Nat)
  /-- `process_msg` returns -/
  | finish (i : Nat)
deriving DecidableEq, Repr

/-- One atomic step; `none` = the action is not enabled (guard false / thread does not exist). -/
def step (s : St) : Act → Option St
  | .start i =>
    match s.ths[i]? with
    | none => none
    | some t =>
      if t.phase = .idle ∧ t.cur = none ∧ (i = 0 ∨ s.cb ≠ 0) then
        some { s with ths := s.ths.set i { t with phase := .A, acc := INF } }
      else none
  | .phaseA i =>
    match s.ths[i]? with
    | none => none
    | some t =>
      if t.phase = .A ∧ s.ca = 0 then          -- if(atomic_load(&c_a)) break;
        some { s with
          ths := s.ths.set i { t with acc := min t.acc (peek t.pending), phase := .B }
          cb := (s.cb + 1) % W32 }
      else none
  | .phaseB i =>
    match s.ths[i]? with
    | none => none
    | some t =>
      if t.phase = .B ∧ s.cb = s.ths.length then   -- if(c_b != n_threads) break;
        some { s with ths := s.ths.set i { t with phase := .C }, ca := (s.ca + 1) % W32 }
      else none
  | .phaseC i =>
    match s.ths[i]? with
    | none => none
    | some t =>
      if t.phase = .C ∧ s.ca = s.ths.length then   -- if(c_a != n_threads) break;
        some { s with
          ths := s.ths.set i { t with r := min t.acc (peek t.pending), phase := .D, wr := t.wr + 1 }
          cb := (s.cb + W32 - 1) % W32 }
      else none
  | .phaseD i =>
    match s.ths[i]? with
    | none => none
    | some t =>
      if t.phase = .D ∧ s.cb = 0 then              -- if(atomic_load(&c_b)) break;
        some { s with
          ths := s.ths.set i { t with phase := .idle, rd := t.rd + 1 }
          ca := (s.ca + W32 - 1) % W32
          last := gmin s
          log := (t.rd, gmin s) :: s.log }
      else none
  | .extract i k =>
    match s.ths[i]? with
    | none => none
    | some t =>
      match t.cur, t.pending[k]? with
      | none, some e =>
        some { s with
          ths := s.ths.set i { t with pending := t.pending.eraseIdx k, acc := min t.acc e, cur := some e } }
      | _, _ => none
  | .emit i u x =>
    match s.ths[i]?, s.ths[u]? with
    | some t, some tu =>
      match t.cur with
      | some c =>
        if c ≤ x then some { s with ths := s.ths.set u { tu with pending := x :: tu.pending } }
        else none
      | none => none
    | _, _ => none
  | .finish i =>
    match s.ths[i]? with
    | none => none
    | some t =>
      match t.cur with
      | some _ => some { s with ths := s.ths.set i { t with cur := none } }
      | none => none

/-- run a schedule, `none` at the first action that is not enabled -/
def run (s : St) : List Act → Option St
  | [] => some s
  | a :: as => match step s a with
    | none => none
    | some s' => run s' as

/-- states reachable from `s0` -/
inductive Reach (s0 : St) : St → Prop where
  | init : Reach s0 s0
  | step {s s' : St} {a : Act} : Reach s0 s → step s a = some s' → Reach s0 s'

end RootSim.Gvt
