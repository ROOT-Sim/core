import RootSim.Model.SeqSpec
import RootSim.Model.Heap
/-!
Model of the serial runtime `src/serial/serial.c`, step by step, on the verbatim heap of `Model/Heap.lean`
with the comparator `msg_is_before` (`isBefore`).

* `serialInitLp`, `serialInitLoop` — `serial_simulation_init`: for each LP in order: pack an `LP_INIT` message at `t = 0.0`,
  `heap_insert` it, dispatch THAT message (`common_msg_process(lp, msg)`), then `heap_extract` the ROOT and
  free it.  The root is the `LP_INIT` message only if nothing scheduled so far is before it.
* `serialMain`  — `serial_simulation_run`: while the queue is not empty: dispatch `heap_min(queue)`;
  termination bookkeeping (`termination_t < 0 && committed(...)`, `--to_terminate`, `break` at 0); timer
  oracle (`break` iff `dest_t >= termination_time`); then `heap_extract` the ROOT and free it.  The root is
  the dispatched message only if the handler scheduled nothing that is before it (contract V2).
* `ScheduleNewEvent_serial` — `scheduleAll`: `msg_allocator_pack`, `raw_flags = 0`, `heap_insert`
  (the `NDEBUG` build: no "message in the PAST" abort).
* `serial_simulation_fini` — `LP_FINI` for every LP.

Every allocated message gets a fresh ordinal in `mSeq` (a field the order ignores and the serial runtime never
reads): it plays the role of the pointer identity.  If `heap_extract` returns a message other than the one
just dispatched the run ends with `Outcome.wrongExtract` (in C: the wrong message is freed and the dispatched
one stays queued and is dispatched again) — an explicit error outcome.

`global_config.termination_time` as used by serial.c (i.e. after `init.c` replaced `0` by `SIMTIME_MAX`)
is given by its key `termT`; `timer k` is the wall-clock test of iteration `k`.
-/
namespace RootSim
open RootSim.Heap

/-- `msg_allocator_pack(dest, t, type, payload, size); msg->raw_flags = 0;` with allocation ordinal `k` -/
def packMsg (e : Event) (k : Nat) : Msg := { e.toMsg with mSeq := k }

structure SerialSt (σ : Type) where
  /-- `queue` -/
  queue       : Array Msg
  /-- `lps[i].state_pointer` (the model state behind it) -/
  states      : List σ
  /-- `lps[i].termination_t >= 0` -/
  ended       : List Bool
  /-- `to_terminate` -/
  toTerminate : Nat
  /-- number of messages allocated so far -/
  nextSeq     : Nat
  /-- dispatcher invocations so far, latest first -/
  traceRev    : List Event

/-- the `ScheduleNewEvent_serial` calls of one handler invocation, in call order -/
def scheduleAll (q : Array Msg) (k : Nat) : List Event → Array Msg × Nat
  | [] => (q, k)
  | o :: os => scheduleAll (heapInsert isBefore q (packMsg o k)).1 (k + 1) os

/-- one iteration of the `for` loop of `serial_simulation_init` -/
def serialInitLp {σ : Type} (M : SimModel σ) (S : SerialSt σ) (lp : Nat) : Except Outcome (SerialSt σ) :=
  let msg := packMsg (initEvent lp) S.nextSeq
  let q0 := (heapInsert isBefore S.queue msg).1
  -- common_msg_process(lp, msg): state_pointer is NULL, i.e. the LP's initial state
  let r := M.handler lp (M.init lp) msg.toEvent
  let sch := scheduleAll q0 (S.nextSeq + 1) r.2
  -- msg_allocator_free(heap_extract(queue, msg_is_before))
  match heapExtract isBefore sch.1 with
  | none => .error .emptyExtract
  | some (x, q2) =>
    if x.mSeq = msg.mSeq then
      .ok { S with queue := q2, states := S.states.set lp r.1, nextSeq := sch.2,
                   traceRev := msg.toEvent :: S.traceRev }
    else .error (.wrongExtract msg.mSeq x.mSeq)

def serialInitLoop {σ : Type} (M : SimModel σ) : List Nat → SerialSt σ → Except (SerialSt σ × Outcome) (SerialSt σ)
  | [], S => .ok S
  | lp :: rest, S =>
    match serialInitLp M S lp with
    | .ok S' => serialInitLoop M rest S'
    | .error o => .error (S, o)

/-- state at the entry of `serial_simulation_init`'s loop -/
def serialSt0 {σ : Type} (M : SimModel σ) : SerialSt σ :=
  { queue := #[], states := (List.range M.nLps).map M.init, ended := List.replicate M.nLps false,
    toTerminate := M.nLps, nextSeq := 0, traceRev := [] }

/-- `serial_simulation_run`: `fuel` bounds the number of iterations of the executable model, `k` is the
iteration number (index into the timer oracle) -/
def serialMain {σ : Type} (M : SimModel σ) (termT : Nat) (timer : Nat → Bool) :
    Nat → Nat → SerialSt σ → SerialSt σ × Outcome
  | 0, _, S => (S, .outOfFuel)
  | fuel + 1, k, S =>
    -- while(!heap_is_empty(queue)) { msg = heap_min(queue);
    match heapMin S.queue with
    | none => (S, .finished)
    | some msg =>
      -- lp = &lps[msg->dest]
      match S.states[msg.dest]?, S.ended[msg.dest]? with
      | some s, some b =>
        -- common_msg_process(lp, msg)
        let e := msg.toEvent
        let r := M.handler msg.dest s e
        let sch := scheduleAll S.queue S.nextSeq r.2
        let states1 := S.states.set msg.dest r.1
        -- if(lp->termination_t < 0 && committed(msg->dest, lp->state_pointer))
        let newly := !b && M.canEnd msg.dest r.1
        let ended1 := if newly then S.ended.set msg.dest true else S.ended
        let left1 := if newly then S.toTerminate - 1 else S.toTerminate
        let S1 : SerialSt σ :=
          { queue := sch.1, states := states1, ended := ended1, toTerminate := left1, nextSeq := sch.2,
            traceRev := e :: S.traceRev }
        -- if(!--to_terminate) break;
        if newly && left1 == 0 then (S1, .finished)
        -- if(gvt_period <= timer_value(last_vt)) { if(msg->dest_t >= termination_time) break; ... }
        else if timer k && decide (termT ≤ msg.destT) then (S1, .finished)
        else
          -- msg_allocator_free(heap_extract(queue, msg_is_before));
          match heapExtract isBefore sch.1 with
          | none => (S1, .emptyExtract)
          | some (x, q2) =>
            if x.mSeq = msg.mSeq then serialMain M termT timer fuel (k + 1) { S1 with queue := q2 }
            else (S1, .wrongExtract msg.mSeq x.mSeq)
      | _, _ => (S, .badDest msg.dest)

/-- `serial_simulation()`: init, run, fini.  Returns every dispatcher invocation and the final LP states. -/
def serialRun {σ : Type} (M : SimModel σ) (termT : Nat) (timer : Nat → Bool) (fuel : Nat) : RunResult σ :=
  match serialInitLoop M (List.range M.nLps) (serialSt0 M) with
  | .error (S, o) => { trace := S.traceRev.reverse, states := S.states, outcome := o }
  | .ok S0 =>
    match serialMain M termT timer fuel 0 S0 with
    | (S, .finished) =>
      { trace := S.traceRev.reverse ++ finiTrace M, states := finiStates M S.states, outcome := .finished }
    | (S, o) => { trace := S.traceRev.reverse, states := S.states, outcome := o }

end RootSim
